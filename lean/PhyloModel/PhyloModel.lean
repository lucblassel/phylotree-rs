import PhyloModel.Arena.Basic
import PhyloModel.Arena.Below
import PhyloModel.Arena.Compress
import PhyloModel.Arena.Compress2
import PhyloModel.Arena.Compress3
import PhyloModel.Arena.Group
import PhyloModel.Arena.EditFx
import PhyloModel.Arena.Lca
import PhyloModel.Arena.Path
import PhyloModel.Arena.Prune
import PhyloModel.Arena.PruneB
import PhyloModel.Arena.PruneBTop
import PhyloModel.Arena.PruneTop
import PhyloModel.Arena.Rep
import PhyloModel.Arena.Reset
import PhyloModel.Arena.ResetTop
import PhyloModel.Arena.DistInsert
import PhyloModel.Dist.Basic
import PhyloModel.Dist.BottomUp
import PhyloModel.Dist.CompressPathLen
import PhyloModel.Dist.CompressReach
import PhyloModel.Dist.Keys
import PhyloModel.Dist.Lemmas
import PhyloModel.Dist.RecWalkDefs
import PhyloModel.Dist.Taxa
import PhyloModel.Dist.Tree
import PhyloModel.Dist.WalkExample
import PhyloModel.Misc.BfsDepthSorted
import PhyloModel.Misc.FormatStrip
import PhyloModel.Misc.GeneratorEte3
import PhyloModel.Misc.ListLemmas
import PhyloModel.Misc.MatrixStore
import PhyloModel.Misc.PhylipStrings
import PhyloModel.Misc.PreorderRefinement
import PhyloModel.Misc.Sackin
import PhyloModel.Misc.TriIndex
import PhyloModel.Newick.Basic
import PhyloModel.Newick.Build
import PhyloModel.Newick.BuildLayout
import PhyloModel.Newick.Layout
import PhyloModel.Newick.Main
import PhyloModel.Newick.Names
import PhyloModel.Newick.Names2
import PhyloModel.Newick.Domain
import PhyloModel.Newick.RoundTrip
import PhyloModel.Newick.Top
import PhyloModel.Newick.Tree
import PhyloModel.Newick.WF
import PhyloModel.Newick.WF3
import PhyloModel.Split.Basic
import PhyloModel.Split.Rooted
import PhyloModel.Upgma.Basic
import PhyloModel.Upgma.Step
import PhyloModel.Props.C01
import PhyloModel.Props.C02
import PhyloModel.Props.C03
import PhyloModel.Props.C03Protocol
import PhyloModel.Props.C03Observers
import PhyloModel.Props.C04
import PhyloModel.Link.Example
import PhyloModel.Props.C04Link
import PhyloModel.Props.C04More
import PhyloModel.Props.C05
import PhyloModel.Props.C05Inv
import PhyloModel.Props.C05Arena
import PhyloModel.Props.C06
import PhyloModel.Props.C06Inv
import PhyloModel.Props.C07
import PhyloModel.Props.C07Inv
import PhyloModel.Props.C08
import PhyloModel.Props.C08Walk
import PhyloModel.Props.C09
import PhyloModel.Props.C09Pub
import PhyloModel.Props.C10
import PhyloModel.Props.C11
import PhyloModel.Props.C12
import PhyloModel.Props.C12Stats
import PhyloModel.Props.C12Norm
import PhyloModel.Props.C13
import PhyloModel.Props.C14
import PhyloModel.Props.C15
import PhyloModel.Props.C15Det
import PhyloModel.Props.C15Clamp
import PhyloModel.Props.C15Arena
import PhyloModel.Props.C16
import PhyloModel.Props.C16Source
import PhyloModel.Props.C17
import PhyloModel.Props.C17Cat
import PhyloModel.Props.C18
import PhyloModel.Props.C18Report
import PhyloModel.Props.C19
import PhyloModel.Props.C19Coords
import PhyloModel.Props.C20
import PhyloModel.Split.ArenaReorder
import PhyloModel.Split.ArenaRescale
import PhyloModel.Split.ArenaCompress
import PhyloModel.Split.ArenaRename
import PhyloModel.Split.ArenaExamples
