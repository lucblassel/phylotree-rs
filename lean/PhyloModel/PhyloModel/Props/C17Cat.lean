import PhyloModel.Misc.GenNames
import PhyloModel.Misc.GenTreeInv
import PhyloModel.Misc.Caterpillar
import PhyloModel.Props.C17
/-! # C17 — tip names of the random generators, and the caterpillar

* `ete3_names`, `yule_names`: for every oracle, the naming pass numbers exactly the childless slots with
  `0 … n-1`, bijectively (`GEN.NamesOK`, spelled out by `NamesOK.name_unique`, `.slot_unique`, `.named_is_tip`,
  `.number_used`, `.tip_named`).
* `ete3_is_tree`, `yule_is_tree`: the child lists form a rooted tree (`GEN.GTree`: acyclic, connected,
  one parent per non-root slot) — `GInv` has only the counts and the binary shape.
* `GEN.caterpillar n` (the list of `(parent, tip number)` per slot after the root, in creation order) is
  replayable by `add_child` (`caterpillar_replays`), has `2n-1` slots, the tips `Tip_1 … Tip_n`; the tree it
  describes (`GEN.treeOf`, generic in the parent list and faithful to the replayed arena: `treeOf_faithful`)
  is the comb: every internal node has two kids one of which is a tip, Colless index `(n-1)(n-2)/2`
  (`AR.collessR`, the textbook definition used for C12), which is the maximum over binary trees
  (`colless_le_max`). -/
namespace C17
open GEN

/-- ETE3-like generator: for EVERY sequence of front/back choices, the final deque numbering names exactly the
    tips (childless slots) `Tip_0 … Tip_{n-1}`, bijectively; internal nodes stay unnamed -/
theorem ete3_names (bs : List Bool) :
    ∃ s, runG init bs = some s ∧ GInv s bs.length ∧ NamesOK s (namesByDeque s) (bs.length + 1) := by
  obtain ⟨s, h1, h2⟩ := ete3_valid bs
  exact ⟨s, h1, h2, namesByDeque_ok h2⟩

/-- Yule generator: for EVERY sequence of valid candidate choices, numbering the leaves in arena order names
    exactly the tips `Tip_0 … Tip_{n-1}`, bijectively, increasing with the slot -/
theorem yule_names (ks : List Nat) (hks : ∀ (i : Nat) (hi : i < ks.length), ks[i] ≤ i) :
    ∃ s, runY init ks = some s ∧ GInv s ks.length ∧ NamesOK s (namesByArena s) (ks.length + 1) ∧
      ((namesByArena s).map Prod.fst).Pairwise (· < ·) := by
  obtain ⟨s, h1, h2⟩ := yule_valid ks init 0 ginv_init (by simpa using hks)
  have h2' : GInv s ks.length := by simpa using h2
  exact ⟨s, h1, h2', namesByArena_ok h2', namesByArena_sorted s⟩

/-- ETE3-like generator: for every oracle the child lists form a rooted tree with root `0` (children are
    later slots than their parent, every other slot has exactly one parent) -/
theorem ete3_is_tree (bs : List Bool) : ∃ s, runG init bs = some s ∧ GInv s bs.length ∧ GTree s := by
  obtain ⟨s, h1, h2⟩ := ete3_valid bs
  exact ⟨s, h1, h2, runG_gtree bs init 0 ginv_init gtree_init s h1⟩

/-- Yule generator: the same -/
theorem yule_is_tree (ks : List Nat) (hks : ∀ (i : Nat) (hi : i < ks.length), ks[i] ≤ i) :
    ∃ s, runY init ks = some s ∧ GInv s ks.length ∧ GTree s := by
  obtain ⟨s, h1, h2⟩ := yule_valid ks init 0 ginv_init (by simpa using hks)
  exact ⟨s, h1, by simpa using h2, runY_gtree ks init 0 ginv_init gtree_init s h1⟩

/-- non-vacuity / sanity: n = 5, the names and the child lists by evaluation -/
example : (runG init [true, false, true, false]).map namesByDeque = some [(3, 0), (4, 1), (5, 2), (7, 3), (8, 4)] ∧
    (runG init [true, false, true, false]).map (fun s => (List.range s.size).map s.kids) =
      some [[1, 2], [5, 6], [3, 4], [], [], [], [7, 8], [], []] := by decide +kernel
example : (runY init [0, 1, 0, 2]).map namesByArena = some [(4, 0), (5, 1), (6, 2), (7, 3), (8, 4)] ∧
    (runY init [0, 1, 0, 2]).map (fun s => (List.range s.size).map s.kids) =
      some [[1, 2], [3, 4], [5, 6], [7, 8], [], [], [], [], []] := by decide +kernel
example : ∀ (i : Nat) (hi : i < [0, 1, 0, 2].length), [0, 1, 0, 2][i] ≤ i := by decide +kernel

/-- `2(n-1)` entries: with the root, `2n-1` slots -/
theorem caterpillar_length (n : Nat) : (caterpillar n).length = 2 * (n - 1) := by
  rw [caterpillar_eq_cat, cat_length]

theorem caterpillar_slots (n : Nat) (hn : 1 ≤ n) : (caterpillar n).length + 1 = 2 * n - 1 := by
  rw [caterpillar_length]; exact slots_eq hn

theorem caterpillar_wf (n : Nat) : parentsEarlier 1 (caterpillar n) := by
  rw [caterpillar_eq_cat]; exact cat_parentsEarlier _ _ _ _ (by omega)

/-- the parent of slot `j + 1` is one of the slots `0 … j` -/
theorem caterpillar_parents_earlier (n : Nat) (j : Nat) (h : j < (caterpillar n).length) :
    (caterpillar n)[j].1 ≤ j := by
  have := (parentsEarlier_iff _ _).1 (caterpillar_wf n) j h
  omega

/-- replaying the `add_child` calls never fails; the result has `2n-1` slots, the child lists and tip numbers
    of the list -/
theorem caterpillar_replays (n : Nat) (hn : 1 ≤ n) :
    ∃ s, replay rootOnly (caterpillar n) = some s ∧ s.size = 2 * n - 1 ∧
      (∀ q, s.kids q = childSlots 1 (caterpillar n) q) ∧ s.label 0 = none ∧
      (∀ (j : Nat) (h : j < (caterpillar n).length), s.label (j + 1) = (caterpillar n)[j].2) := by
  obtain ⟨s, e, hs, h⟩ := replay_rootOnly _ (caterpillar_wf n)
  exact ⟨s, e, hs.trans (caterpillar_slots n hn), h⟩

/-- GENERIC: for every well-formed parent list the reconstructed tree `treeOf l` is the abstraction of the
    arena obtained by replaying `add_child`: every node sits in a slot of the arena, its kids are the arena's
    child list of that slot (same order) and it carries the arena's tip number -/
theorem treeOf_faithful (l : List (Nat × Option Nat)) (h : parentsEarlier 1 l) :
    ∃ s, replay rootOnly l = some s ∧ s.size = l.length + 1 ∧
      ∀ x ∈ (treeOf l).nodes, x.slot < s.size ∧ x.kids.map CT.slot = s.kids x.slot ∧ x.label = s.label x.slot := by
  obtain ⟨s, e, hs, hk, hl, hn⟩ := replay_rootOnly l h
  refine ⟨s, e, hs, fun x hx => ?_⟩
  rw [treeOf, CT.nodes_node, List.mem_cons] at hx
  rcases hx with rfl | hx
  · exact ⟨hs ▸ Nat.succ_pos _, by rw [CT.kids, CT.slot, forest_slots, hk], hl.symm⟩
  · obtain ⟨h1, j, hj, h2, h3⟩ := forest_faithful l 1 0 h x hx
    exact ⟨by omega, by rw [h1, hk], by rw [h3, h2, Nat.add_comm, hn j hj]⟩

/-- the tree of the caterpillar generator -/
def catTree (n : Nat) : CT := treeOf (caterpillar n)

/-- the tree of the caterpillar generator is the comb -/
theorem catTree_eq (n : Nat) : catTree n = .node 0 none (combKids (n - 1) 1 1) := by
  rw [catTree, treeOf, caterpillar_eq_cat, (forest_cat (n - 1) 1 0 1 (by omega)).1]

/-- the caterpillar tree is the abstraction of the arena built by the `add_child` calls -/
theorem catTree_faithful (n : Nat) (hn : 1 ≤ n) :
    ∃ s, replay rootOnly (caterpillar n) = some s ∧ s.size = 2 * n - 1 ∧
      ∀ x ∈ (catTree n).nodes, x.slot < s.size ∧ x.kids.map CT.slot = s.kids x.slot ∧ x.label = s.label x.slot := by
  obtain ⟨s, e, hs, hx⟩ := treeOf_faithful (caterpillar n) (caterpillar_wf n)
  exact ⟨s, e, by rw [hs]; exact caterpillar_slots n hn, hx⟩

theorem nodesL_comb_one (i sz : Nat) :
    CT.nodesL (combKids 1 i sz) = [.node sz (some i) [], .node (sz + 1) (some (i + 1)) []] := by
  simp [combKids, CT.nodesL_cons, CT.nodes_node, CT.nodesL_nil]

theorem nodesL_comb_succ (m i sz : Nat) :
    CT.nodesL (combKids (m + 2) i sz) =
      .node sz none (combKids (m + 1) (i + 1) (sz + 2)) ::
        (CT.nodesL (combKids (m + 1) (i + 1) (sz + 2)) ++ [.node (sz + 1) (some i) []]) := by
  simp [combKids, CT.nodesL_cons, CT.nodes_node, CT.nodesL_nil]

theorem combKids_two : ∀ (m i sz : Nat), ∃ a b, combKids (m + 1) i sz = [a, b] ∧ b.kids = [] ∧ b.label.isSome
  | 0, i, sz => ⟨_, _, by rw [combKids], rfl, rfl⟩
  | m + 1, i, sz => ⟨_, _, by rw [combKids], rfl, rfl⟩

/-- the property of a node of a comb: a numbered tip, or an unnumbered node with exactly two kids at least
    one of which is a tip -/
def CombNode (x : CT) : Prop :=
  (x.kids = [] ∧ x.label.isSome) ∨ (x.label = none ∧ ∃ a b, x.kids = [a, b] ∧ (a.kids = [] ∨ b.kids = []))

theorem combNode_inner (s m i sz : Nat) : CombNode (.node s none (combKids (m + 1) i sz)) := by
  obtain ⟨a, b, h, hb, _⟩ := combKids_two m i sz
  exact Or.inr ⟨rfl, a, b, by simp [CT.kids, h], Or.inr hb⟩

theorem comb_nodes : ∀ (m i sz : Nat), ∀ x ∈ CT.nodesL (combKids m i sz), CombNode x
  | 0, _, _ => by simp [combKids, CT.nodesL_nil]
  | 1, i, sz => by
    rw [nodesL_comb_one]
    intro x hx
    simp only [List.mem_cons, List.not_mem_nil, or_false] at hx
    rcases hx with rfl | rfl <;> exact Or.inl ⟨rfl, rfl⟩
  | m + 2, i, sz => by
    rw [nodesL_comb_succ]
    intro x hx
    simp only [List.mem_cons, List.mem_append, List.not_mem_nil, or_false] at hx
    rcases hx with rfl | hx | rfl
    · exact combNode_inner _ _ _ _
    · exact comb_nodes (m + 1) (i + 1) (sz + 2) x hx
    · exact Or.inl ⟨rfl, rfl⟩

theorem comb_slots : ∀ (m i sz : Nat), ((CT.nodesL (combKids m i sz)).map CT.slot).Perm (List.range' sz (2 * m))
  | 0, _, _ => by simp [combKids, CT.nodesL_nil]
  | 1, i, sz => by rw [nodesL_comb_one]; simp [CT.slot, List.range']
  | m + 2, i, sz => by
    rw [nodesL_comb_succ]
    have ih := comb_slots (m + 1) (i + 1) (sz + 2)
    have e : 2 * (m + 2) = 2 * (m + 1) + 1 + 1 := by omega
    rw [e, List.range'_succ, List.range'_succ]
    simp only [List.map_cons, List.map_append, List.map_nil, CT.slot]
    refine List.Perm.cons _ ?_
    refine List.perm_append_comm.trans ?_
    simpa using ih

theorem comb_labels : ∀ (m i sz : Nat),
    ((CT.nodesL (combKids (m + 1) i sz)).filterMap CT.label).Perm (List.range' i (m + 2))
  | 0, i, sz => by rw [nodesL_comb_one]; simp [CT.label, List.range']
  | m + 1, i, sz => by
    rw [nodesL_comb_succ]
    have ih := comb_labels m (i + 1) (sz + 2)
    rw [List.range'_succ]
    simp only [List.filterMap_cons, List.filterMap_append, List.filterMap_nil, CT.label]
    refine List.perm_append_comm.trans ?_
    simpa using ih

/-- the tree contains every slot `0 … 2n-2` exactly once -/
theorem catTree_slots (n : Nat) (hn : 1 ≤ n) : ((catTree n).nodes.map CT.slot).Perm (List.range (2 * n - 1)) := by
  rw [catTree_eq, CT.nodes_node, List.map_cons, List.range_eq_range', ← slots_eq hn, List.range'_succ]
  exact List.Perm.cons _ (comb_slots (n - 1) 1 1)

theorem catTree_size (n : Nat) (hn : 1 ≤ n) : (catTree n).nodes.length = 2 * n - 1 := by
  have := (catTree_slots n hn).length_eq
  simpa using this

/-- the tip numbers in creation order are `i, i+1, …`; for the caterpillar (`i = 1`) `Tip_1 … Tip_n` -/
theorem cat_tip_numbers : ∀ (m i p sz : Nat), (cat (m + 1) i p sz).filterMap Prod.snd = List.range' i (m + 2)
  | 0, i, p, sz => by simp [cat, List.range']
  | m + 1, i, p, sz => by
    rw [cat, List.range'_succ]
    simp [cat_tip_numbers m (i + 1) sz (sz + 2)]

theorem caterpillar_tip_numbers (n : Nat) (hn : 2 ≤ n) : (caterpillar n).filterMap Prod.snd = List.range' 1 n := by
  obtain ⟨m, rfl⟩ : ∃ m, n = m + 2 := ⟨n - 2, by omega⟩
  rw [caterpillar_eq_cat]
  exact cat_tip_numbers m 1 0 1

/-- every node of the caterpillar tree is either a numbered tip or an unnumbered internal node with exactly
    two kids, at least one of them a tip: the comb -/
theorem catTree_comb (n : Nat) (hn : 2 ≤ n) : ∀ x ∈ (catTree n).nodes, CombNode x := by
  obtain ⟨m, rfl⟩ : ∃ m, n = m + 2 := ⟨n - 2, by omega⟩
  rw [catTree_eq, CT.nodes_node]
  intro x hx
  rcases List.mem_cons.1 hx with rfl | hx
  · exact combNode_inner _ _ _ _
  · exact comb_nodes _ _ _ x hx

/-- a node is a tip iff it carries a number -/
theorem catTree_tip_iff_numbered (n : Nat) (hn : 2 ≤ n) : ∀ x ∈ (catTree n).nodes, (x.kids = [] ↔ x.label.isSome) := by
  intro x hx
  rcases catTree_comb n hn x hx with ⟨h1, h2⟩ | ⟨h1, a, b, h2, _⟩
  · simp [h1, h2]
  · simp [h1, h2]

/-- the numbers carried by the nodes are `1 … n`, each exactly once: exactly `n` tips, uniquely named -/
theorem catTree_tip_numbers (n : Nat) (hn : 2 ≤ n) : ((catTree n).nodes.filterMap CT.label).Perm (List.range' 1 n) := by
  obtain ⟨m, rfl⟩ : ∃ m, n = m + 2 := ⟨n - 2, by omega⟩
  rw [catTree_eq, CT.nodes_node]
  simp only [List.filterMap_cons, CT.label]
  exact comb_labels m 1 1

/-- the number of tips is `n` -/
theorem catTree_tip_count (n : Nat) (hn : 2 ≤ n) : ((catTree n).nodes.filter (fun x => x.kids.isEmpty)).length = n := by
  rw [← List.countP_eq_length_filter,
    List.countP_congr fun x hx => List.isEmpty_iff.trans (catTree_tip_iff_numbered n hn x hx),
    ← List.length_filterMap_eq_countP, (catTree_tip_numbers n hn).length_eq, List.length_range']

/-! ### shape statistics (the C12 definitions) -/

mutual
theorem nodesNL_toNL : ∀ t : CT, AR.nodesNL (toNL t) = t.nodes.map toNL
  | .node s l ks => by rw [toNL, AR.nodesNL, CT.nodes, List.map_cons, nodesNLL_toNLL ks, toNL]
theorem nodesNLL_toNLL : ∀ ts : List CT, AR.nodesNLL (toNLL ts) = (CT.nodesL ts).map toNL
  | [] => by rw [toNLL, AR.nodesNLL, CT.nodesL]; rfl
  | t :: ts => by rw [toNLL, AR.nodesNLL, CT.nodesL, List.map_append, nodesNL_toNL t, nodesNLL_toNLL ts]
end

theorem toNLL_length : ∀ ts : List CT, (toNLL ts).length = ts.length
  | [] => by simp [toNLL]
  | t :: ts => by rw [toNLL, List.length_cons, List.length_cons, toNLL_length ts]

theorem toNL_kids (t : CT) : (toNL t).kids = toNLL t.kids := by
  cases t; rw [toNL]; rfl

theorem collessNL_tip (x : Option String) : AR.collessNL (.node x none []) = 0 := AR.collessNL_tip x none

/-- tip count and Colless index of a comb level -/
theorem comb_stats (m s : Nat) (l : Option Nat) (i sz : Nat) :
    AR.nLeavesNL (toNL (.node s l (combKids (m + 1) i sz))) = m + 2 ∧
    AR.collessNL (toNL (.node s l (combKids (m + 1) i sz))) = Tri.T (m + 1) := by
  rw [toNL]; exact GEN.comb_stats m i sz _ _

/-- the caterpillar tree as the statistics see it (C12): `n` leaves, rooted, binary, and its Colless index is
    `(n-1)(n-2)/2` -/
theorem catTree_stats (n : Nat) (hn : 2 ≤ n) :
    AR.nLeavesR (toRose 0 (catTree n)) = n ∧ AR.isRootedR (toRose 0 (catTree n)) = true ∧
    AR.isBinaryR (toRose 0 (catTree n)) = true ∧
    AR.collessR (toRose 0 (catTree n)) = (n - 1) * (n - 2) / 2 := by
  simp only [AR.nLeavesR, AR.isRootedR, AR.isBinaryR, AR.collessR, erase_toRose]
  obtain ⟨m, rfl⟩ : ∃ m, n = m + 2 := ⟨n - 2, by omega⟩
  have hc := catTree_comb (m + 2) hn
  rw [catTree_eq] at hc ⊢
  obtain ⟨h1, h2⟩ := comb_stats m 0 none 1 1
  have e1 : m + 2 - 1 = m + 1 := rfl
  rw [e1] at hc ⊢
  obtain ⟨a, b, hab, _, _⟩ := combKids_two m 1 1
  refine ⟨h1, ?_, ?_, ?_⟩
  · -- rooted: the root has the two children `a`, `b`
    simp [AR.isRootedNL, toNL_kids, toNLL_length, CT.kids, hab]
  · -- binary: the root has two children, every node below it is a comb node (`hc`): no child or two
    simp only [AR.isBinaryNL, toNL_kids, toNLL_length, CT.kids, nodesNLL_toNLL, Bool.and_eq_true,
      decide_eq_true_eq, List.all_eq_true, List.mem_map]
    refine ⟨by rw [hab]; simp, ?_⟩
    rintro _ ⟨x, hx, rfl⟩
    rw [toNL_kids, toNLL_length]
    have := hc x (by rw [CT.nodes_node]; exact List.mem_cons_of_mem _ hx)
    rcases this with ⟨h, _⟩ | ⟨_, a', b', h, _⟩ <;> simp [h]
  · exact h2.trans (Tri.T_eq (m + 1))

mutual
theorem nodesR_toRose : ∀ (t : CT) (d : Nat), (AR.nodesR (toRose d t)).map AR.Rose.id = t.nodes.map CT.slot
  | .node s l ks, d => by
    rw [toRose, AR.nodesR, CT.nodes, List.map_cons, List.map_cons, nodesRL_toRoseL ks (d + 1)]; rfl
theorem nodesRL_toRoseL : ∀ (ts : List CT) (d : Nat),
    (AR.nodesRL (toRoseL d ts)).map AR.Rose.id = (CT.nodesL ts).map CT.slot
  | [], d => by rw [toRoseL, AR.nodesRL, CT.nodesL]; rfl
  | t :: ts, d => by
    rw [toRoseL, AR.nodesRL, CT.nodesL, List.map_append, List.map_append, nodesR_toRose t d, nodesRL_toRoseL ts d]
end

/-- as an abstract arena tree the caterpillar has the node ids `0 … 2n-2`, each once -/
theorem catTree_ids (n : Nat) (hn : 1 ≤ n) : (AR.idsR (toRose 0 (catTree n))).Perm (List.range (2 * n - 1)) := by
  rw [AR.idsR, nodesR_toRose]; exact catTree_slots n hn

/-- C17, caterpillar, all clauses together: for `n ≥ 2` the `add_child` calls never fail and build `2n-1`
    slots; the tree they describe contains every slot once, its numbered nodes are exactly the tips and
    carry `1 … n` once each, every internal node has exactly two kids at least one of which is a tip, and
    the C12 statistics see `n` leaves, a rooted binary tree and Colless index `(n-1)(n-2)/2` -/
theorem caterpillar_summary (n : Nat) (hn : 2 ≤ n) :
    (∃ s, replay rootOnly (caterpillar n) = some s ∧ s.size = 2 * n - 1 ∧
      ∀ x ∈ (catTree n).nodes, x.slot < s.size ∧ x.kids.map CT.slot = s.kids x.slot ∧ x.label = s.label x.slot) ∧
    ((catTree n).nodes.map CT.slot).Perm (List.range (2 * n - 1)) ∧
    ((catTree n).nodes.filterMap CT.label).Perm (List.range' 1 n) ∧
    (∀ x ∈ (catTree n).nodes, CombNode x) ∧
    AR.nLeavesR (toRose 0 (catTree n)) = n ∧ AR.isRootedR (toRose 0 (catTree n)) = true ∧
    AR.isBinaryR (toRose 0 (catTree n)) = true ∧
    AR.collessR (toRose 0 (catTree n)) = (n - 1) * (n - 2) / 2 :=
  ⟨catTree_faithful n (by omega), catTree_slots n (by omega), catTree_tip_numbers n hn, catTree_comb n hn,
    catTree_stats n hn⟩

/-! ### `(n-1)(n-2)/2` is the largest Colless index of a binary tree with `n` leaves

    Both sides go through the triangular number `Tri.T k = k(k-1)/2` (subtraction-free recursion): the comb has
    Colless index `T (n-1)` (`comb_stats`), and no binary tree exceeds it (`colless_le_tri`). -/

theorem tri_add (a b : Nat) : Tri.T (a + b + 1) = Tri.T a + Tri.T b + a * b + a + b := Tri.T_add a b

theorem two_tri (k : Nat) : 2 * Tri.T (k + 1) = (k + 1) * k := Tri.T_closed (k + 1)

theorem tri_eq (k : Nat) : Tri.T k = k * (k - 1) / 2 := Tri.T_eq k

/-- plain binary tree shapes -/
inductive BT where
  | tip
  | node (l r : BT)

def BT.leaves : BT → Nat
  | .tip => 1
  | .node l r => l.leaves + r.leaves

/-- textbook Colless index: sum over the internal nodes of `|L − R|` -/
def BT.colless : BT → Nat
  | .tip => 0
  | .node l r => AR.absDiff l.leaves r.leaves + l.colless + r.colless

/-- a binary shape as a tree of the statistics -/
def BT.toNL : BT → AR.RoseNL
  | .tip => .node none none []
  | .node l r => .node none none [l.toNL, r.toNL]

/-- `BT.leaves`, `BT.colless` are the C12 definitions on binary shapes -/
theorem BT.toNL_stats : ∀ t : BT, AR.nLeavesNL t.toNL = t.leaves ∧ AR.collessNL t.toNL = t.colless
  | .tip => ⟨AR.nLeavesNL_tip _ _, AR.collessNL_tip _ _⟩
  | .node l r => by
    obtain ⟨h1, h2⟩ := BT.toNL_stats l
    obtain ⟨h3, h4⟩ := BT.toNL_stats r
    rw [BT.toNL, AR.nLeavesNL_pair, AR.collessNL_pair, h1, h2, h3, h4]
    exact ⟨rfl, rfl⟩

theorem BT.leaves_pos : ∀ t : BT, 1 ≤ t.leaves
  | .tip => by simp [BT.leaves]
  | .node l r => by have := BT.leaves_pos l; simp [BT.leaves]; omega

/-- with `a + 1` leaves the Colless index is at most `T a`: at a node `|L − R| ≤ (L − 1) + (R − 1)`, and `T` is
    superadditive with that much to spare (`Tri.T_super`) -/
theorem colless_le_tri : ∀ t : BT, ∃ a, t.leaves = a + 1 ∧ t.colless ≤ Tri.T a
  | .tip => ⟨0, rfl, Nat.zero_le _⟩
  | .node l r => by
    obtain ⟨a, ha, h1⟩ := colless_le_tri l
    obtain ⟨b, hb, h2⟩ := colless_le_tri r
    rw [BT.leaves, BT.colless, ha, hb]
    exact ⟨a + b + 1, Nat.add_add_add_comm a 1 b 1, Tri.T_super (AR.absDiff_succ_succ_le a b) h1 h2⟩

/-- no binary tree with `n` leaves has a larger Colless index than `(n-1)(n-2)/2`, the caterpillar's -/
theorem colless_le_max (t : BT) : t.colless ≤ (t.leaves - 1) * (t.leaves - 2) / 2 := by
  obtain ⟨a, ha, h⟩ := colless_le_tri t
  rw [ha]; exact Tri.T_eq a ▸ h

/-- the same, for the C12 definitions -/
theorem collessNL_le_max (t : BT) :
    AR.collessNL t.toNL ≤ (AR.nLeavesNL t.toNL - 1) * (AR.nLeavesNL t.toNL - 2) / 2 := by
  rw [(BT.toNL_stats t).1, (BT.toNL_stats t).2]; exact colless_le_max t

/-! ### non-vacuity: n = 2, 3, 5 by evaluation -/

example : caterpillar 2 = [(0, some 1), (0, some 2)] := by decide +kernel
example : caterpillar 3 = [(0, none), (0, some 1), (1, some 2), (1, some 3)] := by decide +kernel
example : caterpillar 5 = [(0, none), (0, some 1), (1, none), (1, some 2), (3, none), (3, some 3), (5, some 4), (5, some 5)] := by
  decide +kernel
example : (catTree 2).nodes.map CT.slot = [0, 1, 2] ∧ (catTree 2).nodes.filterMap CT.label = [1, 2] ∧
    AR.collessR (toRose 0 (catTree 2)) = 0 ∧ AR.nLeavesR (toRose 0 (catTree 2)) = 2 := by decide +kernel
example : (catTree 3).nodes.map CT.slot = [0, 1, 3, 4, 2] ∧ (catTree 3).nodes.filterMap CT.label = [2, 3, 1] ∧
    AR.collessR (toRose 0 (catTree 3)) = 1 ∧ AR.nLeavesR (toRose 0 (catTree 3)) = 3 := by decide +kernel
example : (catTree 5).nodes.map CT.slot = [0, 1, 3, 5, 7, 8, 6, 4, 2] ∧
    (catTree 5).nodes.filterMap CT.label = [4, 5, 3, 2, 1] ∧
    AR.collessR (toRose 0 (catTree 5)) = 6 ∧ AR.nLeavesR (toRose 0 (catTree 5)) = 5 ∧
    AR.isBinaryR (toRose 0 (catTree 5)) = true ∧ AR.isRootedR (toRose 0 (catTree 5)) = true ∧
    AR.sackinR (toRose 0 (catTree 5)) = 14 := by decide +kernel
example : catTree 3 = .node 0 none [.node 1 none [.node 3 (some 2) [], .node 4 (some 3) []], .node 2 (some 1) []] := rfl
example : (replay rootOnly (caterpillar 5)).map (fun s => (s.size, (List.range s.size).map s.kids, (List.range s.size).map s.label)) =
    some (9, [[1, 2], [3, 4], [], [5, 6], [], [7, 8], [], [], []],
      [none, none, some 1, none, some 2, none, some 3, some 4, some 5]) := by decide +kernel
/-- a list with a forward reference is refused by the replay -/
example : (replay rootOnly [(0, none), (3, some 1)]).isNone = true := by decide +kernel

end C17
