import PhyloModel.Misc.Layout
/-! # C19 — radial layout is a faithful drawing of the tree

`LAY.layout` mirrors `radial_layout` with exact angles (rational fractions of a turn): pre-order, one segment
per non-root node, the wedge of a node starts where its previous sibling's ended and has width
`leaves(node)/leaves(root)`, the branch points along the wedge's bisector.  Coordinates are
`parent position + len·(cos θ, sin θ)`; `cos`, `sin` and rounding are modelled, not verified: the length claim
is proved for any pair `(c, s)` with `c² + s² = 1`, and the harness applies the real `cos`/`sin` to the model's
exact angles and compares every coordinate with the crate's within 1e-9. -/
namespace C19
open AR

mutual
def size : Rose → Nat
  | .node _ _ _ _ ks => 1 + sizeL ks
def sizeL : List Rose → Nat
  | [] => 0
  | k :: ks => size k + sizeL ks
end

mutual
/-- exactly one segment (and one labelled point) per non-root node -/
theorem one_segment_per_non_root_node (total : Nat) : ∀ (t : Rose) (start : Rat),
    (LAY.layout total t start).length + 1 = size t
  | .node i n l d ks, start => by
    rw [LAY.layout, size]; have := segments_of_children total i ks start; omega
theorem segments_of_children (total : Nat) (p : Nat) : ∀ (ks : List Rose) (start : Rat),
    (LAY.layoutL total p ks start).length = sizeL ks
  | [], _ => by simp [LAY.layoutL, sizeL]
  | k :: ks, start => by
    rw [LAY.layoutL, sizeL]
    simp only [List.length_cons, List.length_append]
    have h1 := one_segment_per_non_root_node total k start
    have h2 := segments_of_children total p ks (start + (LAY.nLeaves k : Rat) / (total : Rat))
    omega
end

/-- the first child's segment: it hangs from the parent, its wedge starts where the parent's starts, has width
    `leaves(child)/leaves(root)`; the remaining siblings follow with a wedge starting exactly where this one
    ends (consecutive, hence disjoint, wedges in child order) and the child's own subtree is laid out from
    the child's wedge start -/
theorem sibling_wedges_are_consecutive (total p : Nat) (k : Rose) (ks : List Rose) (start : Rat) :
    LAY.layoutL total p (k :: ks) start =
      { parent := p, id := k.id, start := start, width := (LAY.nLeaves k : Rat) / (total : Rat), len := k.len, name := k.name } ::
        (LAY.layout total k start ++ LAY.layoutL total p ks (start + (LAY.nLeaves k : Rat) / (total : Rat))) := by
  rw [LAY.layoutL]

/-- wedge widths of a list of siblings -/
def widths (total : Nat) (ks : List Rose) : List Rat := ks.map (fun k => (LAY.nLeaves k : Rat) / (total : Rat))

def sumR (l : List Rat) : Rat := l.foldr (· + ·) 0

/-- the sibling wedges together are exactly as wide as `leaves below them / leaves(root)`: the children of a
    node fill their parent's wedge exactly (nested), the children of the root fill the full turn -/
theorem wedges_fill_parent (total : Nat) : ∀ ks : List Rose,
    sumR (widths total ks) = (LAY.nLeavesL ks : Rat) / (total : Rat)
  | [] => by simp [widths, sumR, LAY.nLeavesL]; grind
  | k :: ks => by
    have ih := wedges_fill_parent total ks
    simp only [widths, List.map_cons, sumR, List.foldr_cons] at ih ⊢
    rw [ih, LAY.nLeavesL]
    have : ((LAY.nLeaves k + LAY.nLeavesL ks : Nat) : Rat) = (LAY.nLeaves k : Rat) + (LAY.nLeavesL ks : Rat) := by
      exact Rat.natCast_add _ _
    rw [this, Rat.div_def, Rat.div_def, Rat.div_def, Rat.add_mul]

theorem internal_node_leaves (i : Nat) (n : Option String) (l : Option Int) (d : Nat) (k : Rose) (ks : List Rose) :
    LAY.nLeaves (.node i n l d (k :: ks)) = LAY.nLeavesL (k :: ks) := by rw [LAY.nLeaves]

/-- the drawn branch has Euclidean length equal to the branch length: for any direction `(c, s)` on the unit
    circle, the segment from `(x, y)` to `(x + d·c, y + d·s)` has squared length `d²` -/
theorem branch_has_its_length (x y d c s : Rat) (h : c * c + s * s = 1) :
    ((x + d * c) - x) * ((x + d * c) - x) + ((y + d * s) - y) * ((y + d * s) - y) = d * d := by
  have : ((x + d * c) - x) * ((x + d * c) - x) + ((y + d * s) - y) * ((y + d * s) - y) = d * d * (c * c + s * s) := by
    grind
  rw [this, h]; grind

/-- the step behind rescaling: `k` times the end point `x + d·c` is the end point reached from `k·x` with length `k·d`
    (the statement about whole drawings is `rescale_commutes_with_place` in `Props/C19Coords.lean`) -/
theorem rescale_commutes (k x d c : Rat) : k * (x + d * c) = k * x + (k * d) * c := by grind

/-- a missing length is refused -/
theorem missing_length_refused (t : Rose) (h : (LAY.layout (LAY.nLeaves t) t 0).any (fun s => s.len.isNone) = true) :
    LAY.radial t = .err "MissingBranchLengths" := by
  simp [LAY.radial, h]

/-- non-vacuity: the hypothesis of `branch_has_its_length` is satisfiable: (0, 1) and (1, 0) are on the unit circle -/
example : ((0 : Rat) * 0 + 1 * 1 = 1) ∧ ((1 : Rat) * 1 + 0 * 0 = 1) := by constructor <;> grind

end C19
