import PhyloModel.Arena.PruneBTop
import PhyloModel.Arena.Group
import PhyloModel.Dist.CompressPathLen
import PhyloModel.Arena.Ops
import PhyloModel.Arena.ResolvePost
import PhyloModel.Arena.DistRescale
import PhyloModel.Arena.DistLadder
import PhyloModel.Arena.DistCompress
import PhyloModel.Arena.DistResolve
import PhyloModel.Arena.LadderKey
import PhyloModel.Arena.DistPrune
/-! # C11 — editing operations have exactly their documented effect

Arena level (`AR`), all on the EXECUTABLE operations the driver runs against the crate: exact frames of `prune`
and of the regrouping step of `merge_children` / `resolve`; loop postconditions of `compress` (no one-child
non-root node left) and `resolve` (no node with more than two children, for every outcome of its random choices);
`ladderize` changes nothing but the order inside child lists, its sort key IS the number of proper descendants and
every child list of the result is the stable sort of the old one by that key; and — second half of this file — every
leaf-to-leaf path length (the answer of `get_distance`) is unchanged by `compress` (whatever its outcome),
`resolve`, `ladderize` and `prune`, and multiplied by `k` by `rescale k`.  Rose level (`DM`): splicing out unary
nodes keeps every path length (an independent statement of the same fact).
The executable operations are compared slot by slot with the crate after every call, and the documented effect is
checked on the real result by rose-level expectations computed independently in the harness. -/
namespace C11
open AR

/-- `prune` removes exactly the chosen subtree: a slot dies iff it lies below the pruned node; every other live
    slot stays live and is unchanged (name, length, comment, child order), except that the parent loses the
    pruned node from its child list and child-edge record -/
theorem prune_exact (f D : Nat) (a : Arena) (c : Nat) (hinv : Inv a) (ht : Tomb a) (hl : live a c)
    (hD : ∀ i, live a i → (nd a i).depth ≤ D) (hf : D < f + (nd a c).depth) :
    ∃ a1, pruneF f a c = some a1 ∧ Inv a1 ∧ a1.size = a.size ∧
      (∀ v k, BelowK a c v k → ¬ live a1 v) ∧
      (∀ i, live a i → (∀ k, ¬ BelowK a c i k) → live a1 i) ∧
      (∀ i, live a1 i → (nd a c).parent ≠ some i → nd a1 i = nd a i) ∧
      (∀ p, (nd a c).parent = some p → nd a1 p = removeChild (nd a p) c) := by
  obtain ⟨a1, h1, ok⟩ := prune_main2 f D a c hinv ht hl hD hf
  exact ⟨a1, h1, ok.inv, ok.size, ok.gone, ok.kept, ok.same, ok.par⟩

/-- the slot updates of `merge_children` on two distinct siblings (`group`, before the depth repair) regroup
    exactly them under one new node: the new node is the
    fresh slot with children `[c1, c2]`, the parent's list is the old list without them followed by the new
    node, the two merged nodes only change their parent link and branch length, every other slot is untouched -/
theorem merge_exact (a : Arena) (q c1 c2 : Nat) (pe e1 e2 : Option Int) (hq : q < a.size) (h1 : c1 < a.size)
    (h2 : c2 < a.size) (hq1 : q ≠ c1) (hq2 : q ≠ c2) (h12 : c1 ≠ c2) :
    let g := group a q c1 c2 pe e1 e2
    (nd g a.size).children = [c1, c2] ∧ (nd g a.size).parent = some q ∧ (nd g a.size).pedge = pe ∧
    (nd g q).children = (((nd a q).children.erase c1).erase c2) ++ [a.size] ∧
    nd g c1 = { nd a c1 with parent := some a.size, pedge := e1 } ∧
    nd g c2 = { nd a c2 with parent := some a.size, pedge := e2 } ∧
    (∀ i, i ≠ a.size → i ≠ q → i ≠ c1 → i ≠ c2 → nd g i = nd a i) := by
  intro g
  have s := group_fx pe e1 e2 hq h1 h2 hq1 hq2 h12
  have h := nd_group a q c1 c2 pe e1 e2 hq h1 h2 hq1 hq2 h12
  have hqs : q ≠ a.size := Nat.ne_of_lt hq
  have h1s : c1 ≠ a.size := Nat.ne_of_lt h1
  have h2s : c2 ≠ a.size := Nat.ne_of_lt h2
  exact ⟨by rw [s.children, if_pos rfl], by rw [s.parent, if_pos rfl], by rw [s.pedge, if_pos rfl],
    by rw [s.children, if_neg hqs, if_pos rfl],
    by rw [h, if_neg h1s, if_neg (Ne.symm hq1), if_pos rfl],
    by rw [h, if_neg h2s, if_neg (Ne.symm hq2), if_neg (Ne.symm h12), if_pos rfl],
    fun i i1 i2 i3 i4 => by rw [h, if_neg i1, if_neg i2, if_neg i3, if_neg i4]⟩

/-- ... and, followed by the depth repair, it leaves a well-formed arena (also one round of `resolve`) -/
theorem regroup_preserves_invariant (a : Arena) (q c1 c2 : Nat) (pe e1 e2 : Option Int) (hinv : Inv a)
    (hlq : live a q) (hm1 : c1 ∈ (nd a q).children) (hm2 : c2 ∈ (nd a q).children) (h12 : c1 ≠ c2) (D : Nat)
    (hD : ∀ i, live a i → (nd a i).depth ≤ D) :
    ∃ b1 b2, resetF (2 * D + 3) (group a q c1 c2 pe e1 e2) c1 ((nd a q).depth + 2) = some b1 ∧
      resetF (2 * D + 3) b1 c2 ((nd a q).depth + 2) = some b2 ∧ Inv b2 :=
  group_inv a q c1 c2 pe e1 e2 hinv hlq hm1 hm2 h12 D hD

/-- merging non-siblings (or a node with itself, or a removed node) is refused and nothing changes -/
theorem merge_refused (a : Arena) (c1 c2 : Nat) (e1 e2 pe : Option Int) (n : Option String)
    (h : ¬ live a c1 ∨ ¬ live a c2 ∨ c1 = c2 ∨ (nd a c1).parent ≠ (nd a c2).parent) :
    ∃ k, mergeChildren a c1 c2 e1 e2 pe n = (a, .err k) := by
  unfold mergeChildren
  by_cases l1 : isLive a c1 = true
  · by_cases l2 : isLive a c2 = true
    · have hh : c1 = c2 ∨ (nd a c1).parent ≠ (nd a c2).parent := by
        rcases h with h | h | h | h
        · exact absurd ((isLive_iff a c1).mp l1) h
        · exact absurd ((isLive_iff a c2).mp l2) h
        · exact Or.inl h
        · exact Or.inr h
      exact ⟨"MergingNonSiblingNodes", by simp [l1, l2, hh]⟩
    · exact ⟨"NodeNotFound", by simp [l1, l2]⟩
  · exact ⟨"NodeNotFound", by simp [l1]⟩

/-- rose level: `DM.comp` (splice every non-root unary node, lengths added) keeps every leaf-to-leaf path length -/
theorem compress_keeps_path_lengths (t : DM.RT) (x y : Nat) :
    DM.pathLen (DM.comp t) x y = DM.pathLen t x y :=
  DM.pathLen_comp t x y

/-- `rescale` multiplies both records of every branch length -/
theorem rescale_every_length (a : Arena) (k : Int) (i : Nat) :
    (nd (rescale a k) i).pedge = (nd a i).pedge.map (· * k) ∧
    (nd (rescale a k) i).cedges = (nd a i).cedges.map (fun ce => (ce.1, ce.2 * k)) ∧
    (nd (rescale a k) i).children = (nd a i).children ∧ (nd (rescale a k) i).parent = (nd a i).parent ∧
    (nd (rescale a k) i).name = (nd a i).name := by
  rw [rescale_nd]
  exact ⟨rfl, rfl, rfl, rfl, rfl⟩

/-- the sort `ladderize` applies to a child list (`mergeSort` by a count) returns a permutation of the list,
    ordered by the count; that `ladderize` applies it with the descendant count: `ladderize_orders_children` -/
theorem ladderize_sorts (kids : List Nat) (cnt : Nat → Nat) :
    (kids.mergeSort (fun x y => decide (cnt x ≤ cnt y))).Perm kids ∧
    (kids.mergeSort (fun x y => decide (cnt x ≤ cnt y))).Pairwise (fun x y => cnt x ≤ cnt y) := by
  refine ⟨List.mergeSort_perm _ _, ?_⟩
  have := List.pairwise_mergeSort (le := fun x y => decide (cnt x ≤ cnt y))
    (by intro a b c h1 h2; simp at *; omega) (by intro a b; simp; omega) kids
  simpa using this

/-- **postcondition of `compress`** on every arena satisfying the invariant: when it succeeds, no live
    non-root node with exactly one child is left, and the set of tips is unchanged -/
theorem compress_postcondition (a a' : Arena) (o : Option Nat) (g : Good a) (h : compress a = (a', .ok o)) :
    (∀ i, ¬ Unary a' i) ∧ (∀ i, IsTip a' i ↔ IsTip a i) :=
  compress_post g h

/-- **postcondition of `resolve`** for every outcome of its random choices: no node with more than two
    children is left, and the set of tips is unchanged -/
theorem resolve_postcondition (a a' : Arena) (picks : List (Nat × Nat)) (g : Good a)
    (h : resolve a picks = some a') :
    (∀ i, (nd a' i).children.length ≤ 2) ∧ (∀ i, IsTip a' i ↔ IsTip a i) :=
  resolve_post picks g h

/-- **frame of `ladderize`**: nothing changes except the order inside child lists (every node keeps its
    parent, lengths, depth, name, comment; its child list is a permutation of what it was); tips unchanged -/
theorem ladderize_only_reorders (a : Arena) :
    PermKids a (ladderize a).1 ∧ ∀ i, IsTip (ladderize a).1 i ↔ IsTip a i :=
  ⟨ladderize_frame a, (ladderize_frame a).tip⟩

/-- every one of these operations keeps the arena invariant and terminates (C03's operation theorem) -/
theorem edits_keep_invariant (a : Arena) (op : Op) (g : Good a) :
    Good (applyOp a op).1 ∧ (applyOp a op).2 ≠ .diverge :=
  applyOp_good op g


/-! ## C11 (continued) — the editing operations keep every leaf-to-leaf path length, on the executable model

`AR.distance a x y` mirrors `Tree::get_distance`: `.ok (d, n)` where `d` is the sum of the branch lengths on
the connecting path (`none` as soon as one of them is missing) and `n` its number of edges.  `Good a` is
the arena invariant every edit history preserves (`C11.edits_keep_invariant`).  `IsTip a i`: live slot
without children.  `Unary a i`: live non-root slot with exactly one child (what `compress` removes). -/

open AR

/-- **rescale**: for all node ids the answer of `get_distance` after `rescale k` is the answer before with
    the length multiplied by `k`; edge count and errors are unchanged; the tips are the same -/
theorem rescale_multiplies_distances (a : Arena) (k : Int) (x y : Nat) :
    distance (rescale a k) x y = (do let d ← distance a x y; pure (d.1.map (· * k), d.2)) ∧
    (IsTip (rescale a k) x ↔ IsTip a x) :=
  ⟨rescale_distance a k x y, rescale_tips a k x⟩

/-- **ladderize**: every answer of `get_distance` (and of `get_path_from_root`) is unchanged, for all node
    ids and whatever the outcome; the tips are the same -/
theorem ladderize_keeps_distances (a : Arena) (x y : Nat) :
    distance (ladderize a).1 x y = distance a x y ∧ pathFromRoot (ladderize a).1 x = pathFromRoot a x ∧
    (IsTip (ladderize a).1 x ↔ IsTip a x) :=
  ⟨ladderize_distance a x y, ladderize_pathFromRoot a x, (ladderize_frame a).tip x⟩

/-- **compress_node v**: any two distinct live nodes other than `v` keep the length of their connecting
    path; the number of edges does not grow -/
theorem compressNode_keeps_lengths {a a' : Arena} {v : Nat} {o : Option Nat} (g : Good a)
    (h : compressNode a v = (a', .ok o)) (x y : Nat) (hlx : live a x) (hly : live a y) (hxv : x ≠ v)
    (hyv : y ≠ v) (hxy : x ≠ y) :
    ∃ d n n', distance a x y = .ok (d, n) ∧ distance a' x y = .ok (d, n') ∧ n' ≤ n :=
  compressNode_sameLen g h hlx hly hxv hyv hxy

/-- **compress**: any two distinct live nodes that are not themselves one-child non-root nodes keep the
    length of their connecting path; the number of edges does not grow -/
theorem compress_keeps_lengths {a a' : Arena} {o : Option Nat} (g : Good a) (h : compress a = (a', .ok o))
    (x y : Nat) (hlx : live a x) (hly : live a y) (hx : ¬ Unary a x) (hy : ¬ Unary a y) (hxy : x ≠ y) :
    ∃ d n n', distance a x y = .ok (d, n) ∧ distance a' x y = .ok (d, n') ∧ n' ≤ n :=
  compress_sameLen g h hlx hly hx hy hxy

/-- **compress, leaf to leaf**: same set of tips, same path length between any two of them, and no
    one-child non-root node is left -/
theorem compress_keeps_leaf_distances {a a' : Arena} {o : Option Nat} (g : Good a)
    (h : compress a = (a', .ok o)) :
    (∀ i, ¬ Unary a' i) ∧ (∀ i, IsTip a' i ↔ IsTip a i) ∧
    ∀ x y, IsTip a x → IsTip a y → x ≠ y →
      ∃ d n n', distance a x y = .ok (d, n) ∧ distance a' x y = .ok (d, n') ∧ n' ≤ n :=
  ⟨(compress_post g h).1, (compress_tip_distances g h).1, (compress_tip_distances g h).2⟩

/-- **resolve**, for every outcome `picks` of its random choices: any two distinct live nodes keep the
    length of their connecting path; the number of edges does not drop -/
theorem resolve_keeps_lengths {a a' : Arena} (picks : List (Nat × Nat)) (g : Good a)
    (h : resolve a picks = some a') (x y : Nat) (hlx : live a x) (hly : live a y) (hxy : x ≠ y) :
    ∃ d n n', distance a x y = .ok (d, n) ∧ distance a' x y = .ok (d, n') ∧ n ≤ n' :=
  resolve_sameLen picks g h hlx hly hxy

/-- **resolve, leaf to leaf**: same set of tips, same path length between any two of them, and no node
    with more than two children is left -/
theorem resolve_keeps_leaf_distances {a a' : Arena} (picks : List (Nat × Nat)) (g : Good a)
    (h : resolve a picks = some a') :
    (∀ i, (nd a' i).children.length ≤ 2) ∧ (∀ i, IsTip a' i ↔ IsTip a i) ∧
    ∀ x y, IsTip a x → IsTip a y → x ≠ y →
      ∃ d n n', distance a x y = .ok (d, n) ∧ distance a' x y = .ok (d, n') ∧ n ≤ n' :=
  ⟨(resolve_post picks g h).1, (resolve_tip_distances picks g h).1, (resolve_tip_distances picks g h).2⟩

/-- the sort key of `ladderize`: `descCount a v` is the number of proper descendants of `v` -/
theorem descCount_counts_descendants {a : Arena} (g : Good a) {v : Nat} (hl : live a v) :
    ∃ l : List Nat, l.Nodup ∧ (∀ u, u ∈ l ↔ ∃ k, BelowK a v u (k + 1)) ∧ descCount a v = l.length :=
  descCount_spec g.1 hl

/-- **postcondition of ladderize**: with a root present the call succeeds, and every node of the root's tree
    has its children ordered by their number of proper descendants (in the result), the new list being
    exactly the stable sort of the old one by that key; nothing else in the slot changes; slots outside the
    root's tree are untouched -/
theorem ladderize_orders_children {a : Arena} (g : Good a) {r : Nat} (hr : getRoot a = some r) :
    (ladderize a).2 = .ok none ∧
    (∀ v, (∃ k, BelowK a r v k) →
      (nd (ladderize a).1 v).children.Pairwise
        (fun c d => descCount (ladderize a).1 c ≤ descCount (ladderize a).1 d) ∧
      (nd (ladderize a).1 v).children = (nd a v).children.mergeSort
        (fun c d => decide (descCount (ladderize a).1 c ≤ descCount (ladderize a).1 d)) ∧
      (nd (ladderize a).1 v).children.Perm (nd a v).children ∧
      nd (ladderize a).1 v = { nd a v with children := (nd (ladderize a).1 v).children }) ∧
    (∀ v, (¬ ∃ k, BelowK a r v k) → nd (ladderize a).1 v = nd a v) ∧
    (∀ c, descCount (ladderize a).1 c = descCount a c) := by
  obtain ⟨s1, s2, s3⟩ := ladderize_slots g hr
  refine ⟨s1, ?_, s3, (ladderize_frame a).descCount g (ladderize_good g)⟩
  intro v hv
  obtain ⟨p1, p2, p3⟩ := ladderize_post g hr v hv
  refine ⟨p1, p2, p3, ?_⟩
  have := s2 v hv
  rw [this]

/-- ... for every live node when there is at most one parentless live node (every tree the crate builds) -/
theorem ladderize_orders_all_children {a : Arena} (g : Good a) (h1 : AtMostOneRoot a) (v : Nat)
    (hl : live a v) :
    (nd (ladderize a).1 v).children.Pairwise
        (fun c d => descCount (ladderize a).1 c ≤ descCount (ladderize a).1 d) ∧
    (nd (ladderize a).1 v).children = (nd a v).children.mergeSort
        (fun c d => decide (descCount (ladderize a).1 c ≤ descCount (ladderize a).1 d)) ∧
    (nd (ladderize a).1 v).children.Perm (nd a v).children := by
  obtain ⟨t, _, hr, _, hall⟩ := one_tree g.1 h1 v hl
  exact ladderize_post g hr v (hall v hl)

/-- **compress, leaf to leaf, whatever the outcome** (`compress` may stop half-way with
    `MissingBranchLengths`, leaving some nodes already spliced out): same tips, same path lengths -/
theorem compress_keeps_leaf_distances_any_outcome {a : Arena} (g : Good a) :
    (∀ i, IsTip (compress a).1 i ↔ IsTip a i) ∧
    ∀ x y, IsTip a x → IsTip a y → x ≠ y →
      ∃ d n n', distance a x y = .ok (d, n) ∧ distance (compress a).1 x y = .ok (d, n') ∧ n' ≤ n :=
  compress_tip_distances_any g

/-- **prune**: every answer of `get_distance` between two surviving nodes is unchanged -/
theorem prune_keeps_distances {a : Arena} (g : Good a) (c x y : Nat) (hlx : live (prune a c).1 x)
    (hly : live (prune a c).1 y) : distance (prune a c).1 x y = distance a x y :=
  prune_distance g c x y hlx hly

/-- the four operations of the first sentence of C11, and the factor each applies to lengths -/
inductive ShapeEdit where
  | compress
  | resolve (picks : List (Nat × Nat))
  | ladderize
  | rescale (k : Int)

def ShapeEdit.op : ShapeEdit → Op
  | .compress => .compress
  | .resolve picks => .resolve picks
  | .ladderize => .ladderize
  | .rescale k => .rescale k

def ShapeEdit.factor : ShapeEdit → Int
  | .rescale k => k
  | _ => 1

theorem map_mul_one (d : Option Int) : d.map (· * (1 : Int)) = d := by cases d <;> simp

/-- **summary**: `compress`, `resolve` (for every outcome of its random choices, also an ill-formed oracle),
    `ladderize` and `rescale k`, applied to any well-formed arena and whatever they return, leave the set of
    tips unchanged and answer `get_distance` between any two distinct tips with the old length multiplied
    by the operation's factor (`k` for `rescale k`, 1 otherwise) -/
theorem shape_edits_keep_leaf_lengths {a : Arena} (g : Good a) (e : ShapeEdit) :
    (∀ i, IsTip (applyOp a e.op).1 i ↔ IsTip a i) ∧
    ∀ x y, IsTip a x → IsTip a y → x ≠ y →
      ∃ d n n', distance a x y = .ok (d, n) ∧
        distance (applyOp a e.op).1 x y = .ok (d.map (· * e.factor), n') := by
  have hdist : ∀ x y, IsTip a x → IsTip a y → x ≠ y → ∃ d n, distance a x y = .ok (d, n) := by
    intro x y hx hy hxy
    obtain ⟨P, hP⟩ := path_total g x hx.1
    obtain ⟨Q, hQ⟩ := path_total g y hy.1
    exact ⟨_, _, distance_of_paths g.1.toW hP hQ hxy⟩
  cases e with
  | compress =>
    obtain ⟨t, s⟩ := compress_tip_distances_any g
    refine ⟨t, ?_⟩
    intro x y hx hy hxy
    obtain ⟨d, n, n', e1, e2, _⟩ := s x y hx hy hxy
    exact ⟨d, n, n', e1, by simpa [ShapeEdit.op, ShapeEdit.factor, applyOp, map_mul_one] using e2⟩
  | resolve picks =>
    simp only [ShapeEdit.op, ShapeEdit.factor, applyOp, map_mul_one]
    cases hr : resolve a picks with
    | none =>
      refine ⟨fun _ => Iff.rfl, ?_⟩
      intro x y hx hy hxy
      obtain ⟨d, n, e1⟩ := hdist x y hx hy hxy
      exact ⟨d, n, n, e1, e1⟩
    | some a' =>
      obtain ⟨t, s⟩ := resolve_tip_distances picks g hr
      refine ⟨t, ?_⟩
      intro x y hx hy hxy
      obtain ⟨d, n, n', e1, e2, _⟩ := s x y hx hy hxy
      exact ⟨d, n, n', e1, e2⟩
  | ladderize =>
    simp only [ShapeEdit.op, ShapeEdit.factor, applyOp, map_mul_one]
    refine ⟨(ladderize_frame a).tip, ?_⟩
    intro x y hx hy hxy
    obtain ⟨d, n, e1⟩ := hdist x y hx hy hxy
    exact ⟨d, n, n, e1, by rw [ladderize_distance, e1]⟩
  | rescale k =>
    simp only [ShapeEdit.op, ShapeEdit.factor, applyOp]
    refine ⟨rescale_tips a k, ?_⟩
    intro x y hx hy hxy
    obtain ⟨d, n, e1⟩ := hdist x y hx hy hxy
    exact ⟨d, n, n, e1, rescale_distance_ok a k x y d n e1⟩

end C11
