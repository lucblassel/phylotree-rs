import PhyloModel.Props.C06
import PhyloModel.Split.Symm
/-! # C07 — weighted RF and branch-score distances match their definitions

`SPM.wrf`, `SPM.kf2`, `SPM.compareTopologies`, `SPM.compareBranches` mirror `weighted_robinson_foulds`,
`khuner_felsenstein` (squared: the model returns KF², the harness applies the one remaining `sqrt`),
`compare_topologies` and `compare_branch_lengths`.  Lengths are exact integers (multiples of 2^-10 in the
correspondence); floating-point rounding is not modelled. -/
namespace C07
open AR SPM

/-- by definition both distances are sums over the union of the two split sets of a function of the
    difference of the split's lengths, with 0 for an absent split -/
theorem wrf_kf2_definition (s o : Rose) (ps po : List Part) (ms mo : List (Side × Nat × Int))
    (hps : partitions s = .ok ps) (hpo : partitions o = .ok po)
    (hms : withLengths ps = .ok ms) (hmo : withLengths po = .ok mo) :
    wrf s o = .ok (sumOver iabs ms mo) ∧ kf2 s o = .ok (sumOver (fun x => x * x) ms mo) := by
  simp [wrf, kf2, hps, hpo, hms, hmo]

/-- a two-child root's two branches (any two branches inducing the same split) count as ONE split with
    their summed length; a missing length on either makes the sum missing -/
theorem split_len_accumulates (m : List Part) (s : Side) (d : Nat) (l : Option Int) (p : Part)
    (h : m.find? (fun q => q.side == s) = some p) :
    insertPart m s d l = (m.filter (fun q => q.side != s)) ++ [{ side := s, depth := d, len := accLen l p.len }] ∧
    (∀ a b : Int, accLen (some a) (some b) = some (b + a)) ∧
    (∀ x, accLen none x = none) ∧ (∀ x, accLen x none = none) := by
  refine ⟨by simp [insertPart, h], fun _ _ => rfl, fun x => by cases x <;> rfl, fun x => by cases x <;> rfl⟩

/-- a missing length on any branch inducing a non-trivial split yields the missing-length error -/
theorem missing_length_rejected (s o : Rose) (ps : List Part) (hps : partitions s = .ok ps)
    (hmiss : ps.any (fun p => p.len.isNone) = true) :
    wrf s o = .err "MissingBranchLengths" ∧ kf2 s o = .err "MissingBranchLengths" ∧
    compareTopologies s o = .err "MissingBranchLengths" := by
  have h : withLengths ps = .err "MissingBranchLengths" := by simp [withLengths, hmiss]
  simp [wrf, kf2, compareTopologies_eq, hps, h]

/-- the combined report carries exactly these two values -/
theorem report_agrees (s o : Rose) (ps po : List Part) (ms mo : List (Side × Nat × Int)) (ls : List String)
    (hps : partitions s = .ok ps) (hpo : partitions o = .ok po)
    (hms : withLengths ps = .ok ms) (hmo : withLengths po = .ok mo)
    (hls : leafIndex s = .ok ls) (hlo : leafIndex o = .ok ls) :
    ∃ r, compareTopologies s o = .ok r ∧ wrf s o = .ok r.2.2.1 ∧ kf2 s o = .ok r.2.2.2 := by
  simp [compareTopologies, wrf, kf2, hps, hpo, hms, hmo, hls, hlo]

def scaleM (k : Int) (m : List (Side × Nat × Int)) : List (Side × Nat × Int) := m.map (fun p => (p.1, p.2.1, k * p.2.2))

theorem lookup_scale (k : Int) (m : List (Side × Nat × Int)) (x : Side) :
    lookup (scaleM k m) x = (lookup m x).map (fun q => (q.1, k * q.2)) :=
  lookup_trM id (k * ·) m x fun _ _ => rfl

theorem sum_map_mul (k : Int) (l : List Int) : (l.map (fun x => k * x)).sum = k * l.sum :=
  SPM.sum_map_mul k l

/-- common rescaling: for any `f` with `f (k·x) = c·f x`, the sum scales by `c` -/
theorem sumOver_scale (f : Int → Int) (k c : Int) (hf : ∀ x, f (k * x) = c * f x)
    (ms mo : List (Side × Nat × Int)) :
    sumOver f (scaleM k ms) (scaleM k mo) = c * sumOver f ms mo :=
  sumOver_trM f c id (k * ·) (fun x y => by rw [← Int.mul_sub]; exact hf _) hf ms mo fun _ _ _ _ => rfl

theorem iabs_mul (k x : Int) : iabs (k * x) = iabs k * iabs x := by
  rw [iabs_eq, iabs_eq, iabs_eq, Int.natAbs_mul, Int.natCast_mul]

/-- weighted RF scales linearly (by `|k|`) and the squared branch score by `k²` under a common rescaling -/
theorem rescaling (k : Int) (ms mo : List (Side × Nat × Int)) :
    sumOver iabs (scaleM k ms) (scaleM k mo) = iabs k * sumOver iabs ms mo ∧
    sumOver (fun x => x * x) (scaleM k ms) (scaleM k mo) = (k * k) * sumOver (fun x => x * x) ms mo :=
  ⟨sumOver_scale iabs k (iabs k) (iabs_mul k) ms mo,
   sumOver_scale (fun x => x * x) k (k * k) (fun x => by grind) ms mo⟩

/-- the branch listing without tips: its three lists carry, in order, the lengths of the splits only in the
    first tree, only in the second, and (as pairs) of the common ones, as the partition maps hold them; the
    string keys are not part of the statement -/
theorem branch_listing (s o : Rose) (ps po : List Part) (ms mo : List (Side × Nat × Int)) (ls : List String)
    (hps : partitions s = .ok ps) (hpo : partitions o = .ok po)
    (hms : withLengths ps = .ok ms) (hmo : withLengths po = .ok mo) (hls : leafIndex s = .ok ls) :
    ∃ r, compareBranches s o false = .ok r ∧
      r.1.map (·.2) = (ms.filter (fun p => (lookup mo p.1).isNone)).map (·.2.2) ∧
      r.2.1.map (·.2) = (mo.filter (fun p => (lookup ms p.1).isNone)).map (·.2.2) ∧
      r.2.2.map (·.2) = ms.filterMap (fun p => (lookup mo p.1).map (fun q => (p.2.2, q.2))) := by
  simp only [compareBranches, hps, hpo, hms, hmo, hls, QR.bind_ok, QR.pure_eq, Bool.not_false, ↓reduceIte]
  refine ⟨_, rfl, ?_, ?_, ?_⟩
  · simp [List.map_map, Function.comp_def]
  · simp [List.map_map, Function.comp_def]
  · simp only [List.map_filterMap]
    congr 1
    funext p
    cases lookup mo p.1 <;> simp

/-- non-vacuity: |2·3 − 2·5| = 2·|3 − 5| on a one-split example -/
example : sumOver iabs (scaleM 2 [([false, true, true, false], 1, 3)]) (scaleM 2 [([false, true, true, false], 1, 5)]) = 4 := by decide

/-- **symmetry**: both distances do not depend on the order of the two trees (whenever they are defined) -/
theorem symmetric (s o : Rose) (v : Int) :
    (wrf s o = .ok v → wrf o s = .ok v) ∧ (kf2 s o = .ok v → kf2 o s = .ok v) := by
  -- a length-carrying map lists every split once, so `sumOver_symm` applies
  have nd : ∀ (t : Rose) (m : PM), (partitions t >>= withLengths) = .ok m → (m.map (·.1)).Nodup := by
    intro t m h
    cases hp : partitions t with
    | ok ps => rw [hp] at h; rw [withLengths_keys ps m h]; exact C05.partitions_nodup t ps hp
    | err e => rw [hp] at h; cases h
    | panic => rw [hp] at h; cases h
  have key : ∀ (f : Int → Int), (∀ x, f (-x) = f x) →
      ((do let ms ← (partitions s) >>= withLengths
           let mo ← (partitions o) >>= withLengths
           pure (sumOver f ms mo) : QR Int) = .ok v) →
      ((do let ms ← (partitions o) >>= withLengths
           let mo ← (partitions s) >>= withLengths
           pure (sumOver f ms mo) : QR Int) = .ok v) := by
    intro f hf h
    cases hs : partitions s >>= withLengths with
    | ok ms =>
      cases ho : partitions o >>= withLengths with
      | ok mo =>
        rw [hs, ho] at h
        rw [← h]
        exact congrArg QR.ok (sumOver_symm f hf mo ms (nd o mo ho) (nd s ms hs))
      | err e => rw [hs, ho] at h; cases h
      | panic => rw [hs, ho] at h; cases h
    | err e => rw [hs] at h; cases h
    | panic => rw [hs] at h; cases h
  exact ⟨key iabs iabs_neg, key (fun x => x * x) (fun x => Int.neg_mul_neg x x)⟩

end C07
