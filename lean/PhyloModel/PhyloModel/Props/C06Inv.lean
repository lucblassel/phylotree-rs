import PhyloModel.Props.C05Inv
import PhyloModel.Split.ReorderDist
import PhyloModel.Split.RFCongr
/-! # C06 — invariances of the Robinson–Foulds distance, for the EXECUTABLE model `SPM.rf`

RF between a tree and any child-reordering of itself is zero (also with two-child roots: no correction), RF
does not see child order or unary nodes in either argument, the two drawings of one unrooted tree are at
distance zero, and RF (value, root correction, the different-leaf-set rejection, every error), its normalised
pair and the combined report are unchanged by a consistent injective renaming of the taxa of both trees. -/
namespace C06
open AR SPM

/-- **zero against any child-reordering of itself**, in both argument orders; normalised: numerator 0; a tree
    without a bipartition set gives its own error -/
theorem rf_reorder_self {t t' : Rose} (h : ReorderR t t') :
    (∀ ps, partitions t = .ok ps →
      rf t t' = .ok 0 ∧ rf t' t = .ok 0 ∧ rfNorm t t' = .ok (0, ps.length + ps.length)) ∧
    (∀ e, partitions t = .err e → rf t t' = .err e ∧ rf t' t = .err e) :=
  ⟨fun ps hps => by
    obtain ⟨ps', hps', he⟩ := partitions_reorder h ps hps
    have z := rf_reorder_zero h ps hps
    exact ⟨z.1, z.2, by simp [rfNorm, z.1, hps, hps', he.length]⟩,
   fun e hps => by
    have hps' := partitions_reorder_err h e hps
    simp [rf, hps, hps']⟩

/-- **RF does not see child order**: reordering either tree or both changes neither `rf` nor the normalised
    pair (values, correction and errors alike) -/
theorem rf_reorder_invariant {s s' o o' : Rose} (h1 : ReorderR s s') (h2 : ReorderR o o') :
    rf s' o' = rf s o ∧ rfNorm s' o' = rfNorm s o :=
  ⟨rf_congr (rfSame_of_reorder h1) (rfSame_of_reorder h2), rfNorm_congr (rfSame_of_reorder h1) (rfSame_of_reorder h2)⟩

/-- RF does not see unary nodes, in either argument; a tree is at distance zero from itself with unary nodes
    inserted -/
theorem rf_unary_invariant {s s' o o' : Rose} (h1 : UnaryEq s s') (h2 : UnaryEq o o') :
    rf s' o' = rf s o ∧ (∀ ps, partitions s = .ok ps → rf s s' = .ok 0) :=
  ⟨rf_congr (rfSame_of_unary h1) (rfSame_of_unary h2), (rfSame_of_unary h1).sameReport.rf_zero⟩

/-- the two-child and the dissolved drawing of one unrooted tree are at RF distance zero -/
theorem rf_root_style (i : Nat) (n : Option String) (l : Option Int) (d : Nat)
    (ix : Nat) (nx : Option String) (lx : Option Int) (dx : Nat) (kx : List Rose) (Y : Rose)
    (i' : Nat) (n' : Option String) (l' : Option Int) (d' : Nat) (hkx : kx ≠ []) (ps : List Part)
    (hps : partitions (.node i n l d [.node ix nx lx dx kx, Y]) = .ok ps) :
    rf (.node i n l d [.node ix nx lx dx kx, Y]) (.node i' n' l' d' (kx ++ [Y])) = .ok 0 :=
  (sameReport_root_style i n l d ix nx lx dx kx Y i' n' l' d' hkx).rf_zero ps hps

/-- **consistent renaming**: for an injective `f` applied to the tips of both trees (internal names changed
    arbitrarily), `rf`, the normalised pair and the combined report are unchanged — the same value, the same
    +2 correction, the same `DifferentTipIndices` rejection, the same errors -/
theorem rf_rename_invariant {f : String → String} (hf : Function.Injective f)
    (g g' : Option String → Option String) (s o : Rose) :
    rf (renameR f g s) (renameR f g' o) = rf s o ∧
    rfNorm (renameR f g s) (renameR f g' o) = rfNorm s o ∧
    compareTopologies (renameR f g s) (renameR f g' o) = compareTopologies s o :=
  ⟨rf_renameR hf g g' s o, rfNorm_renameR hf g g' s o, compareTopologies_renameR hf g g' s o⟩

/-- non-vacuity: the reordered example pair of C05Inv is at distance 0, the value is produced (not an error) -/
example : rf C05.ex1 C05.ex2 = .ok 0 ∧ rfNorm C05.ex1 C05.ex2 = .ok (0, 4) := by
  have h := rf_reorder_self C05.ex12_reorder
  have := h.1 _ C05.ex1_partitions
  exact ⟨this.1, this.2.2⟩

/-- the renaming theorem instantiated: an injective renaming that changes the sorted order, applied to the
    two-child drawing `ex1` and the three-child drawing `ex3` (their distance is 0) -/
example : rf (renameR C05.exF id C05.ex1) (renameR C05.exF id C05.ex3) = rf C05.ex1 C05.ex3 :=
  (rf_rename_invariant C05.exF_inj id id C05.ex1 C05.ex3).1

end C06
