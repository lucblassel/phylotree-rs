import PhyloModel.Arena.PruneBTop
import PhyloModel.Arena.Compress3
import PhyloModel.Arena.Group
import PhyloModel.Arena.OneRoot
/-! # C03 — the arena stays one consistent rooted tree under every edit history

Property theorems only (helper lemmas live in `PhyloModel/Arena`).  `AR.Inv` is the arena invariant of the
property: every live non-root node is listed exactly once by the live node it names as parent, parents and
children are live, the two records of a branch length agree, and the cached depth of a child is its
parent's plus one (zero at a root) — hence the depth of every node is its number of edges to the root. -/
namespace C03
open AR

/-- `add_child` preserves the invariant, for every parent argument (a rejected call returns `none`). -/
theorem add_child_preserves (a : Arena) (p : Nat) (e : Option Int) (a' : Arena) (id : Nat)
    (hinv : Inv a) (h : addChild a p e = some (a', id)) : Inv a' ∧ id = a.size ∧ a'.size = a.size + 1 :=
  addChild_inv a p e a' id hinv h

/-- recursive `prune` terminates and preserves the invariant, with the exact frame: a slot dies iff it
    lies below the pruned node; everything else is untouched except the parent, which loses the pruned node
    from its child list and edge map. -/
theorem prune_preserves (f D : Nat) (a : Arena) (c : Nat) (hinv : Inv a) (ht : Tomb a) (hl : live a c)
    (hD : ∀ i, live a i → (nd a i).depth ≤ D) (hf : D < f + (nd a c).depth) :
    ∃ a1, pruneF f a c = some a1 ∧ PruneOK2 a a1 c :=
  prune_main2 f D a c hinv ht hl hD hf

/-- `compress_node` (slot updates followed by the depth repair) preserves the invariant. -/
theorem compress_node_preserves (a : Arena) (v p c : Nat) (e : Option Int) (hinv : Inv a) (hlv : live a v)
    (hpar : (nd a v).parent = some p) (hch : (nd a v).children = [c]) (D : Nat)
    (hD : ∀ i, live a i → (nd a i).depth ≤ D) :
    ∃ a', resetF (D + 1) (splice a v p c e) c ((nd (splice a v p c e) p).depth + 1) = some a' ∧ Inv a' :=
  compressNode_inv a v p c e hinv hlv hpar hch D hD

/-- regrouping two distinct children under a fresh node followed by the depth repair on both
    (`merge_children` on siblings, one round of `resolve`) preserves the invariant. -/
theorem group_preserves (a : Arena) (q c1 c2 : Nat) (pe e1 e2 : Option Int) (hinv : Inv a) (hlq : live a q)
    (hm1 : c1 ∈ (nd a q).children) (hm2 : c2 ∈ (nd a q).children) (h12 : c1 ≠ c2) (D : Nat)
    (hD : ∀ i, live a i → (nd a i).depth ≤ D) :
    ∃ b1 b2, resetF (2 * D + 3) (group a q c1 c2 pe e1 e2) c1 ((nd a q).depth + 2) = some b1 ∧
      resetF (2 * D + 3) b1 c2 ((nd a q).depth + 2) = some b2 ∧ Inv b2 :=
  group_inv a q c1 c2 pe e1 e2 hinv hlq hm1 hm2 h12 D hD

/-- `reset_depth_impl` terminates on any acyclic arena (ghost rank `r`), keeps size, links and liveness
    (`ResetOK.eqv`; the other fields: `AR.resetF_same`, `AR.resetF_name`) and sets the depth of every node
    `k` levels below `x` to `d + k`: from arbitrary stale depths,
    `reset_depths` re-establishes "depth = number of edges to the root". -/
theorem reset_depths_spec (f D : Nat) (r : Nat → Nat) (a : Arena) (x d : Nat) (w : W a r) (hl : live a x)
    (hD : ∀ i, live a i → r i ≤ D) (hf : D < f + r x) :
    ∃ a', resetF f a x d = some a' ∧ ResetOK a a' x d :=
  reset_main f D r a x d w hl hD hf

/-- more fuel never changes the result of the recursive operations -/
theorem fuel_irrelevant (f g : Nat) (hfg : f ≤ g) (a : Arena) (x d : Nat) (a' : Arena) :
    (resetF f a x d = some a' → resetF g a x d = some a') ∧
    (pruneF f a x = some a' → pruneF g a x = some a') :=
  ⟨resetF_mono f g hfg a x d a', pruneF_mono f g hfg a x a'⟩

/-- **every operation**: each public construction or editing operation of the executable model, with
    arbitrary arguments (node ids that are removed, out of range, not siblings, …), maps an arena satisfying
    the invariant (with blank tombstones) to one satisfying it, and never exhausts the recursion fuel the
    executable model supplies — so the model's outcome is the operation's outcome, not an artefact of fuel. -/
theorem every_operation_preserves (a : Arena) (op : Op) (g : Good a) :
    Good (applyOp a op).1 ∧ (applyOp a op).2 ≠ .diverge :=
  applyOp_good op g

/-- **every history**: after any sequence of operations from the empty arena the invariant holds: every
    live non-root node is listed exactly once (`nodup`) by the live node it names as parent, children and
    parents are live, both records of a branch length agree, depths count edges. -/
theorem every_history (ops : List Op) : Inv (runOps #[] ops) ∧ Tomb (runOps #[] ops) :=
  runOps_good ops empty_good

/-- the depth stored for a live node after any history is its number of edges to the root: its chain of
    ancestors has exactly `depth + 1` nodes -/
theorem depth_counts_edges (ops : List Op) (x : Nat) (hl : live (runOps #[] ops) x) :
    ∃ l, Path (runOps #[] ops) l x ∧ l.length = (nd (runOps #[] ops) x).depth + 1 :=
  depth_is_edges_to_root (every_history ops).1 x hl

/-- **exactly one rooted tree**: along any history whose `add` calls (the only operation that creates a
    parentless node) happen on an arena without a live root, the live nodes always form one rooted tree:
    one parentless live node, returned by `get_root`, with every live node below it. -/
theorem one_rooted_tree (ops : List Op) (hadm : AdmissibleRun #[] ops) (x : Nat) (hl : live (runOps #[] ops) x) :
    ∃ t, isRoot (runOps #[] ops) t ∧ getRoot (runOps #[] ops) = some t ∧
      (∀ t', isRoot (runOps #[] ops) t' → t' = t) ∧ ∀ y, live (runOps #[] ops) y → ∃ k, BelowK (runOps #[] ops) t y k := by
  have h0 : AtMostOneRoot (#[] : Arena) := fun i _ hi _ => absurd hi.1.1 (by simp)
  obtain ⟨g, h1⟩ := runOps_oneRoot ops empty_good h0 hadm
  exact one_tree g.1 h1 x hl

/-- an admissible operation (`add` only on an arena without a live root) keeps "at most one parentless live
    node": no operation other than `add` creates one -/
theorem no_new_root (a : Arena) (op : Op) (g : Good a) (h1 : AtMostOneRoot a) (hadm : Admissible a op) :
    AtMostOneRoot (applyOp a op).1 :=
  applyOp_oneRoot op g h1 hadm

/-- non-vacuity: an admissible history with an accepted and a refused call; the Boolean form of the
    invariant evaluates to true on its result -/
example : checkInv (runOps #[] [.add none, .addChild 0 (some 3) none, .addChild 0 none (some "x"),
    .addChild 7 none none, .merge 1 2 (some 1) (some 2) none none, .prune 1, .compress]) = true := by decide

/-- non-vacuity: a concrete three-node arena satisfies the invariant's Boolean form -/
example : checkInv ((addChildNamed (addChildNamed (add #[] none).1 0 (some 3) none).1 0 none (some "x")).1) = true := by
  decide

end C03
