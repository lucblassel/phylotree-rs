import PhyloModel.Upgma.Step
import PhyloModel.Matrix.Upgma
import PhyloModel.Upgma.UltraTree
/-! # C15 — UPGMA builds the correct ultrametric clustering tree

Two layers.  `UPG.upgma` (Matrix/Upgma.lean) transcribes the loop of `DistanceMatrix::upgma` over exact
rationals — triangular vector, retired rows set to infinity, first strict minimum in cell order, cardinality-
weighted update, heights, tree assembly.  What the driver runs against the crate (topology, child order, names and
lengths compared on every case) is `UPG.upgmaC` (Matrix/UpgmaClamp.lean: the same loop with the crate's clamp of computed
branch lengths at zero) and `UPG.upgmaShape` (Matrix/UpgmaArena.lean: the arena calls); under the hypotheses of the
theorems below `upgmaC = upgma` (`C15.upgmaC_eq_upgma`, Props/C15Clamp.lean), which carries them over to what the driver
runs.  `UP` (Upgma/) is the abstract agglomeration state (active
indices, distances as a function, ghost member lists, heights) on which the property's mathematical content
is proved: the code's size-weighted update IS average linkage of the merged cluster, every live cell stays the
average of the original distances between the clusters it joins, and merging a minimal pair keeps heights
monotone, which makes the two new branch lengths non-negative.

The refinement from the transcribed loop to the abstract step, the tree-side bookkeeping and the recovery of
ultrametric inputs are theorems about the EXECUTABLE `UPG.step` / `UPG.loop` / `UPG.upgma` (second half of this file;
`Upgma/RefineBase`, `RefineDm`, `Refine`, `UTree`, `LoopInv`, `Shape`, `Equidist`, `AvgLink`, `Ultra`, `UltraTree`): one
iteration refines `UP.merge` at a minimal live pair and cannot fail; for every symmetric non-negative input on two or
more taxa the result is a rooted binary tree whose leaf names are the taxa, all leaves equidistant from the root,
every branch length non-negative, whose internal nodes are exactly the merge events of a complete run of
average-linkage clustering from its definition; for ultrametric input the leaf-to-leaf path lengths are the input.
Floating-point rounding is outside the model: the exact-model correspondence and the oracles on the real result
(equidistant leaves, non-negative lengths, naive clustering, reproduction of ultrametric inputs) tie the crate to it. -/
namespace C15
open UP

variable (d0 : Nat → Nat → Rat)

/-- the size-weighted update of the code is average linkage of the merged cluster: if `dax` is the average of
    the original distances between `A` and `X` and `dbx` that between `B` and `X`, then
    `(|A|·dax + |B|·dbx)/(|A|+|B|)` is the average between `A ++ B` and `X` -/
theorem update_is_average_linkage (A B X : List Nat) (dax dbx : Rat) (hA : A ≠ []) (hB : B ≠ []) (hX : X ≠ [])
    (h1 : IsAvg d0 dax A X) (h2 : IsAvg d0 dbx B X) :
    IsAvg d0 (((A.length : Rat) * dax + (B.length : Rat) * dbx) / ((A.length : Rat) + (B.length : Rat))) (A ++ B) X :=
  avg_update d0 A B X dax dbx hA hB hX h1 h2

/-- one agglomeration step of the code (reuse index `a`, retire `b`, size-weighted update) keeps every live
    cell equal to the average of the ORIGINAL distances between the two clusters it joins -/
theorem step_keeps_linkage (hd : ∀ x y, d0 x y = d0 y x) (s : St) (a b : Nat) (hl : Link d0 s)
    (ha : a ∈ s.act) (hb : b ∈ s.act) (hab : a ≠ b) : Link d0 (merge s a b) :=
  merge_link d0 hd s a b hl ha hb hab

/-- merging a pair at minimal average-linkage distance keeps the merge heights monotone, and the two new
    branch lengths (merge height minus the heights of the merged clusters) are non-negative -/
theorem step_monotone_nonnegative (s : St) (a b : Nat) (hl : Link d0 s) (hm : Mono s) (ha : a ∈ s.act)
    (hb : b ∈ s.act) (hab : a ≠ b) (hmin : ∀ j k, j ∈ s.act → k ∈ s.act → j ≠ k → s.D a b ≤ s.D j k) :
    Mono (merge s a b) ∧ 0 ≤ s.D a b / 2 - s.h a ∧ 0 ≤ s.D a b / 2 - s.h b :=
  merge_mono d0 s a b hl hm ha hb hab hmin

/-- a size-weighted mean of two values that are at least `m` is at least `m` (reducibility of average linkage) -/
theorem weighted_mean_ge (ca cb x y m : Rat) (ha : 0 < ca) (hb : 0 < cb) (hx : m ≤ x) (hy : m ≤ y) :
    m ≤ (ca * x + cb * y) / (ca + cb) :=
  wavg_ge ca cb x y m ha hb hx hy

/-- the minimum search of the transcribed loop treats a retired (infinite) cell as larger than every finite
    one and never prefers a later equal cell (first minimum in cell order) -/
theorem min_search_order (x y : Rat) :
    UPG.cellLt (some x) none = true ∧ UPG.cellLt none (some y) = false ∧ UPG.cellLt (some x) (some x) = false ∧
    UPG.cellLt none none = false := by
  simp [UPG.cellLt]

/-- non-vacuity of `step_keeps_linkage`'s hypotheses: the initial state (singleton clusters, `D = d0`) is linked -/
example (hd : ∀ x y, d0 x y = d0 y x) : Link d0 { act := [0, 1, 2], D := d0, mem := fun i => [i], h := fun _ => 0 } := by
  constructor
  · simp
  · intro i _; simp
  · intro i j _ _; exact hd i j
  · intro i j _ _ _; simp [IsAvg, S, sumL]; grind


/-! ## C15 — UPGMA builds the correct ultrametric clustering tree: theorems about the EXECUTABLE model

These are about `UPG.step` / `UPG.loop` / `UPG.upgma` (Matrix/Upgma.lean), the transcription of
`DistanceMatrix::upgma` without the clamp; the driver runs `UPG.upgmaC`, which under the hypotheses below returns the same
(`C15.upgmaC_eq_upgma`, Props/C15Clamp.lean restates the theorems for it).

Hypotheses common to all results: `taxa : List String` with `2 ≤ taxa.length`; the row-wise lower-triangular
vector `v : Array Rat` has `v.size = T taxa.length` (symmetry is by construction of the triangular store);
every entry is non-negative.  `d0of v i j` is the input read as a symmetric function with zero diagonal.
The bookkeeping outputs (`margin`, `tie`, `dyadic`) occur only as "don't care" components.

* `step_refines`, `step_total` — one loop iteration refines `UP.merge` and cannot fail
* `upgma_tree` — the combined statement: success, binary shape, leaves = taxa, equidistant leaves,
  non-negative lengths, internal nodes = a complete run of average-linkage clustering from its definition
* `upgma_recovers_ultrametric` — for ultrametric input the leaf-to-leaf path lengths are the input -/

open UPG MX Tri MXS

/-- one iteration of the executable loop refines the abstract agglomeration step -/
theorem step_refines {n : Nat} {st st' : UPG.St} {mem : Nat → List Nat} (h : WFSt n st mem) (hs : step st = .ok st') :
    ∃ a b, a ∈ actOf n st ∧ b ∈ actOf n st ∧ a ≠ b ∧
      (∀ j k, j ∈ actOf n st → k ∈ actOf n st → j ≠ k → Dof st a b ≤ Dof st j k) ∧
      WFSt n st' (memAfter mem a b) ∧
      Agree (absSt n st' (memAfter mem a b)) (UP.merge (absSt n st mem) a b) := by
  obtain ⟨a, b, dab, s⟩ := step_spec h hs
  exact ⟨a, b, s.act_a, s.act_b, s.ne, s.min_act.2, s.wf h, s.agree h⟩

/-- ... and on a well-formed state with two or more live clusters it returns neither an error nor a panic -/
theorem step_total {n : Nat} {st : UPG.St} {mem : Nat → List Nat} (h : WFSt n st mem) (h2 : 2 ≤ (actOf n st).length) :
    ∃ st', step st = .ok st' :=
  UPG.step_total h h2

/-- **C15, combined.**  `UPG.upgma` succeeds, and the tree `t` it returns
    * is binary at every internal node, the root has exactly two children, every leaf is named, and the leaf
      names are a permutation of the taxa;
    * has all its leaves at one and the same distance from the root;
    * has a non-negative branch length on every non-root node;
    * has as internal nodes (leaf names below the node, height of the node above its leaves) exactly the
      merge events of a complete run of average-linkage clustering from its definition (`AvgRun`), which are
      the events the instrumented run `upgmaTr` records. -/
theorem upgma_tree (taxa : List String) (v : Array Rat) (h2 : 2 ≤ taxa.length) (hv : v.size = T taxa.length)
    (hpos : ∀ k, k < v.size → 0 ≤ v.getD k 0) :
    ∃ t m tie dy, upgma taxa v = .ok (t, m, tie, dy) ∧
      (isBin t = true ∧ t.kids.length = 2 ∧ (leafNames t).Perm (taxa.map some)) ∧
      (∃ h, ∀ d, d ∈ leafDepths t → d = h) ∧
      NonNegLens t ∧
      (∃ evs k cl, upgmaTr taxa v = .ok evs ∧
        AvgRun (d0of v) (List.range taxa.length) (fun i => [i]) evs [k] cl ∧
        (cl k).Perm (List.range taxa.length) ∧ evs.length = taxa.length - 1 ∧
        ∀ x, x ∈ nodeInfo t ↔ ∃ e, e ∈ evs ∧ x = evInfo taxa e) := by
  obtain ⟨t, m, tie, dy, evs, k, cl, hup, htr, hrun, hperm, hlen, hnodes⟩ := upgma_average_linkage taxa v h2 hv hpos
  obtain ⟨_, h, hdepth, _⟩ := (upgma_cinv qmerge_depth taxa v (qinit_depth taxa) h2 hv hpos).2 t m tie dy hup
  refine ⟨t, m, tie, dy, hup, upgma_shape taxa v h2 hv hpos t m tie dy hup, ⟨h, hdepth⟩,
    (upgma_ok_nonneg taxa v h2 hv hpos).2 t m tie dy hup,
    evs, k, cl, htr, hrun, hperm, hlen, fun x => ?_⟩
  rw [hnodes.mem_iff, List.mem_map]
  exact ⟨fun ⟨e, he, h⟩ => ⟨e, he, h.symm⟩, fun ⟨e, he, h⟩ => ⟨e, he, h.symm⟩⟩

/-- **C15, ultrametric input.**  If moreover the input satisfies the three-point condition, the matrix of
    leaf-to-leaf path lengths of the returned tree is the input matrix (`A` lists the taxon indices in leaf
    order). -/
theorem upgma_recovers_ultrametric (taxa : List String) (v : Array Rat) (h2 : 2 ≤ taxa.length)
    (hv : v.size = T taxa.length) (hpos : ∀ k, k < v.size → 0 ≤ v.getD k 0) (hu : Ultra (d0of v) taxa.length) :
    ∃ t m tie dy A, upgma taxa v = .ok (t, m, tie, dy) ∧ A.Perm (List.range taxa.length) ∧
      leafNames t = A.map (fun i => some (nameOf taxa i)) ∧ distM t = matOf (d0of v) A :=
  UPG.upgma_recovers_ultrametric taxa v h2 hv hpos hu

end C15
