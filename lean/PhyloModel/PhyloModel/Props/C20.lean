import PhyloModel.Props.C02
import PhyloModel.Props.C14
import PhyloModel.Props.C17
import PhyloModel.Props.C08
import PhyloModel.Props.C15
import PhyloModel.Props.C18
import PhyloModel.Props.C03
import PhyloModel.Arena.DepthBound
import PhyloModel.Arena.PruneBTop
import PhyloModel.Arena.ResetTop
import PhyloModel.Arena.CliReportFacts
/-! # C20 — failures are reported as errors, never as panics or hangs

In the model every partial operation of the Rust code (unwrap, index, checked arithmetic, `unreachable!`) is an
explicit `.panic` outcome, and unbounded recursion is running out of fuel (`none` / `.diverge`).  This file
collects, per function family, the theorems that no such outcome is reachable: the parser (all strings), the
Phylip parsers (all texts), the loop of `generate_tree` (all oracles; `generate_yule`: `C17.yule_valid`), the
recursive arena functions (termination under the forest invariant `Inv` — which has no single-root clause —
from the depth bound `depth < size`), and the read-only arena queries (no `.panic` constructor is reachable for ANY arena, because
dead or out-of-range ids are tested before use).  The cross product of every public function with every
class of degenerate value is executed on the real crate on every run, each call isolated.
Not exhibitable by the model: stack exhaustion on extremely deep trees, allocation failure for absurd sizes. -/
namespace C20
open AR

def QR.isPanic {α : Type} : QR α → Bool
  | .panic => true
  | _ => false

@[simp] theorem isPanic_ok {α : Type} (v : α) : QR.isPanic (QR.ok v) = false := rfl
@[simp] theorem isPanic_err {α : Type} (k : String) : QR.isPanic (QR.err k : QR α) = false := rfl
@[simp] theorem isPanic_bind {α β : Type} (x : QR α) (f : α → QR β) :
    QR.isPanic (x >>= f) = (QR.isPanic x || match x with | .ok v => QR.isPanic (f v) | _ => false) := by
  cases x <;> simp [QR.isPanic, bind]
@[simp] theorem isPanic_ofOpt {α : Type} (o : Option α) (k : String) : QR.isPanic (QR.ofOpt o k) = false := by
  cases o <;> simp [QR.ofOpt]
@[simp] theorem isPanic_pure {α : Type} (v : α) : QR.isPanic (pure v : QR α) = false := rfl

/-- the Newick parser never panics, for every string (from C02) -/
theorem parser_never_panics {L : Type} (parseLen : NW.Label → Option L) (cs : List Char) :
    NW.parse parseLen cs ≠ .panic := (C02.parse_total_wf parseLen cs).1

/-- the triangular Phylip parser never panics, for every text (from C14) -/
theorem phylip_tril_never_panics {L : Type} [Inhabited L] (cd : PHY.Codec L) (text : PHY.Text) :
    PHY.fromPhylipTril cd text ≠ .panic := C14.tril_total cd text

/-- the loop of `generate_tree` never fails, for every outcome of the random choices (from C17) -/
theorem generators_never_fail (bs : List Bool) : ∃ s, GEN.runG GEN.init bs = some s := by
  obtain ⟨s, h, _⟩ := C17.ete3_valid bs
  exact ⟨s, h⟩

/-- recursive `prune` terminates with the model's fuel on every well-formed arena (forest invariant) -/
theorem prune_terminates (a : Arena) (hinv : Inv a) (ht : Tomb a) (x : Nat) (hl : live a x) :
    ∃ a', pruneF (fuelOf a) a x = some a' := by
  obtain ⟨a', h, _⟩ := prune_main2 (fuelOf a) a.size a x hinv ht hl (depth_le_size hinv) (by unfold fuelOf; omega)
  exact ⟨a', h⟩

/-- `reset_depth_impl` terminates with the model's fuel on every well-formed arena -/
theorem reset_terminates (a : Arena) (hinv : Inv a) (x d : Nat) (hl : live a x) :
    ∃ a', resetF (fuelOf a) a x d = some a' := by
  obtain ⟨a', h, _⟩ := reset_main (fuelOf a) a.size (fun i => (nd a i).depth) a x d hinv.toW hl
    (depth_le_size hinv) (by unfold fuelOf; omega)
  exact ⟨a', h⟩

/-- the path / ancestor / distance queries never panic, for ANY arena and ANY ids (dead, removed, out of
    range, different components): every failure is an `err` -/
theorem path_queries_never_panic (a : Arena) (s t : Nat) :
    QR.isPanic (pathFromRoot a s) = false ∧ QR.isPanic (commonAncestor a s t) = false ∧
    QR.isPanic (distance a s t) = false := by
  have key : ∀ {α : Type} {x : QR α}, CLIR.NP x → QR.isPanic x = false :=
    fun {_ x} h => by
      cases x with
      | panic => exact absurd rfl h
      | _ => rfl
  exact ⟨key (CLIR.np_pathFromRoot a s), key (CLIR.np_commonAncestor a s t), key (CLIR.np_distance a s t)⟩

/-- root and rootedness queries never panic, for any arena (empty, all removed, several roots) -/
theorem root_queries_never_panic (a : Arena) :
    QR.isPanic (root a) = false ∧ QR.isPanic (isRooted a) = false := by
  have key : ∀ {α : Type} {x : QR α}, CLIR.NP x → QR.isPanic x = false :=
    fun {_ x} h => by
      cases x with
      | panic => exact absurd rfl h
      | _ => rfl
  exact ⟨key (CLIR.np_root a), key (CLIR.np_isRooted a)⟩

/-- the traversals never panic, for any arena and any start id -/
theorem traversals_never_panic (a : Arena) (x : Nat) :
    QR.isPanic (subtree a x) = false ∧ QR.isPanic (postorder a x) = false ∧
    QR.isPanic (levelorderQ a x) = false := by
  simp [subtree, postorder, levelorderQ]

/-- the strict Phylip parser never panics either, for every text and both layouts — the positional fill never indexes
    outside the triangular vector (from C14) -/
theorem phylip_strict_never_panics {L : Type} [Inhabited L] (cd : PHY.Codec L) (text : PHY.Text) (square : Bool) :
    PHY.fromPhylipStrict cd text square ≠ .panic := C14.strict_total cd text square

/-- the fast distance matrix on ANY well-formed arena (forest invariant: several roots, removed slots, unnamed or
    repeated leaf names, missing lengths, an emptied arena) answers `UnnamedLeaves`, `RootNotFound` or a matrix: the
    `unwrap` of the cache lookups, the missing-cache error and the index computation are unreachable (from C08) -/
theorem distance_matrix_total (a : Arena) (unit : Int) (hinv : Inv a) :
    (DMF.dmFast a unit = .err "UnnamedLeaves" ∧ ∃ l ∈ leaves a, (nd a l).name = none) ∨
    (DMF.dmFast a unit = .err "RootNotFound" ∧ getRoot a = none ∧ ∀ i, ¬ live a i) ∨
    (∃ names cells, DMF.dmFast a unit = .ok (names, cells)) :=
  C08.dm_fast_total a unit hinv

/-- one iteration of the UPGMA loop on a well-formed state with two or more live clusters cannot fail: the minimum
    search finds a finite cell whose two indices are live (from C15) -/
theorem upgma_step_total {n : Nat} {st : UPG.St} {mem : Nat → List Nat} (h : UPG.WFSt n st mem)
    (h2 : 2 ≤ (UPG.actOf n st).length) : ∃ st', UPG.step st = .ok st' :=
  C15.step_total h h2

/-- ... and `upgma` on every non-negative matrix on two or more taxa returns a tree (from C15) -/
theorem upgma_total (taxa : List String) (v : Array Rat) (h2 : 2 ≤ taxa.length) (hv : v.size = Tri.T taxa.length)
    (hpos : ∀ k, k < v.size → 0 ≤ v.getD k 0) : ∃ r, UPG.upgma taxa v = .ok r :=
  (UPG.upgma_ok_nonneg taxa v h2 hv hpos).1

/-- EVERY editing operation of the model with ARBITRARY arguments (removed or out-of-range ids, equal arguments,
    non-siblings, ill-formed oracles) on a well-formed arena terminates — the recursion fuel is never exhausted — and
    leaves a well-formed arena, whether it succeeds or returns an error (from C03) -/
theorem edits_total (a : Arena) (op : Op) (g : Good a) :
    (applyOp a op).2 ≠ .diverge ∧ Good (applyOp a op).1 :=
  ⟨(applyOp_good op g).2, (applyOp_good op g).1⟩

/-- the command-line `collapse` on a well-formed arena with a root always ends with a tree (from C18) -/
theorem cli_collapse_total {a : Arena} (g : Good a) {r : Nat} (hr : getRoot a = some r) (thr : Int) (ex : Bool) :
    ∃ a', cliCollapse a thr ex = .ok a' := by
  obtain ⟨a', h, _⟩ := C18.collapse_whole_loop g hr thr ex
  exact ⟨a', h⟩

end C20
