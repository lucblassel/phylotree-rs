import PhyloModel.Arena.Traverse
import PhyloModel.Arena.QRLemmas
import PhyloModel.Arena.LevelFacts
import PhyloModel.Arena.Inorder
/-! # C10 — traversals and subtree listings enumerate exactly the subtree, in order

`Rep a i t` says that arena slot `i` represents the rose tree `t` (ids at the nodes, children in child-list
order), whatever the ids are and whatever removed slots lie in between; under the arena invariant every live
slot represents exactly one tree (`rep_exists`, `rep_unique`).  The traversal models mirror the Rust code:
recursive pre-order, post-order and in-order, queue-based level order. -/
namespace C10
open AR

/-- every live slot of a well-formed arena represents exactly one rose tree -/
theorem abstraction_total_unique (a : Arena) (hinv : Inv a) (D : Nat) (hD : ∀ i, live a i → (nd a i).depth ≤ D)
    (i : Nat) (hl : live a i) : ∃ t, Rep a i t ∧ ∀ t', Rep a i t' → t' = t := by
  obtain ⟨t, ht⟩ := rep_exists a hinv D hD (D - (nd a i).depth) i hl (Nat.le_refl _)
  exact ⟨t, ht, fun t' h' => rep_unique a t' t i h' ht⟩

/-- pre-order = the node, then the pre-orders of its children in child order (so every parent precedes its
    children and siblings appear in child order); `get_subtree` is the same list -/
theorem preorder_refines (a : Arena) (t : RTI) (f i : Nat) (h : Rep a i t) (hf : height t ≤ f) :
    preorderF f a i = some (pre t) ∧
    (∀ j ks, pre (.node j ks) = j :: preL ks) ∧ (∀ k ks, preL (k :: ks) = pre k ++ preL ks) :=
  ⟨preorder_rep a t f i h hf, fun j ks => by rw [pre], fun k ks => by rw [preL]⟩

/-- post-order = the post-orders of the children in child order, then the node; it lists exactly the nodes
    pre-order lists (a permutation) -/
theorem postorder_refines (a : Arena) (t : RTI) (f i : Nat) (h : Rep a i t) (hf : height t ≤ f) :
    postorderF f a i = some (post t) ∧ (post t).Perm (pre t) ∧
    (∀ j ks, post (.node j ks) = postL ks ++ [j]) ∧ (∀ k ks, postL (k :: ks) = post k ++ postL ks) :=
  ⟨postorder_rep a t f i h hf, post_perm t, fun j ks => by rw [post], fun k ks => by rw [postL]⟩

/-- level order: the arena queue loop emits exactly the ids the rose-level queue loop emits, and the levels
    (edges below the start node) of the emitted nodes never decrease -/
theorem levelorder_refines (a : Arena) (t : RTI) (f i : Nat) (h : Rep a i t) (hf : szR t ≤ f) :
    levelF f a [i] [] = some ((LV.bfsD f [(toLV t, 0)]).map (·.1)) ∧
    ((LV.bfsD f [(toLV t, 0)]).map (·.2)).Pairwise (· ≤ ·) := by
  constructor
  · have := levelF_rep a f [i] [(t, 0)] [] (by simp [RepL, h]) (by simp [szQ, szRL]; exact hf)
    simpa [lvq] using this
  · exact LV.bfsD_sorted f _ (LV.qinv_single _ _)

/-- the listings are defined from the traversals: `get_subtree` = pre-order, `get_subtree_leaves` = its tips -/
theorem listings (a : Arena) (x : Nat) :
    subtree a x = QR.ofOpt (preorderF (fuelOf a) a x) "NodeNotFound" ∧
    subtreeLeaves a x = (do let l ← subtree a x; pure (l.filter (fun i => (nd a i).children.isEmpty))) :=
  ⟨rfl, rfl⟩

/-- a removed or unknown start node is an error for every traversal -/
theorem dead_start_rejected (a : Arena) (x : Nat) (h : ¬ live a x) :
    preorderF (fuelOf a) a x = none ∧ postorderF (fuelOf a) a x = none ∧ levelorder a x = none ∧
    inorder a x = .err "NodeNotFound" := by
  have hl := isLive_eq_false h
  have h' : ¬ (x < a.size ∧ (nd a x).deleted = false) := h
  refine ⟨?_, ?_, ?_, ?_⟩
  · unfold fuelOf; rw [preorderF]; simp [h']
  · unfold fuelOf; rw [postorderF]; simp [hl]
  · unfold levelorder fuelOf; rw [levelF]; simp [hl]
  · unfold inorder fuelOf; rw [inorderF]; simp [hl]

/-- in-order refuses a node with more than two children -/
theorem inorder_refuses_polytomy (a : Arena) (x c1 c2 c3 : Nat) (rest : List Nat) (hl : live a x)
    (hk : (nd a x).children = c1 :: c2 :: c3 :: rest) : inorder a x = .err "IsNotBinary" := by
  have hl' : isLive a x = true := (isLive_iff a x).mpr hl
  unfold inorder fuelOf; rw [inorderF]; simp [hl', hk]

/-- removed slots are never listed: post-order lists exactly the nodes of the represented tree -/
theorem only_subtree_nodes (a : Arena) (t : RTI) (f i : Nat) (h : Rep a i t) (hf : height t ≤ f) (y : Nat) :
    (∃ l, postorderF f a i = some l ∧ y ∈ l) ↔ y ∈ pre t := by
  rw [postorder_rep a t f i h hf]
  constructor
  · rintro ⟨l, hl, hy⟩; cases hl; exact (post_perm t).mem_iff.mp hy
  · intro hy; exact ⟨post t, rfl, (post_perm t).mem_iff.mpr hy⟩

/-- **closed form under the invariant** (no fuel or representation hypothesis left): on any arena satisfying
    the invariant and any live start node, pre-order and post-order succeed with the fuel the executable
    model supplies, and each lists exactly the nodes below the start node — every one of them, nothing else
    (in particular no removed slot), each exactly once. -/
theorem recursive_traversals_exact (a : Arena) (hinv : Inv a) (i : Nat) (hl : live a i) :
    ∃ t, Rep a i t ∧ preorderF (fuelOf a) a i = some (pre t) ∧ postorderF (fuelOf a) a i = some (post t) ∧
      (pre t).Nodup ∧ (post t).Nodup ∧ (∀ v, v ∈ pre t ↔ ∃ k, BelowK a i v k) ∧
      (∀ v, v ∈ post t ↔ ∃ k, BelowK a i v k) :=
  traversals_total hinv i hl

/-- the same for level order: it succeeds, starts with the start node and lists exactly the nodes below
    it, each exactly once -/
theorem levelorder_exact (a : Arena) (hinv : Inv a) (i : Nat) (hl : live a i) :
    ∃ l, levelorder a i = some l ∧ l.Nodup ∧ (∀ v, v ∈ l ↔ ∃ k, BelowK a i v k) ∧ l.head? = some i :=
  levelorder_closed hinv i hl

/-- the represented tree of a live slot never has more nodes than the arena has slots, so the fuel
    `fuelOf` of every executable traversal suffices -/
theorem fuel_suffices (a : Arena) (hinv : Inv a) (i : Nat) (hl : live a i) :
    ∃ t, Rep a i t ∧ szR t ≤ a.size ∧ height t ≤ fuelOf a ∧ szR t ≤ fuelOf a :=
  rep_total hinv i hl

/-- **in-order**: on any arena satisfying the invariant and any live start node the executable in-order is
    the rose-level in-order of the represented tree — left subtree, then the node, then the right subtree, a
    single child counting as a left child (the three defining equations) — which lists exactly the nodes
    pre-order lists; a node with more than two children anywhere below the start node is refused -/
theorem inorder_exact (a : Arena) (hinv : Inv a) (i : Nat) (hl : live a i) :
    ∃ t, Rep a i t ∧ inorder a i = inoQ t ∧ (∀ l, ino t = some l → l.Perm (pre t)) ∧
      (∀ j, ino (.node j []) = some [j]) ∧
      (∀ j k, ino (.node j [k]) = (ino k).map (· ++ [j])) ∧
      (∀ j k1 k2, ino (.node j [k1, k2]) = (ino k1).bind fun x => (ino k2).map fun y => x ++ [j] ++ y) ∧
      (∀ j k1 k2 k3 ks, ino (.node j (k1 :: k2 :: k3 :: ks)) = none) := by
  obtain ⟨t, ht, he⟩ := inorder_closed hinv i hl
  exact ⟨t, ht, he, ino_perm t, fun j => by rw [ino], fun j k => by rw [ino], fun j k1 k2 => by rw [ino],
    fun j k1 k2 k3 ks => by rw [ino]⟩

/-- non-vacuity: level order of `((2,3)1,(6)5)0`, slot 4 unused -/
example : (LV.bfsD 10 [(toLV (.node 0 [.node 1 [.node 2 [], .node 3 []], .node 5 [.node 6 []]]), 0)]).map (·.1)
    = [0, 1, 5, 2, 3, 6] := by decide

end C10
