import PhyloModel.Arena.CliReportCompareFacts
import PhyloModel.Props.C18
import PhyloModel.Props.C05Inv
/-! # C18, report subcommands — `stats`, `distance`, `compare` print what the library computes for the tree

`Arena/CliReport.lean` transcribes the part of the three report subcommands that is written in the tool itself
(src/bin/phylotree/main.rs): which library functions are asked, in which order, how a refused answer is shown, which
pairs of names are listed, how the counting columns of `compare` are formed.  The theorems below say that this logic adds
nothing of its own: every printed value is the library model's answer for the tree that was read (`AR.treeHeight`, …,
`AR.distancePub`, `SPM.compareTopologies`; what THOSE compute is the subject of C05–C07, C09, C12), the tables are
complete and in argument order, and the three counting columns of `compare` are the sizes of the two set differences and
of the intersection of the two bipartition sets.  A panic / failed `unwrap` of the tool (an error exit) is an `.err`
outcome. -/
namespace C18
open AR SPM CLIR

/-! ## `distance FILE tip1 .. tipk` -/

/-- `combinations(2)` lists `k·(k−1)/2` pairs -/
theorem pairs_in_order_count {α : Type} (l : List α) : (pairsInOrder l).length = l.length * (l.length - 1) / 2 := by
  rw [pairsInOrder_eq, ← List.two_mul_length_pairs, Nat.mul_div_cancel_left _ Nat.zero_lt_two]

/-- a pair is listed iff its first component stands before its second in the argument list -/
theorem pairs_in_order_mem {α : Type} (l : List α) (x y : α) :
    (x, y) ∈ pairsInOrder l ↔ ∃ i j : Nat, i < j ∧ l[i]? = some x ∧ l[j]? = some y :=
  pairsInOrder_eq l ▸ List.mem_pairs l x y

/-- each unordered pair of POSITIONS is listed exactly once: the pairs of positions `(i, j)`, `i < j < k`, form a
    duplicate-free list, and the listed pairs of arguments are the arguments at these positions, in this order (so a name
    given twice is paired with itself and with every other name twice — the tool does not deduplicate) -/
theorem pairs_in_order_once {α : Type} (l : List α) :
    (pairsInOrder (List.range l.length)).Nodup ∧
    (∀ i j, (i, j) ∈ pairsInOrder (List.range l.length) ↔ i < j ∧ j < l.length) ∧
    (pairsInOrder l).map (fun p => (some p.1, some p.2)) =
      (pairsInOrder (List.range l.length)).map (fun p => (l[p.1]?, l[p.2]?)) := by
  refine ⟨pairsInOrder_eq _ ▸ List.pairs_nodup _ List.nodup_range, ?_, pairsInOrder_positions l⟩
  intro i j
  have hr : ∀ n x v : Nat, (List.range n)[x]? = some v ↔ x = v ∧ v < n := by
    intro n x v
    simp only [List.getElem?_eq_some_iff, List.getElem_range, List.length_range]
    exact ⟨fun ⟨h, e⟩ => ⟨e, e ▸ h⟩, fun ⟨e, h⟩ => ⟨e ▸ h, e⟩⟩
  rw [pairsInOrder_eq, List.mem_pairs]
  constructor
  · rintro ⟨x, y, hxy, hx, hy⟩
    obtain ⟨rfl, _⟩ := (hr _ _ _).mp hx
    obtain ⟨rfl, hy⟩ := (hr _ _ _).mp hy
    exact ⟨hxy, hy⟩
  · rintro ⟨hij, hj⟩
    exact ⟨i, j, hij, (hr _ _ _).mpr ⟨rfl, Nat.lt_trans hij hj⟩, (hr _ _ _).mpr ⟨rfl, hj⟩⟩

example : pairsInOrder ["a", "b", "c", "a"] = [("a", "b"), ("a", "c"), ("a", "a"), ("b", "c"), ("b", "a"), ("c", "a")] := by
  decide


/-- **the distance table is complete and ordered**: when the tool succeeds, it prints `k·(k−1)/2` rows, the name columns
    are the pairs of arguments in `combinations(2)` order, and every row's value is the sum of branch lengths the library
    returns (`get_distance`, with all lengths on the path present) for the two nodes the library finds under these names
    (`get_by_name`) -/
theorem distance_table_complete (a : Arena) (tips : List String) (rows : List (String × String × Int))
    (h : cliDistance a tips = .ok rows) :
    rows.length = tips.length * (tips.length - 1) / 2 ∧
    rows.map (fun r => (r.1, r.2.1)) = pairsInOrder tips ∧
    ∀ r ∈ rows, ∃ i j c, getByName a r.1 = some i ∧ getByName a r.2.1 = some j ∧
      distancePub a i j = .ok (some r.2.2, c) := by
  unfold cliDistance at h
  refine ⟨by rw [mapQ_ok_length h, pairs_in_order_count], mapQ_ok_map (g := fun r => (r.1, r.2.1)) ?_ h, ?_⟩
  · intro p r hr
    obtain ⟨h1, h2, _⟩ := (distanceRow_ok_iff a p r).mp hr
    exact Prod.ext h1 h2
  · intro r hr
    obtain ⟨p, _, hpr⟩ := mapQ_ok_mem_right h hr
    obtain ⟨h1, h2, i, j, c, hi, hj, hd⟩ := (distanceRow_ok_iff a p r).mp hpr
    exact ⟨i, j, c, h1 ▸ hi, h2 ▸ hj, hd⟩

/-- **when the tool succeeds**: exactly when, for every listed pair, both names are found and the library returns a
    distance with all branch lengths on the path present -/
theorem distance_ok_iff (a : Arena) (tips : List String) :
    (∃ rows, cliDistance a tips = .ok rows) ↔
      ∀ p ∈ pairsInOrder tips, ∃ i j v c, getByName a p.1 = some i ∧ getByName a p.2 = some j ∧
        distancePub a i j = .ok (some v, c) := by
  unfold cliDistance
  rw [mapQ_isOk_iff]
  refine forall₂_congr fun p _ => ⟨fun ⟨r, hr⟩ => ?_, fun ⟨i, j, v, c, hi, hj, hd⟩ => ?_⟩
  · obtain ⟨_, _, i, j, c, hi, hj, hd⟩ := (distanceRow_ok_iff a p r).mp hr
    exact ⟨i, j, _, c, hi, hj, hd⟩
  · exact ⟨(p.1, p.2, v), (distanceRow_ok_iff a p _).mpr ⟨rfl, rfl, i, j, c, hi, hj, hd⟩⟩

/-- with at least two names given, success means in particular that EVERY given name is the name of a node (with fewer
    than two names no pair is listed and no name is looked up) -/
theorem distance_every_name_resolves (a : Arena) (tips : List String) (rows : List (String × String × Int))
    (h : cliDistance a tips = .ok rows) (h2 : 2 ≤ tips.length) : ∀ n ∈ tips, ∃ i, getByName a n = some i := by
  intro n hn
  have hall := (distance_ok_iff a tips).mp ⟨rows, h⟩
  obtain ⟨m, hm | hm⟩ := exists_pair_of_mem h2 hn
  · obtain ⟨i, _, _, _, hi, _⟩ := hall _ hm
    exact ⟨i, hi⟩
  · obtain ⟨_, j, _, _, _, hj, _⟩ := hall _ hm
    exact ⟨j, hj⟩

/-- **refusals**: the tool never ends otherwise than with rows or an error exit; the error is that of the FIRST listed pair
    that fails, all pairs before it having a row -/
theorem distance_first_failure (a : Arena) (tips : List String) (k : String) :
    cliDistance a tips ≠ .panic ∧
    (cliDistance a tips = .err k ↔ ∃ pre p post, pairsInOrder tips = pre ++ p :: post ∧
      (∀ q ∈ pre, ∃ r, distanceRow a q = .ok r) ∧ distanceRow a p = .err k) :=
  ⟨mapQ_np _ (distanceRow_np a) _, mapQ_err_iff _ k _⟩

/-- the three ways one pair fails: a name that no node carries; a path with a missing branch length; a distance the
    library refuses (`get_by_name` also finds removed slots — not reachable for a tree that was just read) -/
theorem distance_row_refusals (a : Arena) (p : String × String) (k : String) :
    distanceRow a p = .err k ↔
      ((getByName a p.1 = none ∨ getByName a p.2 = none) ∧ k = "panic-unknown-name") ∨
      (∃ i j, getByName a p.1 = some i ∧ getByName a p.2 = some j ∧
        ((∃ c, distancePub a i j = .ok (none, c)) ∧ k = "panic-missing-length" ∨
         (∀ r, distancePub a i j ≠ .ok r) ∧ k = "panic-distance-refused")) := by
  unfold distanceRow
  cases h1 : getByName a p.1 with
  | none => simp [eq_comm]
  | some i =>
    cases h2 : getByName a p.2 with
    | none => simp [eq_comm]
    | some j =>
      simp only [reduceCtorEq, or_self, false_and, Option.some.injEq, exists_and_left, exists_eq_left', false_or]
      cases hd : distancePub a i j with
      | ok r =>
        obtain ⟨d, c⟩ := r
        cases d <;> simp [eq_comm]
      | err e => simp [eq_comm]
      | panic => simp [eq_comm]

/-- `distance exT A C D` on `((A:3,B:4):1,C:2,(D:1):5);` — three rows, in argument order; an unknown name is an error exit,
    but only when it occurs in a pair -/
example : cliDistance exT ["A", "C", "D"] = .ok [("A", "C", 6), ("A", "D", 10), ("C", "D", 8)] ∧
    cliDistance exT ["D", "A"] = .ok [("D", "A", 10)] ∧
    cliDistance exT ["A", "X", "C"] = .err "panic-unknown-name" ∧
    cliDistance exT ["X"] = .ok [] := by decide

/-- a missing length on the path: `(A,B:1)` read as root 0 with tips 1 = A (no length) and 2 = B -/
def rexMissing : Arena := runOps #[] [.add none, .addChild 0 none (some "A"), .addChild 0 (some 1) (some "B")]
example : cliDistance rexMissing ["A", "B"] = .err "panic-missing-length" ∧ cliDistance rexMissing ["B", "B"] = .ok [("B", "B", 0)] := by
  decide


/-! ## `stats F1 .. Fk` -/

/-- how one optional column relates to the library's answer -/
def Shows {α : Type} (field : Option α) (answer : QR α) : Prop :=
  (∀ v, field = some v ↔ answer = .ok v) ∧ (field = none ↔ ∃ k, answer = .err k)

/-- **a stats row is the library's answers**: each of the seven optional columns shows the value exactly when the library
    returns it and `-` exactly when the library refuses (the seven functions never end otherwise); `nodes` is `size()`
    — the number of arena slots — and `tips` is `n_leaves()` -/
theorem stats_row_is_library (a : Arena) (unit : Int) :
    Shows (statsRow a unit).height (treeHeight a unit) ∧
    Shows (statsRow a unit).diameter (diameter a unit) ∧
    (statsRow a unit).nodes = AR.sizeOf a ∧
    (statsRow a unit).tips = nLeaves a ∧
    Shows (statsRow a unit).rooted (isRooted a) ∧
    Shows (statsRow a unit).binary (isBinary a) ∧
    Shows (statsRow a unit).cherries (cherries a) ∧
    Shows (statsRow a unit).colless (colless a) ∧
    Shows (statsRow a unit).sackin (sackin a) := by
  have key : ∀ {α : Type} {x : QR α}, NP x → Shows (toRepr x) x :=
    fun hx => ⟨toRepr_some _, toRepr_none _ hx⟩
  exact ⟨key (np_treeHeight a unit), key (np_diameter a unit), rfl, rfl, key (np_isRooted a), key (np_isBinary a),
    key (np_cherries a), key (np_colless a), key (np_sackin a)⟩

/-- one row per file, in argument order, each depending on its own tree only -/
theorem stats_rows_in_order (as : List Arena) (unit : Int) :
    (cliStats as unit).length = as.length ∧
    ∀ i : Nat, (cliStats as unit)[i]? = (as[i]?).map (fun a => statsRow a unit) := by
  simp [cliStats]

/-- the `filename` column is present iff more than one file is given; the other nine column titles follow -/
theorem stats_name_column (k : Nat) :
    (statsHasNameColumn k = true ↔ 1 < k) ∧
    statsHeader k = (if 1 < k then ["filename"] else []) ++
      ["height", "diameter", "nodes", "tips", "rooted", "binary", "ncherries", "colless", "sackin"] := by
  simp [statsHasNameColumn, statsHeader]

/-- `stats` on `((A:3,B:4):1,C:2,(D:1):5);` (lengths in units of 1): the root has three children, so the tree is not rooted,
    `height`, `colless` and `sackin` are refused and shown as `-`; the diameter is the distance 11 from B to D; seven slots,
    four tips; binary in the crate's sense (an unrooted root may have three children, a one-child node is allowed); one cherry -/
example : statsRow exT 1 =
    { height := none, diameter := some 11, nodes := 7, tips := 4, rooted := some false, binary := some true,
      cherries := some 1, colless := none, sackin := none } := by decide

/-- a rooted binary tree `((A:1,B:2):1,C:4);` fills every column -/
def rexRooted : Arena := runOps #[] [.add none, .addChild 0 (some 1) none, .addChild 0 (some 4) (some "C"),
  .addChild 1 (some 1) (some "A"), .addChild 1 (some 2) (some "B")]
example : cliStats [rexRooted, exT] 1 =
    [{ height := some 4, diameter := some 7, nodes := 5, tips := 3, rooted := some true, binary := some true,
       cherries := some 1, colless := some 1, sackin := some 5 }, statsRow exT 1] ∧
    statsHasNameColumn 2 = true ∧ statsHasNameColumn 1 = false :=
  -- the row of `exT` stands on both sides and is not evaluated
  ⟨congrArg (· :: [statsRow exT 1]) (by decide : statsRow rexRooted 1 = _), by decide, by decide⟩


/-! ## `compare REF C1 .. Ck` -/

/-- **a row of `compare`, spelled out**: the tool prints a row exactly when both files hold a tree, both trees have a
    bipartition set, and the library's `compare_topologies` accepts the pair; the row then consists of the three counting
    columns formed from the two bipartition sets and of the library's report, unchanged -/
theorem compare_row_spelled_out (ref cmp : Arena) (row : CompareRow) :
    cliCompareRow ref cmp = .ok row ↔
      ∃ s o ps po st, absRoot ref = .ok s ∧ absRoot cmp = .ok o ∧ partitions s = .ok ps ∧ partitions o = .ok po ∧
        compareTopologies s o = .ok st ∧
        row = ((compareColumns ps po).1, (compareColumns ps po).2.1, (compareColumns ps po).2.2, st) := by
  constructor
  · intro h
    simp only [cliCompareRow, compareRowWith, QR.bind_eq_ok, QR.pure_eq, QR.ok.injEq] at h
    obtain ⟨pr, hpr, pc, hpc, st, ⟨s, hs, o, ho, hst⟩, hrow⟩ := h
    rw [partsOf_eq hs] at hpr
    rw [partsOf_eq ho] at hpc
    exact ⟨s, o, pr, pc, st, hs, ho, hpr, hpc, hst, hrow.symm⟩
  · rintro ⟨s, o, ps, po, st, hs, ho, hps, hpo, hst, rfl⟩
    rw [cliCompareRow_eq hs ho hps hpo, hst]
    rfl

/-- **the columns of a row are consistent with the two bipartition sets and with RF**.  Whenever a row
    `reference common compared rf … ` is printed: the two trees have the SAME sorted leaf index (otherwise the library refuses
    and the tool exits with an error) and duplicate-free bipartition lists (C05), and
    * `reference + common` is the number of bipartitions of the reference, `compared + common` that of the other tree;
    * `reference`, `compared`, `common` are the sizes of the two set differences and of the intersection;
    * `reference + compared` is the symmetric-difference count `Δ` of C06 — the value of RF before the root correction —
      and the printed `rf` is the library's `robinson_foulds`: `Δ`, or `Δ + 2` when both roots have two children and their
      root splits differ;
    * the denominator of `norm_rf` is `reference + compared + 2·common`;
    * `rf_w` and `branch_score` are the library's weighted RF and (squared) branch score -/
theorem compare_columns_consistent (ref cmp : Arena) (ro c co : Nat) (st : Report)
    (h : cliCompareRow ref cmp = .ok (ro, c, co, st)) :
    ∃ s o ls ps po, absRoot ref = .ok s ∧ absRoot cmp = .ok o ∧ leafIndex s = .ok ls ∧ leafIndex o = .ok ls ∧
      partitions s = .ok ps ∧ partitions o = .ok po ∧ (sides ps).Nodup ∧ (sides po).Nodup ∧
      ro + c = ps.length ∧ co + c = po.length ∧
      ro = ((sides ps).filter (fun x => !(sides po).contains x)).length ∧
      co = ((sides po).filter (fun x => !(sides ps).contains x)).length ∧
      c = ((sides ps).filter (fun x => (sides po).contains x)).length ∧
      ro + co = C06.delta ps po ∧
      rf s o = .ok st.1 ∧
      (st.1 = ro + co ∨ (st.1 = ro + co + 2 ∧ isRootedR s = true ∧ isRootedR o = true ∧
        sameSet (rootSides ls s) (rootSides ls o) = false)) ∧
      st.2.1 = ro + co + 2 * c ∧
      wrf s o = .ok st.2.2.1 ∧ kf2 s o = .ok st.2.2.2 := by
  obtain ⟨s, o, ps, po, st', hs, ho, hps, hpo, hst, ⟨⟩⟩ := (compare_row_spelled_out ref cmp _).mp h
  obtain ⟨ls, _, _, d, w, k, hls, hlo, _, _, hrf, hw, hk, rfl⟩ := compareTopologies_ok hst hps hpo
  have nds := C05.partitions_nodup s ps hps
  have ndo := C05.partitions_nodup o po hpo
  obtain ⟨f1, f2, f3, f4, f5, f6⟩ := columns_facts ps po nds ndo
  have hshape := C06.rf_shape s o ps po ls hps hpo hls hlo
  refine ⟨s, o, ls, ps, po, hs, ho, hls, hlo, hps, hpo, nds, ndo, f1, f2, f4, f5, f6, f3, hrf, ?_, ?_, hw, hk⟩
  · rw [hrf, ← f3] at hshape
    exact hshape.imp QR.ok.inj (And.imp_left QR.ok.inj)
  · show po.length + ps.length = _
    rw [← f1, ← f2, Nat.add_add_add_comm, Nat.two_mul, Nat.add_comm (compareColumns ps po).2.2]

/-- **swapping the two files** swaps the columns `reference` and `compared` and changes nothing else in the row -/
theorem compare_row_swap (ref cmp : Arena) (ro c co : Nat) (st : Report)
    (h : cliCompareRow ref cmp = .ok (ro, c, co, st)) : cliCompareRow cmp ref = .ok (co, c, ro, st) := by
  obtain ⟨s, o, ps, po, st', hs, ho, hps, hpo, hst, ⟨⟩⟩ := (compare_row_spelled_out ref cmp _).mp h
  refine (compare_row_spelled_out cmp ref _).mpr ⟨o, s, po, ps, _, ho, hs, hpo, hps, compareTopologies_symm hst hps hpo, ?_⟩
  rw [columns_swap ps po (C05.partitions_nodup s ps hps) (C05.partitions_nodup o po hpo)]

/-- **the counting columns depend only on the two SETS of bipartitions**: two trees that report the same set as the
    reference (resp. as the compared tree) give the same three columns.  By C05 this covers child reordering
    (`C05.reorder_invariant`), inserting or removing one-child nodes (`C05.unary_invariant`), the two styles of writing the
    root (`C05.root_style_invariant`) and any change of the root position (`C05.unrooted_topology_invariant`). -/
theorem compare_columns_depend_on_split_sets (s s' o o' : Rose) (ps ps' po po' : List Part)
    (hps : partitions s = .ok ps) (hps' : partitions s' = .ok ps') (hpo : partitions o = .ok po) (hpo' : partitions o' = .ok po')
    (h1 : ∀ x, x ∈ sides ps ↔ x ∈ sides ps') (h2 : ∀ x, x ∈ sides po ↔ x ∈ sides po') :
    compareColumns ps po = compareColumns ps' po' := by
  have p1 := (List.perm_ext_iff_of_nodup (C05.partitions_nodup s ps hps) (C05.partitions_nodup s' ps' hps')).mpr h1
  have p2 := (List.perm_ext_iff_of_nodup (C05.partitions_nodup o po hpo) (C05.partitions_nodup o' po' hpo')).mpr h2
  simp only [compareColumns, inter_congr _ _ _ _ p1 h2, length_eq_of_sides_perm p1, length_eq_of_sides_perm p2]

/-- the instance for child reordering: reordering the children anywhere in either tree changes none of the three columns -/
theorem compare_columns_reorder_invariant {s s' o o' : Rose} (hs : ReorderR s s') (ho : ReorderR o o') (ps po : List Part)
    (hps : partitions s = .ok ps) (hpo : partitions o = .ok po) :
    ∃ ps' po', partitions s' = .ok ps' ∧ partitions o' = .ok po' ∧ compareColumns ps' po' = compareColumns ps po := by
  obtain ⟨ps', hps', h1, _⟩ := (C05.reorder_invariant hs).2.1 ps hps
  obtain ⟨po', hpo', h2, _⟩ := (C05.reorder_invariant ho).2.1 po hpo
  exact ⟨ps', po', hps', hpo', (compare_columns_depend_on_split_sets s s' o o' ps ps' po po' hps hps' hpo hpo' h1 h2).symm⟩

/-- **the table of `compare`**: the tool prints rows exactly when the reference has a bipartition set and every compared
    tree has a row of its own; the rows are numbered 0, 1, … in argument order and row `i` is the row of
    `compare REF Ci` — it depends on the reference and on that one tree only -/
theorem compare_rows (ref : Arena) (cmps : List Arena) (rows : List (Nat × CompareRow)) :
    cliCompare ref cmps = .ok rows ↔
      (∃ pr, partsOf ref = .ok pr) ∧ cmps.map (cliCompareRow ref) = (rows.map (·.2)).map QR.ok ∧
        rows.map (·.1) = List.range cmps.length := by
  simp only [cliCompare_eq, QR.bind_eq_ok, QR.pure_eq, QR.ok.injEq]
  constructor
  · rintro ⟨pr, hp, rs, hrs, rfl⟩
    exact ⟨⟨pr, hp⟩, by rw [(mapQ_ok_iff _ _ _).mp hrs, List.map_snd_zip (by simp)],
      by rw [List.map_fst_zip (by simp), mapQ_ok_length hrs]⟩
  · rintro ⟨⟨pr, hp⟩, h1, h2⟩
    exact ⟨pr, hp, _, (mapQ_ok_iff _ _ _).mpr h1, (zip_range_eq rows _ h2).symm⟩

/-- `compare REF C1 .. Cm D1 .. Dn` prints the rows of `compare REF C1 .. Cm` followed by the rows of
    `compare REF D1 .. Dn` with `m` added to their numbers -/
theorem compare_append (ref : Arena) (xs ys : List Arena) (rows : List (Nat × CompareRow)) :
    cliCompare ref (xs ++ ys) = .ok rows ↔
      ∃ r1 r2, cliCompare ref xs = .ok r1 ∧ cliCompare ref ys = .ok r2 ∧
        rows = r1 ++ r2.map (fun p => (p.1 + xs.length, p.2)) := by
  simp only [cliCompare_eq, QR.bind_eq_ok, QR.pure_eq, QR.ok.injEq, mapQ_append]
  constructor
  · rintro ⟨pr, hpr, rs, ⟨r1, r2, h1, h2, rfl⟩, rfl⟩
    exact ⟨_, _, ⟨pr, hpr, r1, h1, rfl⟩, ⟨pr, hpr, r2, h2, rfl⟩, by rw [← mapQ_ok_length h1, number_append]⟩
  · rintro ⟨_, _, ⟨pr, hpr, r1, h1, rfl⟩, ⟨_, _, r2, h2, rfl⟩, rfl⟩
    exact ⟨pr, hpr, r1 ++ r2, ⟨r1, r2, h1, h2, rfl⟩, by rw [← mapQ_ok_length h1, number_append]⟩

/-- the property the test harness checks on the real binary: `compare REF C1 C2` = the row of `compare REF C1` and the
    row of `compare REF C2`, numbered 0 and 1 -/
theorem compare_two_files (ref c1 c2 : Arena) (r1 r2 : CompareRow) :
    cliCompare ref [c1, c2] = .ok [(0, r1), (1, r2)] ↔
      cliCompare ref [c1] = .ok [(0, r1)] ∧ cliCompare ref [c2] = .ok [(0, r2)] := by
  simp only [compare_rows, List.map_cons, List.map_nil, List.length_cons, List.length_nil, List.cons.injEq,
    and_true]
  exact ⟨fun ⟨hp, ⟨h1, h2⟩, _⟩ => ⟨⟨hp, h1, rfl⟩, hp, h2, rfl⟩, fun ⟨⟨hp, h1, _⟩, _, h2, _⟩ => ⟨hp, ⟨h1, h2⟩, rfl⟩⟩
/-- **refusals of `compare`**: the tool never ends otherwise than with rows or an error exit.  The reference's bipartitions
    are asked for before the first row, so a reference without a bipartition set is an error exit even when no tree is compared;
    otherwise the error is that of the FIRST compared tree that has no row, all trees before it having one -/
theorem compare_refusals (ref : Arena) (cmps : List Arena) (k : String) :
    cliCompare ref cmps ≠ .panic ∧
    (cliCompare ref cmps = .err k ↔
      partsOf ref = .err k ∨
      ((∃ pr, partsOf ref = .ok pr) ∧ ∃ pre c post, cmps = pre ++ c :: post ∧
        (∀ q ∈ pre, ∃ r, cliCompareRow ref q = .ok r) ∧ cliCompareRow ref c = .err k)) :=
  ⟨np_cliCompare ref cmps, by
    simp only [cliCompare_eq, QR.bind_eq_err, QR.pure_eq, reduceCtorEq, and_false, exists_false, or_false,
      exists_and_right, mapQ_err_iff]⟩

/-- two ways a single row is refused: the two trees have different leaf names (`DifferentTipIndices`); a branch inducing a
    reported bipartition has no length (`MissingBranchLengths`) -/
theorem compare_row_refusals (ref cmp : Arena) (s o : Rose) (ps po : List Part) (ls lo : List String)
    (hs : absRoot ref = .ok s) (ho : absRoot cmp = .ok o) (hps : partitions s = .ok ps) (hpo : partitions o = .ok po)
    (hls : leafIndex s = .ok ls) (hlo : leafIndex o = .ok lo) :
    ((ps.any (fun p => p.len.isNone) = true ∨ po.any (fun p => p.len.isNone) = true) →
      cliCompareRow ref cmp = .err "MissingBranchLengths") ∧
    (ps.any (fun p => p.len.isNone) = false → po.any (fun p => p.len.isNone) = false → ls ≠ lo →
      cliCompareRow ref cmp = .err "DifferentTipIndices") := by
  simp only [cliCompareRow_eq hs ho hps hpo, compareTopologies, hps, hpo, hls, hlo, withLengths, QR.bind_ok]
  constructor
  · intro hmiss
    by_cases hp : ps.any (fun p => p.len.isNone) = true
    · rw [if_pos hp]; rfl
    · rw [if_neg hp, if_pos (hmiss.resolve_left hp)]; rfl
  · intro h1 h2 hne
    have h3 : (ls != lo) = true := by simpa using hne
    simp only [h1, h2, h3, QR.bind_ok, Bool.false_eq_true, ↓reduceIte, QR.bind_err]

/-! ### non-vacuity: reference `((A:1,B:1):1,(C:1,D:1):1,E:1);`, compared `((A:1,B:1):2,C:1,(D:1,E:1):1);` — the bipartition
    AB|CDE is common (lengths 1 and 2), CD|ABE is only in the reference, DE|ABC only in the compared tree -/

def rexRef : Arena := runOps #[] [.add none, .addChild 0 (some 1) none, .addChild 0 (some 1) none, .addChild 0 (some 1) (some "E"),
  .addChild 1 (some 1) (some "A"), .addChild 1 (some 1) (some "B"), .addChild 2 (some 1) (some "C"), .addChild 2 (some 1) (some "D")]
def rexCmp : Arena := runOps #[] [.add none, .addChild 0 (some 2) none, .addChild 0 (some 1) (some "C"), .addChild 0 (some 1) none,
  .addChild 1 (some 1) (some "A"), .addChild 1 (some 1) (some "B"), .addChild 3 (some 1) (some "D"), .addChild 3 (some 1) (some "E")]

def rexLf (i : Nat) (n : String) : Rose := .node i (some n) (some 1) 2 []
def rexRefT : Rose := .node 0 none none 0 [.node 1 none (some 1) 1 [rexLf 4 "A", rexLf 5 "B"],
  .node 2 none (some 1) 1 [rexLf 6 "C", rexLf 7 "D"], .node 3 (some "E") (some 1) 1 []]
def rexCmpT : Rose := .node 0 none none 0 [.node 1 none (some 2) 1 [rexLf 4 "A", rexLf 5 "B"],
  .node 2 (some "C") (some 1) 1 [], .node 3 none (some 1) 1 [rexLf 6 "D", rexLf 7 "E"]]

theorem rexRef_abs : absRoot rexRef = .ok rexRefT := by rfl
theorem rexCmp_abs : absRoot rexCmp = .ok rexCmpT := by rfl

theorem rex_leafIndex (t : Rose) (hn : tipNames t = [some "A", some "B", some "C", some "D", some "E"]) :
    leafIndex t = .ok ["A", "B", "C", "D", "E"] :=
  leafIndex_of_sorted t _ (by rw [hn]; decide) (by rw [names, hn]; exact .refl _) (by decide) (by decide)

theorem rexRef_leafIndex : leafIndex rexRefT = .ok ["A", "B", "C", "D", "E"] :=
  rex_leafIndex _ rfl
theorem rexCmp_leafIndex : leafIndex rexCmpT = .ok ["A", "B", "C", "D", "E"] :=
  rex_leafIndex _ rfl

theorem rexRef_parts : partitions rexRefT = .ok
    [{ side := [false, false, true, true, true], depth := 1, len := some 1 },
     { side := [false, false, true, true, false], depth := 1, len := some 1 }] := by
  simp only [partitions, rexRef_leafIndex, QR.bind_ok, QR.pure_eq]
  rfl
theorem rexCmp_parts : partitions rexCmpT = .ok
    [{ side := [false, false, true, true, true], depth := 1, len := some 2 },
     { side := [false, false, false, true, true], depth := 1, len := some 1 }] := by
  simp only [partitions, rexCmp_leafIndex, QR.bind_ok, QR.pure_eq]
  rfl
theorem rex_report : compareTopologies rexRefT rexCmpT = .ok (2, 4, 3, 3) := by
  simp only [compareTopologies, rexRef_parts, rexCmp_parts, rexRef_leafIndex, rexCmp_leafIndex, QR.bind_ok, QR.pure_eq]
  rfl
theorem rex_row : cliCompareRow rexRef rexCmp = .ok (1, 1, 1, (2, 4, 3, 3)) :=
  (compare_row_spelled_out _ _ _).mpr ⟨_, _, _, _, _, rexRef_abs, rexCmp_abs, rexRef_parts, rexCmp_parts, rex_report, rfl⟩

/-- the row: 1 reference-only, 1 common, 1 compared-only; RF 2 of 4; weighted RF |1−2| + 1 + 1 = 3; squared branch score 3;
    the hypotheses of `compare_columns_consistent` / `compare_row_swap` hold for it -/
example : cliCompareRow rexRef rexCmp = .ok (1, 1, 1, (2, 4, 3, 3)) ∧ cliCompareRow rexCmp rexRef = .ok (1, 1, 1, (2, 4, 3, 3)) :=
  ⟨rex_row, compare_row_swap _ _ _ _ _ _ rex_row⟩

/-- the table `compare REF CMP REF`: two rows numbered 0 and 1, the second comparing the reference with itself -/
example : ∃ r, cliCompare rexRef [rexCmp, rexRef] = .ok [(0, (1, 1, 1, (2, 4, 3, 3))), (1, r)] ∧ r.1 = 0 ∧ r.2.1 = 2 := by
  have hself : cliCompareRow rexRef rexRef = .ok (0, 2, 0, (0, 4, 0, 0)) :=
    (compare_row_spelled_out _ _ _).mpr ⟨_, _, _, _, _, rexRef_abs, rexRef_abs, rexRef_parts, rexRef_parts,
      compareTopologies_self _ _ _ rexRef_parts rfl, rfl⟩
  refine ⟨(0, 2, 0, (0, 4, 0, 0)), (compare_rows _ _ _).mpr ⟨⟨_, (partsOf_eq rexRef_abs).trans rexRef_parts⟩, ?_, rfl⟩, rfl, rfl⟩
  simp [rex_row, hself]

/-- a tree on other leaf names is refused: `(A:1,B:1,X:1)` against the reference -/
def rexOther : Arena := runOps #[] [.add none, .addChild 0 (some 1) (some "A"), .addChild 0 (some 1) (some "B"),
  .addChild 0 (some 1) (some "X")]
def rexOtherT : Rose := .node 0 none none 0 [.node 1 (some "A") (some 1) 1 [], .node 2 (some "B") (some 1) 1 [],
  .node 3 (some "X") (some 1) 1 []]

example : cliCompareRow rexRef rexOther = .err "DifferentTipIndices" ∧
    cliCompare rexRef [rexCmp, rexOther, rexCmp] = .err "DifferentTipIndices" := by
  have habs : absRoot rexOther = .ok rexOtherT := by rfl
  have hli : leafIndex rexOtherT = .ok ["A", "B", "X"] :=
    leafIndex_of_sorted _ _ (by decide) (.refl _) (by decide) (by decide)
  have hp : partitions rexOtherT = .ok [] := by
    simp only [partitions, hli, QR.bind_ok, QR.pure_eq]
    rfl
  have hrow := (compare_row_refusals rexRef rexOther _ _ _ _ _ _ rexRef_abs habs rexRef_parts hp rexRef_leafIndex hli).2
    (by decide) (by decide) (by decide)
  refine ⟨hrow, ((compare_refusals _ _ _).2).mpr (.inr ⟨⟨_, (partsOf_eq rexRef_abs).trans rexRef_parts⟩,
    [rexCmp], rexOther, [rexCmp], rfl, ?_, hrow⟩)⟩
  intro q hq
  rw [List.mem_singleton.mp hq]
  exact ⟨_, rex_row⟩

end C18
