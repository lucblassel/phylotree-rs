import PhyloModel.Split.Reorder
import PhyloModel.Split.Unary
import PhyloModel.Split.RootStyle
import PhyloModel.Split.RenameNames
import PhyloModel.Split.LeafCounts
import PhyloModel.Split.SameUnrooted
/-! # C05 — invariances of the reported bipartition set, for the EXECUTABLE model `SPM.partitions`

The reported set (the members of `sides ps`; the ORDER of the list may change) is unchanged by
reordering children (`SPM.ReorderR`), by inserting/removing unary nodes (`SPM.UnaryEq`, also above the root),
by drawing the same unrooted tree with a two-child root `[X, Y]` or with `X` dissolved into the root, and it is
transported to the image split set by any injective renaming of the taxa (`SPM.renameR`), although the leaf
index is re-sorted and every bit position may change.  All proofs are about the executable functions; the
leaf index (and every error outcome) is shown unchanged / transported as well. -/
namespace C05
open AR SPM

/-- **exactness in terms of leaves** (complements `partitions_exact`, which counts bits): a side is reported iff
    it is the stored side of a non-root internal node with at least two leaves below it and at least two
    leaves elsewhere; read back as names it lists the leaves below that node or exactly the others -/
theorem reported_iff_leaf_counts (t : Rose) (all : List String) (ps : List Part) (hall : leafIndex t = .ok all)
    (hps : partitions t = .ok ps) (x : Side) :
    (x ∈ sides ps ↔ ∃ v ∈ inner t, x = sideOf all v ∧ 2 ≤ (names v).length ∧ (names v).length + 2 ≤ all.length) ∧
    (∀ v, x = sideOf all v →
      (∀ z, z ∈ namesOf all x ↔ (z ∈ all ∧ z ∈ names v)) ∨ (∀ z, z ∈ namesOf all x ↔ (z ∈ all ∧ z ∉ names v))) := by
  refine ⟨?_, ?_⟩
  · rw [partitions_exact t all ps hall hps]
    refine exists_congr fun v => and_congr_right fun hv => and_congr_right fun hx => ?_
    subst hx
    -- bits are leaves: pass from the stored side to the mask of the names below `v`
    obtain ⟨e1, e2⟩ := ones_sideOf_inner t all hall v hv
    rw [← not_trivial_iff, sideOf_eq, trivial_canon, not_trivial_iff]
    omega
  · rintro v rfl
    exact namesOf_canon_mask all (names v)

/-- **child reordering**: same leaf index (or the same error); the reordered tree reports the same set of
    bipartitions (as a set: membership iff; as lists: a permutation), each with the same accumulated length;
    a tree without a bipartition set keeps its error -/
theorem reorder_invariant {t t' : Rose} (h : ReorderR t t') :
    leafIndex t' = leafIndex t ∧
    (∀ ps, partitions t = .ok ps → ∃ ps', partitions t' = .ok ps' ∧
      (∀ x, x ∈ sides ps ↔ x ∈ sides ps') ∧ (sides ps).Perm (sides ps') ∧
      (∀ p ∈ ps, ∀ p' ∈ ps', p.side = p'.side → p.len = p'.len)) ∧
    (∀ e, partitions t = .err e → partitions t' = .err e) := by
  refine ⟨leafIndex_reorder h, ?_, partitions_reorder_err h⟩
  intro ps hps
  obtain ⟨ps', h1, h2⟩ := partitions_reorder h ps hps
  exact ⟨ps', h1, h2.mem, h2.perm, h2.len⟩

/-- **unary nodes**: inserting or removing nodes with exactly one child (at any child position, the root
    staying the root; `UnaryEq` also allows changing ids, lengths, depths and internal names, which the set
    never reads) changes neither the leaf index nor the reported set -/
theorem unary_invariant {t t' : Rose} (h : UnaryEq t t') :
    leafIndex t' = leafIndex t ∧
    (∀ ps, partitions t = .ok ps → ∃ ps', partitions t' = .ok ps' ∧ ∀ x, x ∈ sides ps ↔ x ∈ sides ps') ∧
    (∀ e, partitions t = .err e → partitions t' = .err e) :=
  ⟨(rfSame_of_unary h).idx, (rfSame_of_unary h).parts, (rfSame_of_unary h).sameReport.err⟩

/-- ... and a unary node above the ROOT does not change the reported set either: the old root's branch has
    every leaf on one side and is filtered by the (repaired) trivial-split test -/
theorem unary_root_invariant (iu : Nat) (nu : Option String) (lu : Option Int) (du : Nat) (t : Rose)
    (ps : List Part) (hps : partitions t = .ok ps) :
    ∃ ps', partitions (.node iu nu lu du [t]) = .ok ps' ∧ ∀ x, x ∈ sides ps ↔ x ∈ sides ps' :=
  (sameReport_unary_root iu nu lu du t).2 ps hps

/-- **root style**: the two-child drawing `[X, Y]` (X internal with children `kx`) and the drawing with `X`
    dissolved into the root (`kx ++ [Y]`, any root fields) have the same leaf index and report the same set -/
theorem root_style_invariant (i : Nat) (n : Option String) (l : Option Int) (d : Nat)
    (ix : Nat) (nx : Option String) (lx : Option Int) (dx : Nat) (kx : List Rose) (Y : Rose)
    (i' : Nat) (n' : Option String) (l' : Option Int) (d' : Nat) (hkx : kx ≠ []) :
    leafIndex (.node i' n' l' d' (kx ++ [Y])) = leafIndex (.node i n l d [.node ix nx lx dx kx, Y]) ∧
    (∀ ps, partitions (.node i n l d [.node ix nx lx dx kx, Y]) = .ok ps →
      ∃ ps', partitions (.node i' n' l' d' (kx ++ [Y])) = .ok ps' ∧ ∀ x, x ∈ sides ps ↔ x ∈ sides ps') ∧
    (∀ e, partitions (.node i n l d [.node ix nx lx dx kx, Y]) = .err e →
      partitions (.node i' n' l' d' (kx ++ [Y])) = .err e) :=
  have h := sameReport_root_style i n l d ix nx lx dx kx Y i' n' l' d' hkx
  ⟨h.1, h.2, h.err⟩

/-- **the three shape invariances composed**: any two drawings of the same unrooted leaf-labelled tree (closure
    of child reordering, unary nodes / decoration, and re-drawing the root) have the same leaf index, the same
    reported set and the same error outcome; their RF distance is zero -/
theorem unrooted_topology_invariant {t t' : Rose} (h : SameUnrooted t t') :
    leafIndex t' = leafIndex t ∧
    (∀ ps, partitions t = .ok ps → ∃ ps', partitions t' = .ok ps' ∧ (∀ x, x ∈ sides ps ↔ x ∈ sides ps') ∧
      rf t t' = .ok 0) ∧
    (∀ e, partitions t = .err e → partitions t' = .err e) := by
  have hr := sameUnrooted_report h
  refine ⟨hr.1, ?_, hr.err⟩
  intro ps hps
  obtain ⟨ps', h1, h2⟩ := hr.2 ps hps
  exact ⟨ps', h1, h2, hr.rf_zero ps hps⟩

/-- **renaming, the leaf index**: the sorted image of the leaf index; every error is kept -/
theorem rename_leaf_index {f : String → String} (hf : Function.Injective f) (g : Option String → Option String)
    (t : Rose) :
    (∀ all, leafIndex t = .ok all → leafIndex (renameR f g t) = .ok (sigma f all)) ∧
    (∀ e, leafIndex t = .err e → leafIndex (renameR f g t) = .err e) ∧
    (∀ e, partitions t = .err e → partitions (renameR f g t) = .err e) :=
  ⟨leafIndex_renameR_ok hf g t, leafIndex_renameR_err hf g t, partitions_renameR_err hf g t⟩

/-- **renaming, the partition map**: entry by entry (same order, depths, lengths) the partition map of the tree
    with every side transported by `phi`; `phi` sends the stored side of the split `{A, rest}` to the stored side
    of `{f A, rest}` over the re-sorted index and is injective on stored sides -/
theorem rename_partitions {f : String → String} (hf : Function.Injective f) (g : Option String → Option String)
    (t : Rose) (all : List String) (ps : List Part) (hall : leafIndex t = .ok all) (hps : partitions t = .ok ps) :
    partitions (renameR f g t) = .ok (ps.map (mapP f all)) ∧
    (∀ A, phi f all (canon (maskOf all A)) = canon (maskOf (sigma f all) (A.map f))) ∧
    (∀ A B, phi f all (canon (maskOf all A)) = phi f all (canon (maskOf all B)) ↔
      canon (maskOf all A) = canon (maskOf all B)) :=
  ⟨partitions_renameR hf g t all ps hall hps, phi_canon_mask hf all,
   fun A B => phi_inj hf all _ _ ⟨A, rfl⟩ ⟨B, rfl⟩⟩

/-- **renaming, name-set reading**: the split of the leaf set into the names `A` and the rest is reported for
    the tree iff the split into `f A` and the rest is reported for the renamed tree; and every reported side is
    the stored side of the names below some non-root internal node -/
theorem rename_reported_iff {f : String → String} (hf : Function.Injective f) (g : Option String → Option String)
    (t : Rose) (all : List String) (ps ps' : List Part) (hall : leafIndex t = .ok all)
    (hps : partitions t = .ok ps) (hps' : partitions (renameR f g t) = .ok ps') :
    (∀ A, canon (maskOf (sigma f all) (A.map f)) ∈ sides ps' ↔ canon (maskOf all A) ∈ sides ps) ∧
    (∀ x ∈ sides ps, ∃ v ∈ inner t, x = canon (maskOf all (names v))) := by
  refine ⟨fun A => ?_, fun x hx => ?_⟩
  · have h := partitions_renameR hf g t all ps hall hps
    rw [hps'] at h
    cases h
    rw [sides_mapP, ← phi_canon_mask hf]
    exact mem_map_phi hf all (sides ps) (storedSide_of_mem_sides t all ps hall hps) _ ⟨A, rfl⟩
  · obtain ⟨v, hv, hxv, _⟩ := (partitions_exact t all ps hall hps x).1 hx
    exact ⟨v, hv, hxv⟩

/-- **renaming, `namesOf` reading**: the reported sides of the renamed tree are exactly the transported reported
    sides; read back as names, a transported side lists the `f`-image of the names its original lists, or the
    `f`-image of the complementary names (the unordered pair {names, complement} is the image pair) -/
theorem rename_reported_names {f : String → String} (hf : Function.Injective f)
    (g : Option String → Option String) (t : Rose) (all : List String) (ps ps' : List Part)
    (hall : leafIndex t = .ok all) (hps : partitions t = .ok ps) (hps' : partitions (renameR f g t) = .ok ps') :
    (∀ x', x' ∈ sides ps' ↔ ∃ x ∈ sides ps, x' = phi f all x) ∧
    (∀ x ∈ sides ps,
      (∀ y, y ∈ namesOf (sigma f all) (phi f all x) ↔ ∃ z, z ∈ namesOf all x ∧ f z = y) ∨
      (∀ y, y ∈ namesOf (sigma f all) (phi f all x) ↔ ∃ z, z ∈ all ∧ z ∉ namesOf all x ∧ f z = y)) := by
  have h := partitions_renameR hf g t all ps hall hps
  rw [hps'] at h
  cases h
  refine ⟨?_, fun x _ => namesOf_phi hf all x⟩
  intro x'
  rw [sides_mapP, List.mem_map]
  constructor
  · rintro ⟨x, hx, rfl⟩; exact ⟨x, hx, rfl⟩
  · rintro ⟨x, hx, rfl⟩; exact ⟨x, hx, rfl⟩

/-! ### non-vacuity: a five-taxon tree with a two-child root -/

def exLf (n : String) (l : Int) : Rose := .node 0 (some n) (some l) 1 []
def exNd (l : Int) (ks : List Rose) : Rose := .node 0 none (some l) 1 ks
/-- `((a,b),(c,(d,e)))` -/
def ex1 : Rose := exNd 0 [exNd 1 [exLf "a" 1, exLf "b" 2], exNd 2 [exLf "c" 1, exNd 3 [exLf "d" 1, exLf "e" 1]]]
/-- `(((e,d),c),(a,b))`: the children of three nodes swapped -/
def ex2 : Rose := exNd 0 [exNd 2 [exNd 3 [exLf "e" 1, exLf "d" 1], exLf "c" 1], exNd 1 [exLf "a" 1, exLf "b" 2]]
/-- `(a,b,(c,(d,e)))`: the first root child dissolved -/
def ex3 : Rose := exNd 7 [exLf "a" 1, exLf "b" 2, exNd 2 [exLf "c" 1, exNd 3 [exLf "d" 1, exLf "e" 1]]]
/-- `((a,b),((c),(d,e)))`: a unary node above `c` -/
def ex4 : Rose := exNd 0 [exNd 1 [exLf "a" 1, exLf "b" 2],
  exNd 2 [.node 9 (some "u") none 5 [exLf "c" 1], exNd 3 [exLf "d" 1, exLf "e" 1]]]
/-- swap the names `a` and `e` -/
def exF (x : String) : String := if x = "a" then "e" else if x = "e" then "a" else x

theorem exF_inj : Function.Injective exF := by
  -- swapping two names twice is the identity
  have inv : ∀ x, exF (exF x) = x := by
    intro x
    unfold exF
    by_cases ha : x = "a" <;> by_cases he : x = "e" <;> simp [ha, he]
  intro x y h
  rw [← inv x, h, inv y]

theorem ex1_names : names ex1 = ["a", "b", "c", "d", "e"] := by
  simp [names, ex1, exNd, exLf, tipNames, tipNamesL]

theorem ex1_leafIndex : leafIndex ex1 = .ok ["a", "b", "c", "d", "e"] := by
  rw [leafIndex_ok_iff, ex1_names]
  refine ⟨by simp [ex1, exNd, exLf, tipNames, tipNamesL], by decide, ?_⟩
  symm
  exact List.mergeSort_of_pairwise (by decide)

theorem ex1_partitions : partitions ex1 = .ok
    [{ side := [false, false, true, true, true], depth := 1, len := some 3 },
     { side := [false, false, false, true, true], depth := 1, len := some 3 }] := by
  simp only [partitions, ex1_leafIndex, QR.bind_ok, QR.pure_eq]
  rfl

theorem ex12_reorder : ReorderR ex1 ex2 := by
  unfold ex1 ex2 exNd
  -- swap the root's children, then the children of `(c,(d,e))`, then of `(d,e)`
  refine .trans (.here (List.Perm.swap _ _ [])) ?_
  refine .inside (l1 := []) ?_
  refine .trans (.here (List.Perm.swap _ _ [])) ?_
  exact .inside (l1 := []) (.here (List.Perm.swap _ _ []))

theorem ex14_unary : UnaryEq ex1 ex4 := by
  unfold ex1 ex4 exNd
  exact .step (.inside (l1 := [_]) (l2 := []) (.here (l1 := [])))

/-- the hypotheses of `reorder_invariant` hold for two different trees, with a non-empty reported set -/
example : ReorderR ex1 ex2 ∧ ex1.kids.map Rose.len ≠ ex2.kids.map Rose.len ∧
    ∃ ps, partitions ex1 = .ok ps ∧ ps.length = 2 :=
  ⟨ex12_reorder, by decide, _, ex1_partitions, rfl⟩

/-- the hypotheses of `unary_invariant` hold -/
example : UnaryEq ex1 ex4 ∧ ∃ ps, partitions ex1 = .ok ps ∧ ps.length = 2 :=
  ⟨ex14_unary, _, ex1_partitions, rfl⟩

/-- the hypotheses of `root_style_invariant` hold: `ex1` is a two-child drawing whose first root child is
    internal, `ex3` the drawing with that child dissolved -/
example : ∃ kx Y, kx ≠ [] ∧ ex1 = .node 0 none (some 0) 1 [.node 0 none (some 1) 1 kx, Y] ∧
    ex3 = .node 0 none (some 7) 1 (kx ++ [Y]) ∧ ∃ ps, partitions ex1 = .ok ps ∧ ps.length = 2 :=
  ⟨_, _, by simp, rfl, rfl, _, ex1_partitions, rfl⟩

/-- the hypotheses of the renaming theorems hold for a renaming that changes the sorted order (the sides the
    renamed tree reports: `ex1_renamed_partitions`) -/
example : Function.Injective exF ∧ exF "a" = "e" ∧
    (∃ all ps, leafIndex ex1 = .ok all ∧ partitions ex1 = .ok ps ∧ ps.length = 2) :=
  ⟨exF_inj, by decide, _, _, ex1_leafIndex, ex1_partitions, rfl⟩

/-- the hypothesis of `unrooted_topology_invariant` holds between the reordered two-child drawing `ex2` and the
    three-child drawing `ex3` -/
example : SameUnrooted ex2 ex3 :=
  .trans (.symm (.reorder ex12_reorder)) (.rootStyle (by simp))

/-- the renamed example: its leaf index is again `[a..e]` (the image set is the same), but both reported sides
    are different bit patterns from those of `ex1` (`{c,d,e}` became `{a,c,d}`, stored as its complement `{b,e}`) -/
theorem ex1_renamed_partitions : partitions (renameR exF id ex1) = .ok
    [{ side := [false, true, false, false, true], depth := 1, len := some 3 },
     { side := [false, true, true, false, true], depth := 1, len := some 3 }] := by
  have ht : tipNames (renameR exF id ex1) = [some "e", some "b", some "c", some "d", some "a"] := by decide
  have hidx : leafIndex (renameR exF id ex1) = .ok ["a", "b", "c", "d", "e"] :=
    leafIndex_of_sorted _ _ (by rw [ht]; rfl) (by rw [names, ht]; decide) (by decide) (by decide)
  simp only [partitions, hidx, QR.bind_ok, QR.pure_eq]
  rfl

/-- `rename_partitions` instantiated: the transport `phi` maps the two reported sides of `ex1` to the two
    reported sides of the renamed tree -/
example : [[false, false, true, true, true], [false, false, false, true, true]].map
      (phi exF ["a", "b", "c", "d", "e"]) =
    [[false, true, false, false, true], [false, true, true, false, true]] := by
  have h := (rename_partitions exF_inj id ex1 _ _ ex1_leafIndex ex1_partitions).1
  rw [ex1_renamed_partitions] at h
  exact congrArg sides (QR.ok.inj h).symm

end C05
