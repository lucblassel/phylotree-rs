import PhyloModel.Arena.PathFacts
/-! # C09 — paths, common ancestors and node-to-node distances are exact

`AR.pathFromRoot`, `AR.commonAncestor`, `AR.distance` mirror `get_path_from_root`, `get_common_ancestor`
(repaired: no common ancestor is an error) and `get_distance`.  `W a r` is the structural half of the arena
invariant (links mirrored, duplicate-free child lists, an acyclicity witness `r`); `Inv a` implies it with
`r = depth`.  `Path a l x` says `l` is the chain of ancestors of `x` from a root down to `x`;
`BelowK a m x k` says `x` lies exactly `k` edges below `m`. -/
namespace C09
open AR

/-- the root path of a node exists, is unique, starts at a root, ends at the node, links each entry to its
    parent, and is what the executable query returns -/
theorem root_path {a : Arena} {r : Nat → Nat} (w : W a r) (x : Nat) (hl : live a x) :
    ∃ l, Path a l x ∧ pathFromRoot a x = .ok l ∧ l.getLast? = some x ∧ (∀ l', Path a l' x → l' = l) := by
  obtain ⟨l, hp⟩ := Path.exists w (r x) x hl (Nat.le_refl _)
  exact ⟨l, hp, pathFromRoot_eq w hp, hp.last, fun l' h' => Path.unique h' hp⟩

theorem foldl_none (l : List (Option Int)) :
    l.foldl optAdd none = none := by
  induction l with
  | nil => rfl
  | cons x xs ih => simpa [optAdd] using ih

theorem foldl_some (l : List (Option Int)) (s : Int) :
    l.foldl optAdd (some s) =
      if l.all Option.isSome then some (s + (l.map (·.getD 0)).sum) else none := by
  induction l generalizing s with
  | nil => simp
  | cons x xs ih =>
    cases x with
    | none => simp [foldl_none, optAdd]
    | some v => simp only [List.foldl_cons, optAdd, ih]; simp [Int.add_assoc]

/-- the reported length is the sum of the branch lengths when all are present, and absent otherwise -/
theorem optSum_spec (l : List (Option Int)) :
    optSum l = if l.all Option.isSome then some ((l.map (·.getD 0)).sum) else none := by
  unfold optSum; rw [foldl_some]; simp

/-- **main theorem**: for two distinct live nodes in the same tree, the reported common ancestor `m` is their
    deepest shared ancestor, the reported edge count is the number of edges of the two legs `m → s`, `m → t` of
    the connecting path, and the reported length is the sum of the branch lengths on those legs, or absent
    when one of them lacks a length -/
theorem lca_and_distance {a : Arena} {r : Nat → Nat} (w : W a r) {p q : List Nat} {s t : Nat}
    (hp : Path a p s) (hq : Path a q t) (hroot : p.head? = q.head?) (hne : s ≠ t) :
    ∃ (m : Nat) (p2 q2 : List Nat), commonAncestor a s t = .ok m ∧
      BelowK a m s p2.length ∧ BelowK a m t q2.length ∧
      (∀ m' k k', BelowK a m' s k → BelowK a m' t k' → ∃ j, BelowK a m' m j) ∧
      distance a s t = .ok (optSum ((p2 ++ q2).map (fun i => (nd a i).pedge)), p2.length + q2.length) := by
  obtain ⟨m, c, p2, q2, h1, h2, h3, h4, h5, h6⟩ := lca_correct hp hq hroot
  have hps := pathFromRoot_eq w hp
  have hqs := pathFromRoot_eq w hq
  have hc : cursor p q = c.length + 1 := by rw [← h3]; simp
  refine ⟨m, p2, q2, ?_, h4, h5, h6, ?_⟩
  · simp only [commonAncestor, hne, ↓reduceIte, hps, hqs, QR.bind_ok, hc]
    have : p[c.length]?.getD 0 = m := by
      rw [h1]; simp
    simp [this]
  · simp only [distance, hne, ↓reduceIte, hps, hqs, QR.bind_ok, hc, QR.pure_eq]
    have d1 : p.drop (c.length + 1) = p2 := by rw [h1]; simp
    have d2 : q.drop (c.length + 1) = q2 := by rw [h2]; simp
    rw [d1, d2]
    simp

/-- a node is at distance zero from itself and is its own common ancestor -/
theorem same_node (a : Arena) (x : Nat) : distance a x x = .ok (some 0, 0) ∧ commonAncestor a x x = .ok x := by
  simp [distance, commonAncestor]

/-- unknown or removed node ids are reported as errors -/
theorem dead_node_rejected (a : Arena) (s t : Nat) (hne : s ≠ t) (h : ¬ live a s ∨ ¬ live a t) :
    (∃ k, distance a s t = .err k) ∧ (∃ k, commonAncestor a s t = .err k) :=
  ⟨⟨_, distance_dead a s t hne h⟩, ⟨_, commonAncestor_dead a s t hne h⟩⟩

/-- swapping the two nodes swaps the two legs: same edge count, and the length sums the same branch lengths in
    the other order -/
theorem symmetric {a : Arena} {r : Nat → Nat} (w : W a r) {p q : List Nat} {s t : Nat}
    (hp : Path a p s) (hq : Path a q t) (hroot : p.head? = q.head?) (hne : s ≠ t) :
    ∃ (p2 q2 : List Nat), distance a s t = .ok (optSum ((p2 ++ q2).map (fun i => (nd a i).pedge)), p2.length + q2.length) ∧
             distance a t s = .ok (optSum ((q2 ++ p2).map (fun i => (nd a i).pedge)), q2.length + p2.length) := by
  obtain ⟨m, c, p2, q2, h1, h2, h3, _, _, _⟩ := lca_correct hp hq hroot
  have hps := pathFromRoot_eq w hp
  have hqs := pathFromRoot_eq w hq
  have hc : cursor p q = c.length + 1 := by rw [← h3]; simp
  have d1 : p.drop (c.length + 1) = p2 := by rw [h1]; simp
  have d2 : q.drop (c.length + 1) = q2 := by rw [h2]; simp
  refine ⟨p2, q2, ?_, ?_⟩
  · simp only [distance, hne, ↓reduceIte, hps, hqs, QR.bind_ok, hc, QR.pure_eq, d1, d2]
    simp
  · simp only [distance, Ne.symm hne, ↓reduceIte, hps, hqs, QR.bind_ok, cursor_comm q p, hc, QR.pure_eq, d1, d2]
    simp
where
  cursor_comm : ∀ (x y : List Nat), cursor x y = cursor y x
    | [], [] => rfl
    | [], _ :: _ => rfl
    | _ :: _, [] => rfl
    | u :: us, v :: vs => by
      simp only [cursor]
      by_cases h : u = v
      · subst h; simp [cursor_comm us vs]
      · have : ¬ v = u := fun h' => h h'.symm
        simp [h, this]

/-- non-vacuity: the two leaves of a cherry with branch lengths 3 and 4 are 2 edges and length 7 apart -/
example : (match distance ((addChildNamed (addChildNamed (add #[] none).1 0 (some 3) none).1 0 (some 4) none).1) 1 2 with
    | .ok (some 7, 2) => true | _ => false) = true := by decide

end C09
