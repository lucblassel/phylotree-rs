import PhyloModel.Dist.RecWalkCorrect
import PhyloModel.Dist.RecWalkCorrectDistance
import PhyloModel.Dist.WalkExample
/-! # C08 (continued) — `Tree::distance_matrix_recursive` as it is written

`DMF.dmRecWalk` is the TRANSCRIPTION of `distance_matrix_recursive` / `distance_matrix_recursive_impl`
(`Dist/RecWalk.lean`, what the driver runs against the crate): from every tip a walk over the undirected tree
(children in child order, then the parent, never back to where it came from) that hands the accumulated length down
and writes it into the tip's cache row at every other tip it reaches; a branch without a length on the way refuses
the whole call; the cells of the triangular matrix over the sorted taxa are then read from the cache rows.
`DMF.dmRecursive` is the specification-level model ("the matrix of path lengths `DM.pathLen` of the
abstracted tree, refused when a branch of the tree lacks a length").

The theorems: the two agree on every well-formed arena holding at most one tree (`dm_recursive_walk_eq_model`); stated
without `dmRecursive`, the transcription returns the sorted tip names and, in every cell, the path length between
the two tips (`dm_recursive_walk_correct`), it answers `MissingBranchLengths` as soon as one node other than the root
lacks a length (`dm_recursive_walk_missing`), and it never goes wrong: fuel is never exhausted, no removed slot is met,
no cell reads a cache entry that was never written -- the `INFINITY` the real code initialises the cache with never
reaches the matrix (`dm_recursive_walk_total`).  The walk itself is characterised by `walk_from_tip`.

`dm_recursive_walk_cells_are_distances` says the same with the model `AR.distance` of `Tree::get_distance` in place of
`DM.pathLen`: every cell is the sum of branch lengths `get_distance` returns for the two tips (`Dist/RecWalkCorrectDistance`).

Proofs: `Dist/RecWalkDefs` (the walk by structural recursion on the represented tree), `Dist/RecWalkCorrectRose` (what it records),
`Dist/RecWalkCorrectArena` (the fuel-based arena walk computes the structural walk; fuel adequacy),
`Dist/RecWalkCorrect` (the refusals, the taxon order, the cells). -/
namespace C08
open AR DMF DMW

/-- The transcription of `distance_matrix_recursive` and the specification-level model `dmRecursive` return the same
    answer -- the same refusal, or the same taxa and the same cells -- on every arena that satisfies the invariant and
    holds at most one tree (at most one live slot without a parent). -/
theorem dm_recursive_walk_eq_model (a : Arena) (g : Good a) (h1 : AtMostOneRoot a) : dmRecWalk a = dmRecursive a :=
  dmRecWalk_eq_dmRecursive_inv a g.1 h1

/-- The same from the structural invariant alone (the tombstone discipline `Tomb` of `Good` is not needed). -/
theorem dm_recursive_walk_eq_model_inv (a : Arena) (hinv : Inv a) (h1 : AtMostOneRoot a) :
    dmRecWalk a = dmRecursive a :=
  dmRecWalk_eq_dmRecursive_inv a hinv h1

/-- What the transcription returns, without reference to `dmRecursive`.  The arena satisfies the invariant, holds
    at most one tree and has at least one slot; every tip is named, no two tips share a name, and every node other than
    the root carries a branch length.  Then the call succeeds; the taxa are the tip names in sorted order
    (`leafOrder a`: the live tips stably sorted by name), the matrix has `n(n-1)/2` cells, and the cell of the taxa
    `j < i` is the path length `DM.pathLen` between the two tips in the tree `absRoot a` the arena represents. -/
theorem dm_recursive_walk_correct (a : Arena) (g : Good a) (h1 : AtMostOneRoot a) (hne : a.size ≠ 0)
    (hnamed : ∀ l ∈ leaves a, (nd a l).name.isSome)
    (hdist : ∀ x ∈ leaves a, ∀ y ∈ leaves a, (nd a x).name = (nd a y).name → x = y)
    (hlen : ∀ i, live a i → (nd a i).parent.isSome → (nd a i).pedge.isSome) :
    ∃ cells, dmRecWalk a = .ok ((leafOrder a).map (fun l => ((nd a l).name).getD ""), cells) ∧
      cells.length = Tri.T (leafOrder a).length ∧
      ∀ t, absRoot a = .ok t → ∀ (i j : Nat) (_ : j < i) (hi : i < (leafOrder a).length),
        DM.pathLen (absDM 0 t) (leafOrder a)[i] (leafOrder a)[j]
          = some (((cells.getD (MX.cell i j) 0 : Int)) : Rat) := by
  have hinv := g.1
  obtain ⟨cells, hc1, hc2, hc3⟩ := dmRecWalk_cells a hinv h1 hne hnamed hdist hlen
  refine ⟨cells, hc1, hc2, fun t' ht' i j hj hi => ?_⟩
  obtain ⟨r, t, _, _, habs, _, hp⟩ := hc3 i j hj hi
  rw [habs] at ht'
  cases ht'
  rw [absDM_roseOf, pathLen_toRT, hp]
  rfl

/-- The same with `Tree::get_distance` as the yardstick: under the hypotheses of `dm_recursive_walk_correct` the cell
    of the taxa `j < i` is the sum of branch lengths that `AR.distance` (the executable model of `get_distance`: the two
    root paths, their common prefix dropped) returns for the two tips. -/
theorem dm_recursive_walk_cells_are_distances (a : Arena) (g : Good a) (h1 : AtMostOneRoot a) (hne : a.size ≠ 0)
    (hnamed : ∀ l ∈ leaves a, (nd a l).name.isSome)
    (hdist : ∀ x ∈ leaves a, ∀ y ∈ leaves a, (nd a x).name = (nd a y).name → x = y)
    (hlen : ∀ i, live a i → (nd a i).parent.isSome → (nd a i).pedge.isSome) :
    ∃ cells, dmRecWalk a = .ok ((leafOrder a).map (fun l => ((nd a l).name).getD ""), cells) ∧
      cells.length = Tri.T (leafOrder a).length ∧
      ∀ (i j : Nat) (_ : j < i) (hi : i < (leafOrder a).length),
        ∃ edges, distance a (leafOrder a)[i] (leafOrder a)[j] = .ok (some (cells.getD (MX.cell i j) 0), edges) := by
  have hinv := g.1
  obtain ⟨cells, hc1, hc2, hc3⟩ := dmRecWalk_cells a hinv h1 hne hnamed hdist hlen
  refine ⟨cells, hc1, hc2, fun i j hj hi => ?_⟩
  obtain ⟨r, t, hgr, ht, _, hall, hp⟩ := hc3 i j hj hi
  have hroot := getRoot_spec hgr
  have hperm := leafR_perm_leaves hinv h1 hgr ht
  obtain ⟨hxy, hxl, hyl⟩ := leafOrder_pair a hj hi
  obtain ⟨v, n, hv1, hv2⟩ := pathW_distance hinv _ _ hxy t r [r] ht (Path.root hroot.1 hroot.2)
    (leafR_nodup hinv.toW ht) (hperm.mem_iff.2 hxl) (hperm.mem_iff.2 hyl) hall
  rw [hp] at hv1
  cases hv1
  exact ⟨n, hv2⟩

/-- The path length of the represented tree between two different tips is what `get_distance` returns (all branches
    of the tree carrying a length). -/
theorem path_length_is_get_distance (a : Arena) (g : Good a) {r : Nat} {t : RTI} (hgr : getRoot a = some r)
    (ht : Rep a r t) (hl : allLensW a t = true) (x y : Nat) (hxy : x ≠ y) (hx : x ∈ leafR t) (hy : y ∈ leafR t) :
    ∃ v edges, pathW (wOf a 0) t x y = some v ∧ distance a x y = .ok (some v, edges) :=
  pathW_distance g.1 x y hxy t r [r] ht (Path.root (getRoot_spec hgr).1 (getRoot_spec hgr).2)
    ((leafR_sublist t).nodup (pre_nodup g.1.toW t r ht)) hx hy hl

/-- Refusal: with all tips named and no name used twice, a single live node that has a parent but no branch length
    makes the call answer `MissingBranchLengths` (the walk from the first tip crosses every branch of the tree). -/
theorem dm_recursive_walk_missing (a : Arena) (g : Good a) (h1 : AtMostOneRoot a)
    (hnamed : ∀ l ∈ leaves a, (nd a l).name.isSome)
    (hdist : ∀ x ∈ leaves a, ∀ y ∈ leaves a, (nd a x).name = (nd a y).name → x = y)
    (i : Nat) (hli : live a i) (hpi : (nd a i).parent.isSome) (hei : (nd a i).pedge = none) :
    dmRecWalk a = .err "MissingBranchLengths" := by
  have hinv := g.1
  rw [dmRecWalk_of_checks a (by have := hli.1; omega) hnamed hdist]
  cases hgr : getRoot a with
  | none => exact absurd hli (no_root_no_live hinv hgr i)
  | some r =>
    have hroot := getRoot_spec hgr
    obtain ⟨t, ht, _⟩ := root_rep hinv hgr
    refine walkPart_err hinv h1 hgr ht ?_
    -- the node without a length lies strictly below the root
    cases hb : allLensW a t with
    | false => rfl
    | true =>
      exfalso
      obtain ⟨r', k, hr', hb'⟩ := root_above hinv.toW hli
      rw [h1 r' r hr' hroot] at hb'
      have hmem : i ∈ pre t := (mem_pre_iff hinv.toW t r ht i).2 ⟨k, hb'⟩
      rw [pre_rid, List.mem_cons, rep_rid ht] at hmem
      rcases hmem with e | hmem
      · rw [e, hroot.2] at hpi; cases hpi
      · have := (allLensW_iff t).1 hb i hmem
        rw [hei] at this; cases this

/-- The transcription never goes wrong: its answer is one of the four refusals of the real function (each with its
    cause in the arena) or a matrix.  In particular the walk never exhausts its fuel, never meets a removed slot, and no
    cell reads a cache entry that was never written. -/
theorem dm_recursive_walk_total (a : Arena) (g : Good a) (h1 : AtMostOneRoot a) :
    (dmRecWalk a = .err "RootNotFound" ∧ a.size = 0) ∨
    (dmRecWalk a = .err "UnnamedLeaves" ∧ ∃ l ∈ leaves a, (nd a l).name = none) ∨
    (dmRecWalk a = .err "DuplicateLeafNames" ∧
      ∃ x ∈ leaves a, ∃ y ∈ leaves a, x ≠ y ∧ (nd a x).name = (nd a y).name) ∨
    (dmRecWalk a = .err "MissingBranchLengths" ∧
      ∃ i, live a i ∧ (nd a i).parent.isSome ∧ (nd a i).pedge = none) ∨
    (∃ names cells, dmRecWalk a = .ok (names, cells)) := by
  have hinv := g.1
  rw [dmRecWalk_eq]
  by_cases h0 : a.size = 0
  · left; simp [h0]
  right
  simp only [h0, ↓reduceIte]
  cases hun : ((leaves a).map (fun l => (nd a l).name)).any Option.isNone with
  | true =>
    left
    rw [List.any_map, List.any_eq_true] at hun
    obtain ⟨l, hl, hn⟩ := hun
    exact ⟨rfl, l, hl, Option.isNone_iff_eq_none.1 hn⟩
  | false =>
  right
  simp only [Bool.false_eq_true, ↓reduceIte]
  cases hdp : dupCheck ((leaves a).map (fun l => (nd a l).name)) with
  | true =>
    left
    refine ⟨rfl, Classical.byContradiction (fun hcon => ?_)⟩
    have hdist : ∀ x ∈ leaves a, ∀ y ∈ leaves a, (nd a x).name = (nd a y).name → x = y :=
      fun x hx y hy e => Classical.byContradiction (fun hne => hcon ⟨x, hx, y, hy, hne, e⟩)
    rw [((checks_iff a (AR.leaves_nodup a)).2 ⟨(any_isNone_false a _).1 hun, hdist⟩).2] at hdp
    cases hdp
  | false =>
  right
  simp only [Bool.false_eq_true, ↓reduceIte]
  cases hgr : getRoot a with
  | none => right; exact ⟨_, _, walkPart_noroot hinv hgr⟩
  | some r =>
    obtain ⟨t, ht, _⟩ := root_rep hinv hgr
    cases hlen : allLensW a t with
    | true => right; exact ⟨_, _, (walkPart_ok hinv h1 hgr ht hlen).1⟩
    | false =>
      left
      refine ⟨walkPart_err hinv h1 hgr ht hlen, Classical.byContradiction (fun hcon => ?_)⟩
      have hl : ∀ i, live a i → (nd a i).parent.isSome → (nd a i).pedge.isSome := by
        intro i hli hpi
        cases he : (nd a i).pedge with
        | some _ => rfl
        | none => exact absurd ⟨i, hli, hpi, he⟩ hcon
      rw [allLensW_of_lens hinv hl t r ht] at hlen
      cases hlen

/-- The walk of `distance_matrix_recursive_impl(tip, None, ..)` with the fuel the executable model supplies: for a tip
    `x` of the tree `t` below the root it is the structural climb `upW` through the whole tree (so the fuel is never
    exhausted) ... -/
theorem walk_from_tip (a : Arena) (g : Good a) {r : Nat} {t : RTI} (hgr : getRoot a = some r) (ht : Rep a r t)
    {x : Nat} (hx : x ∈ leafR t) : walkFrom a x = (upW a x t []) >>= fun p => .ok p.1 :=
  walkFrom_eq g.1 hgr ht hx

/-- ... which, when it succeeds, has recorded at every other tip `y` the path length between `x` and `y` (integer
    mirror `pathW` of `DM.pathLen`, `DMF.pathLen_toRT`) ... -/
theorem walk_records_path_lengths (a : Arena) (x : Nat) (t : RTI) (acc' : List (Nat × Int)) (d : Int)
    (hn : (leafR t).Nodup) (hx : x ∈ leafR t) (h : upW a x t [] = .ok (acc', d)) :
    ∀ y, y ∈ leafR t → y ≠ x → ∃ v, kvGet acc' y = some v ∧ pathW (wOf a 0) t x y = some v :=
  (upW_sem a x t [] acc' d hn hx h).2

/-- ... and which is refused exactly when a branch inside the tree lacks a length. -/
theorem walk_refused_iff_length_missing (a : Arena) (x : Nat) (t : RTI) (hx : x ∈ leafR t) :
    (allLensW a t = true ∧ ∃ r, upW a x t [] = .ok r) ∨
    (allLensW a t = false ∧ upW a x t [] = .err "MissingBranchLengths") :=
  upW_dich a x t [] hx

/-- the integer mirror is the path length of the abstracted tree -/
theorem path_mirror (w : Nat → Int) (t : RTI) (x y : Nat) :
    DM.pathLen (toRT w t) x y = (pathW w t x y).map (fun z => ((z : Int) : Rat)) :=
  pathLen_toRT w t x y

/-! ## non-vacuity: `((A:1,B:2):3,(D:4,C:5):6)` built with the model's constructors -/

theorem w6_good : Good w6 :=
  addChildNamed_good _ _ _ (addChildNamed_good _ _ _ (addChildNamed_good _ _ _ (addChildNamed_good _ _ _
    (addChildNamed_good _ _ _ (addChildNamed_good _ _ _ (add_good none empty_good))))))

theorem w6_oneRoot : AtMostOneRoot w6 :=
  addChildNamed_oneRoot _ _ _ (addChildNamed_oneRoot _ _ _ (addChildNamed_oneRoot _ _ _ (addChildNamed_oneRoot _ _ _
    (addChildNamed_oneRoot _ _ _ (addChildNamed_oneRoot _ _ _ (add_empty_oneRoot none))))))

theorem leaves_w6 : leaves w6 = [3, 4, 5, 6] := by decide

theorem leafOrder_w6 : leafOrder w6 = [3, 4, 6, 5] := by
  rw [leafOrder_eq, leaves_w6]
  have n3 : (nd w6 3).name = some "A" := by decide
  have n4 : (nd w6 4).name = some "B" := by decide
  have n5 : (nd w6 5).name = some "D" := by decide
  have n6 : (nd w6 6).name = some "C" := by decide
  exact mergeSort_slotLe w6 (by decide) (by simp [slotLe, n3, n4, n5, n6, nameLe]) (leaves_w6 ▸ w6_hyps.2.1)
    (leaves_w6 ▸ w6_hyps.2.2.1)

/-- the transcription on a four-taxon tree with lengths: taxa `A B C D`, cells `(B,A) (C,A) (C,B) (D,A) (D,B) (D,C)` -/
theorem dmRecWalk_w6 : dmRecWalk w6 = .ok (["A", "B", "C", "D"], [3, 15, 16, 14, 15, 9]) := by
  rw [dmRecWalk_eq, walkPart, leafOrder_w6]
  rfl

/-- a missing length (the branch above `D`) refuses the call -/
theorem dmRecWalk_w6m : dmRecWalk w6m = .err "MissingBranchLengths" := by
  rw [dmRecWalk_eq, walkPart]
  rfl

/-- the hypotheses of `dm_recursive_walk_correct` hold for this arena -/
example : ∃ a, Good a ∧ AtMostOneRoot a ∧ a.size ≠ 0 ∧ (∀ l ∈ leaves a, (nd a l).name.isSome) ∧
    (∀ x ∈ leaves a, ∀ y ∈ leaves a, (nd a x).name = (nd a y).name → x = y) ∧
    (∀ i, live a i → (nd a i).parent.isSome → (nd a i).pedge.isSome) ∧
    dmRecWalk a = .ok (["A", "B", "C", "D"], [3, 15, 16, 14, 15, 9]) := by
  exact ⟨w6, w6_good, w6_oneRoot, w6_hyps.1, w6_hyps.2.1, w6_hyps.2.2.1, w6_hyps.2.2.2, dmRecWalk_w6⟩

/-- `dm_recursive_walk_eq_model` instantiated: `dmRecursive` returns the same matrix -/
example : dmRecursive w6 = .ok (["A", "B", "C", "D"], [3, 15, 16, 14, 15, 9]) := by
  rw [← dm_recursive_walk_eq_model w6 w6_good w6_oneRoot]; exact dmRecWalk_w6

/-- the correctness theorem instantiated: the path length between `C` (slot 6) and `B` (slot 4) in the abstracted
    tree is the cell `(2, 1)`, `16 = 5 + 6 + 3 + 2` -/
example : ∃ t, absRoot w6 = .ok t ∧ DM.pathLen (absDM 0 t) 6 4 = some 16 := by
  obtain ⟨t, ht⟩ := absRoot_total w6_good.1 w6_oneRoot 0 ⟨by decide, by decide⟩
  obtain ⟨cells, h1, _, h3⟩ := dm_recursive_walk_correct w6 w6_good w6_oneRoot w6_hyps.1 w6_hyps.2.1 w6_hyps.2.2.1
    w6_hyps.2.2.2
  rw [dmRecWalk_w6] at h1
  simp only [QR.ok.injEq, Prod.mk.injEq] at h1
  refine ⟨t, ht, ?_⟩
  have := h3 t ht 2 1 (by omega) (by rw [leafOrder_w6]; decide)
  simp only [leafOrder_w6] at this
  rw [← h1.2] at this
  simpa [MX.cell, Tri.idx] using this

/-- `get_distance` between `C` (slot 6) and `B` (slot 4) is the cell `(2, 1)` of the matrix -/
example : ∃ edges, distance w6 6 4 = .ok (some 16, edges) := by
  obtain ⟨cells, h1, _, h3⟩ := dm_recursive_walk_cells_are_distances w6 w6_good w6_oneRoot w6_hyps.1 w6_hyps.2.1
    w6_hyps.2.2.1 w6_hyps.2.2.2
  rw [dmRecWalk_w6] at h1
  simp only [QR.ok.injEq, Prod.mk.injEq] at h1
  have := h3 2 1 (by omega) (by rw [leafOrder_w6]; decide)
  simp only [leafOrder_w6] at this
  rw [← h1.2] at this
  simpa [MX.cell, Tri.idx] using this

end C08
