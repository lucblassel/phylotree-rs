import PhyloModel.Upgma.DeterminismAbs
import PhyloModel.Upgma.DeterminismTie
import PhyloModel.Upgma.DeterminismEx
/-! # C15 — UPGMA: the clusters and merge heights are those of average-linkage clustering, for any taxon order, whenever each minimum is unambiguous

`upgma_tree` says that the internal nodes of the returned tree are the events of SOME complete run of average-linkage
clustering from its definition (`UPG.AvgRun`).  This part makes the run unique: when each minimum is unambiguous
(`UPG.Unamb`: at every step, every active pair whose average linkage equals the minimum is the chosen pair, in one of the
two orders) the sequence of merges — read as (member set of the merged cluster, height), whichever index survives and in
whichever order a pair is listed — is determined by the matrix, and it does not depend on the order in which the taxa are
presented.  Definitions: `UPG.WFC` (well-formed clustering state), `UPG.StEqv` (same set of clusters, indices forgotten),
`UPG.EvSame` / `UPG.evKey` (an event with indices forgotten), `UPG.All2` (position-by-position relation of two lists),
`UPG.IsPermOf`, `UPG.reorder`, `UPG.EvSameVia`, `UPG.Reordered` (the same labelled matrix in another taxon order),
`UPG.InfoSub` (every node of one tree — leaf-name set, height — is a node of the other), `UPG.UnambInput`.

* `avglink_perm_invariant` — average linkage depends on the member lists only up to permutation
* `state_abstraction` — `StEqv` is "the lists of sorted member lists are permutations of each other"
* `average_linkage_deterministic` — the main theorem; `..._keys` (equal key lists), `..._complete` (complete runs, no
  length hypothesis)
* `unambiguity_is_of_the_input` — if one run is unambiguous, every run of that length from an equivalent state is
* `taxon_order_invariant` — runs on the reordered matrix and on the original matrix agree
* `upgma_taxon_order`, `upgma_taxon_order_input`, `upgma_taxon_order_tie_free` — the executable `UPG.upgma` on the same
  labelled matrix in two taxon orders returns trees with the same internal nodes; the hypothesis is, respectively, on the
  run the executable performs, on the input, or the `tie` flag the executable itself reports
* `tie_flag_certifies_unambiguous` — `tie = false` in the result of `UPG.upgma` implies `Unamb` for its run -/
namespace C15
open UPG MX Tri MXS

/-- the average linkage of two clusters depends on their member lists only up to permutation -/
theorem avglink_perm_invariant (d0 : Nat → Nat → Rat) {A A' B B' : List Nat} (hA : A.Perm A') (hB : B.Perm B') :
    avgLink d0 A B = avgLink d0 A' B' :=
  avgLink_perm d0 hA hB

/-- the index-free reading of a state: for well-formed states (no repeated active index, active clusters non-empty and
    pairwise disjoint) "same set of clusters" is "the lists of the sorted member lists of the active clusters are
    permutations of each other" -/
theorem state_abstraction {act1 act2 : List Nat} {cl1 cl2 : Nat → List Nat} (w1 : WFC act1 cl1) (w2 : WFC act2 cl2) :
    StEqv act1 cl1 act2 cl2 ↔ (absState act1 cl1).Perm (absState act2 cl2) :=
  stEqv_iff_perm w1 w2

/-- **Determinism of average-linkage clustering under unambiguous minima.**  Two runs on the same `d0`, from
    well-formed equivalent states, with the same number of events, the second with an unambiguous minimum at every step
    (the first may be any run): the event lists agree position by position on (members of the merged cluster up to
    permutation, height), and the end states are equivalent and well formed. -/
theorem average_linkage_deterministic {d0 : Nat → Nat → Rat} {act1 act1' act2 act2' : List Nat}
    {cl1 cl1' cl2 cl2' : Nat → List Nat} {evs1 evs2 : List Ev}
    (r1 : AvgRun d0 act1 cl1 evs1 act1' cl1') (r2 : AvgRun d0 act2 cl2 evs2 act2' cl2')
    (u2 : Unamb d0 act2 cl2 evs2) (w1 : WFC act1 cl1) (w2 : WFC act2 cl2)
    (e : StEqv act1 cl1 act2 cl2) (hlen : evs1.length = evs2.length) :
    All2 EvSame evs1 evs2 ∧ StEqv act1' cl1' act2' cl2' ∧ WFC act1' cl1' ∧ WFC act2' cl2' := by
  obtain ⟨h1, h2, _⟩ := avgRun_deterministic_one r1 r2 u2 w1 w2 e hlen
  exact ⟨h1, h2, r1.wfc w1, r2.wfc w2⟩

/-- ... with the member sets as sorted lists: the lists of (sorted members of the merged cluster, height) are EQUAL, in
    order -/
theorem average_linkage_deterministic_keys {d0 : Nat → Nat → Rat} {act1 act1' act2 act2' : List Nat}
    {cl1 cl1' cl2 cl2' : Nat → List Nat} {evs1 evs2 : List Ev}
    (r1 : AvgRun d0 act1 cl1 evs1 act1' cl1') (r2 : AvgRun d0 act2 cl2 evs2 act2' cl2')
    (u2 : Unamb d0 act2 cl2 evs2) (w1 : WFC act1 cl1) (w2 : WFC act2 cl2)
    (e : StEqv act1 cl1 act2 cl2) (hlen : evs1.length = evs2.length) :
    evs1.map evKey = evs2.map evKey :=
  all2_evSame_keys (avgRun_deterministic_one r1 r2 u2 w1 w2 e hlen).1

/-- ... for complete runs (down to one cluster) the length hypothesis is not needed, and the final clusters have the
    same members -/
theorem average_linkage_deterministic_complete {d0 : Nat → Nat → Rat} {act1 act2 : List Nat}
    {cl1 cl1' cl2 cl2' : Nat → List Nat} {evs1 evs2 : List Ev} {k1 k2 : Nat}
    (r1 : AvgRun d0 act1 cl1 evs1 [k1] cl1') (r2 : AvgRun d0 act2 cl2 evs2 [k2] cl2')
    (u2 : Unamb d0 act2 cl2 evs2) (w1 : WFC act1 cl1) (w2 : WFC act2 cl2) (e : StEqv act1 cl1 act2 cl2) :
    All2 EvSame evs1 evs2 ∧ evs1.map evKey = evs2.map evKey ∧ (cl1' k1).Perm (cl2' k2) :=
  avgRun_deterministic_complete r1 r2 u2 w1 w2 e

/-- unambiguity is a property of the input, not of the run: if one run has an unambiguous minimum at every step, so has
    every run of the same length from an equivalent state -/
theorem unambiguity_is_of_the_input {d0 : Nat → Nat → Rat} {act1 act1' act2 act2' : List Nat}
    {cl1 cl1' cl2 cl2' : Nat → List Nat} {evs1 evs2 : List Ev}
    (r1 : AvgRun d0 act1 cl1 evs1 act1' cl1') (r2 : AvgRun d0 act2 cl2 evs2 act2' cl2')
    (u2 : Unamb d0 act2 cl2 evs2) (w1 : WFC act1 cl1) (w2 : WFC act2 cl2)
    (e : StEqv act1 cl1 act2 cl2) (hlen : evs1.length = evs2.length) : Unamb d0 act1 cl1 evs1 :=
  (avgRun_deterministic_one r1 r2 u2 w1 w2 e hlen).2.2

/-- **Taxon order.**  `σ` permutes `0 .. n-1`; a complete run on the reordered matrix `fun i j => d0 (σ i) (σ j)` and a
    complete run on `d0`, both from the singletons, one of the two unambiguous: the `i`-th merge of the first, its member
    set mapped through `σ`, is the `i`-th merge of the second, at the same height. -/
theorem taxon_order_invariant (d0 : Nat → Nat → Rat) {n : Nat} {σ : Nat → Nat} (hσ : IsPermOf n σ)
    {evs evs' : List Ev} {k k' : Nat} {cl cl' : Nat → List Nat}
    (r : AvgRun d0 (List.range n) (fun i => [i]) evs [k] cl)
    (r' : AvgRun (reorder d0 σ) (List.range n) (fun i => [i]) evs' [k'] cl')
    (u : Unamb d0 (List.range n) (fun i => [i]) evs ∨ Unamb (reorder d0 σ) (List.range n) (fun i => [i]) evs') :
    All2 (EvSameVia σ) evs' evs :=
  taxon_order_invariance_on hσ (fun _ _ _ _ => rfl) r r' u

/-- ... in the form: complete runs from the singletons over index lists that are permutations of each other agree -/
theorem taxon_order_invariant_index_lists {d0 : Nat → Nat → Rat} {act1 act2 : List Nat} (hp : act1.Perm act2)
    (hn : act1.Nodup) {evs1 evs2 : List Ev} {k1 k2 : Nat} {cl1 cl2 : Nat → List Nat}
    (r1 : AvgRun d0 act1 (fun i => [i]) evs1 [k1] cl1) (r2 : AvgRun d0 act2 (fun i => [i]) evs2 [k2] cl2)
    (u2 : Unamb d0 act2 (fun i => [i]) evs2) :
    All2 EvSame evs1 evs2 ∧ evs1.map evKey = evs2.map evKey ∧ (cl1 k1).Perm (cl2 k2) :=
  avgRun_deterministic_complete r1 r2 u2 (WFC.singletons hn) (WFC.singletons (hp.nodup hn)) (StEqv.of_perm _ hp)

/-- **The executable UPGMA and the taxon order.**  `(taxa', v')` is the labelled matrix `(taxa, v)` in another taxon
    order (`Reordered`: `taxa'[i] = taxa[σ i]`, `d0of v' i j = d0of v (σ i) (σ j)`, `σ` a permutation of the positions);
    symmetric non-negative input on two or more taxa; the run the executable performs on ONE of the two presentations
    has an unambiguous minimum at every step.  Then `UPG.upgma` succeeds on both, its merge events agree position by
    position, and the two trees have the same internal nodes read as (set of leaf names below the node, height of the
    node above its leaves). -/
theorem upgma_taxon_order (taxa taxa' : List String) (v v' : Array Rat) (σ : Nat → Nat)
    (h2 : 2 ≤ taxa.length) (hv : v.size = T taxa.length) (hpos : ∀ k, k < v.size → 0 ≤ v.getD k 0)
    (hv' : v'.size = T taxa'.length) (hpos' : ∀ k, k < v'.size → 0 ≤ v'.getD k 0)
    (hr : Reordered taxa v taxa' v' σ)
    (hu : (∀ evs, upgmaTr taxa v = .ok evs → Unamb (d0of v) (List.range taxa.length) (fun i => [i]) evs) ∨
      (∀ evs', upgmaTr taxa' v' = .ok evs' → Unamb (d0of v') (List.range taxa'.length) (fun i => [i]) evs')) :
    ∃ t m tie dy t' m' tie' dy' evs evs', upgma taxa v = .ok (t, m, tie, dy) ∧ upgma taxa' v' = .ok (t', m', tie', dy') ∧
      upgmaTr taxa v = .ok evs ∧ upgmaTr taxa' v' = .ok evs' ∧ All2 (EvSameVia σ) evs' evs ∧
      InfoSub (nodeInfo t') (nodeInfo t) ∧ InfoSub (nodeInfo t) (nodeInfo t') :=
  UPG.upgma_taxon_order taxa taxa' v v' σ h2 hv hpos hv' hpos' hr hu

/-- ... with the hypothesis on the input: some (equivalently: every) complete run of average-linkage clustering on
    `d0of v` has an unambiguous minimum at every step -/
theorem upgma_taxon_order_input (taxa taxa' : List String) (v v' : Array Rat) (σ : Nat → Nat)
    (h2 : 2 ≤ taxa.length) (hv : v.size = T taxa.length) (hpos : ∀ k, k < v.size → 0 ≤ v.getD k 0)
    (hv' : v'.size = T taxa'.length) (hpos' : ∀ k, k < v'.size → 0 ≤ v'.getD k 0)
    (hr : Reordered taxa v taxa' v' σ) (hu : UnambInput (d0of v) taxa.length) :
    ∃ t m tie dy t' m' tie' dy', upgma taxa v = .ok (t, m, tie, dy) ∧ upgma taxa' v' = .ok (t', m', tie', dy') ∧
      InfoSub (nodeInfo t') (nodeInfo t) ∧ InfoSub (nodeInfo t) (nodeInfo t') := by
  have hu' : ∀ evs, upgmaTr taxa v = .ok evs → Unamb (d0of v) (List.range taxa.length) (fun i => [i]) evs := by
    intro evs htr
    obtain ⟨_, _, _, _, evs1, k, cl, _, htr1, hrun, _⟩ := upgma_average_linkage taxa v h2 hv hpos
    rw [htr] at htr1
    cases htr1
    exact hu.all hrun
  obtain ⟨t, m, tie, dy, t', m', tie', dy', _, _, h1, h2, _, _, _, h3, h4⟩ :=
    C15.upgma_taxon_order taxa taxa' v v' σ h2 hv hpos hv' hpos' hr (Or.inl hu')
  exact ⟨t, m, tie, dy, t', m', tie', dy', h1, h2, h3, h4⟩

/-- the `tie` flag certifies the hypothesis: if `UPG.upgma` returns with `tie = false` (no chosen minimum was held by more
    than one cell of the store), the run of average-linkage clustering it performed has an unambiguous minimum at every
    step -/
theorem tie_flag_certifies_unambiguous (taxa : List String) (v : Array Rat) (h2 : 2 ≤ taxa.length)
    (hv : v.size = T taxa.length) (hpos : ∀ k, k < v.size → 0 ≤ v.getD k 0) {t : URose} {m : Option Rat} {dy : Bool}
    (hup : upgma taxa v = .ok (t, m, false, dy)) {evs : List Ev} (htr : upgmaTr taxa v = .ok evs) :
    Unamb (d0of v) (List.range taxa.length) (fun i => [i]) evs :=
  upgma_tie_free_unamb taxa v h2 hv hpos hup htr

/-- ... hence: if `UPG.upgma` on `(taxa, v)` returns with `tie = false`, then on the same labelled matrix in any other taxon
    order it returns a tree with the same internal nodes (set of leaf names below the node, height), and the merge events
    agree position by position -/
theorem upgma_taxon_order_tie_free (taxa taxa' : List String) (v v' : Array Rat) (σ : Nat → Nat)
    (h2 : 2 ≤ taxa.length) (hv : v.size = T taxa.length) (hpos : ∀ k, k < v.size → 0 ≤ v.getD k 0)
    (hv' : v'.size = T taxa'.length) (hpos' : ∀ k, k < v'.size → 0 ≤ v'.getD k 0)
    (hr : Reordered taxa v taxa' v' σ) {t : URose} {m : Option Rat} {dy : Bool}
    (hup : upgma taxa v = .ok (t, m, false, dy)) :
    ∃ t' m' tie' dy' evs evs', upgma taxa' v' = .ok (t', m', tie', dy') ∧
      upgmaTr taxa v = .ok evs ∧ upgmaTr taxa' v' = .ok evs' ∧ All2 (EvSameVia σ) evs' evs ∧
      InfoSub (nodeInfo t') (nodeInfo t) ∧ InfoSub (nodeInfo t) (nodeInfo t') :=
  UPG.upgma_taxon_order_tie_free taxa taxa' v v' σ h2 hv hpos hv' hpos' hr hup

/-- non-vacuity of the determinism theorems: `UPG.dEx` (four taxa, `d(0,1) = 2`, `d(2,3) = 4`, all other distances `8`)
    has a complete run with an unambiguous minimum at every step -/
example : UnambInput dEx 4 := dEx_unamb

/-- non-vacuity of the taxon-order theorems: the matrix `a-b 2, a-c 4, b-c 4` in the orders `a, b, c` and `c, a, b`; each
    minimum is unambiguous; the executable returns with `tie = false` -/
example : Reordered ["a", "b", "c"] #[2, 4, 4] ["c", "a", "b"] #[4, 4, 2] rot3 ∧ UnambInput (d0of #[2, 4, 4]) 3 ∧
    ∃ t m dy, upgma ["a", "b", "c"] #[2, 4, 4] = .ok (t, m, false, dy) :=
  ⟨ex_reordered, ex_unamb_input, tieFree_spec ex_tieFree⟩

end C15
