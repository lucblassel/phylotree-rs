import PhyloModel.Props.C12Stats
import PhyloModel.Arena.QueryMoreRefine
/-! # C12 (continued) — the normalised balance indices

`sackin_yule`, `sackin_pda`, `colless_pda` are `f64` in the crate.  The model (`Arena/QueryMore.lean`) computes
the exact rational each float approximates: `sackinYule` the value `(I_s − 2·n·H(n)) / n` itself
(`H(n) = Σ_{i=2}^{n} 1/i`), and — `I / n^(3/2)` being irrational in general — `sackinPdaSq`, `collessPdaSq` its
exact square `I² / n³`, of which the crate's value is the non-negative square root.  (`colless_yule` involves
`ln` and Euler's constant and has no exact rational counterpart; it is not modelled.) -/
namespace C12
open AR

/-- `H(n) = Σ_{i=2}^{n} 1/i`, by recursion on `n`: `H(0) = H(1) = 0`, `H(n+2) = H(n+1) + 1/(n+2)` -/
theorem harmonic_recursion :
    harmonicFrom2 0 = 0 ∧ harmonicFrom2 1 = 0 ∧
    ∀ n, harmonicFrom2 (n + 2) = harmonicFrom2 (n + 1) + 1 / ((n + 2 : Nat) : Rat) :=
  ⟨rfl, rfl, fun _ => rfl⟩

/-- the sum the model evaluates (`(2..=n).map(|i| 1/i).sum()`, as a list sum) is `H(n)` -/
theorem harmonic_sum_is_recursion (n : Nat) : harmonicSum n = harmonicFrom2 n := harmonicSum_eq n

/-- **`sackin_yule`**, when it answers, is `(I_s − 2·n·H(n)) / n` where `I_s` is what `sackin` answers and `n`
    what `n_leaves` answers — and it answers whenever `sackin` does -/
theorem sackin_yule_value (a : Arena) (q : Rat) : sackinYule a = .ok q ↔
    ∃ s n, sackin a = .ok s ∧ n = nLeaves a ∧ q = ((s : Rat) - 2 * (n : Rat) * harmonicFrom2 n) / (n : Rat) := by
  rw [sackinYule, QR.map_ok_iff]
  constructor
  · rintro ⟨s, hs, hq⟩
    exact ⟨s, nLeaves a, hs, rfl, by rw [hq, yuleNorm_eq]⟩
  · rintro ⟨s, n, hs, rfl, hq⟩
    exact ⟨s, hs, by rw [hq, yuleNorm_eq]⟩

/-- **the squares of `sackin_pda` and `colless_pda`**, when answered, are `I² / n³` (`I` the answer of `sackin`
    resp. `colless`, `n` of `n_leaves`), a non-negative rational; the crate's float is its non-negative root -/
theorem pda_squares_value (a : Arena) (q : Rat) :
    (sackinPdaSq a = .ok q ↔ ∃ s, sackin a = .ok s ∧ q = (s : Rat) ^ 2 / (nLeaves a : Rat) ^ 3) ∧
    (collessPdaSq a = .ok q ↔ ∃ c, colless a = .ok c ∧ q = (c : Rat) ^ 2 / (nLeaves a : Rat) ^ 3) ∧
    (sackinPdaSq a = .ok q → 0 ≤ q) ∧ (collessPdaSq a = .ok q → 0 ≤ q) := by
  refine ⟨by rw [sackinPdaSq, QR.map_ok_iff]; simp only [pdaSq_eq],
    by rw [collessPdaSq, QR.map_ok_iff]; simp only [pdaSq_eq], ?_, ?_⟩
  · intro h
    rw [sackinPdaSq, QR.map_ok_iff] at h
    obtain ⟨s, _, hq⟩ := h
    rw [hq]; exact pdaSq_nonneg _ _
  · intro h
    rw [collessPdaSq, QR.map_ok_iff] at h
    obtain ⟨s, _, hq⟩ := h
    rw [hq]; exact pdaSq_nonneg _ _

/-- **refusals**: each normalisation is refused exactly when the index it normalises is, with the same error
    (`IsNotRooted` / `IsNotBinary`, see `C12_indices_refused`), and panics exactly when that index does -/
theorem normalisations_refused_iff (a : Arena) :
    (∀ k, (sackinYule a = .err k ↔ sackin a = .err k) ∧ (sackinPdaSq a = .err k ↔ sackin a = .err k) ∧
      (collessPdaSq a = .err k ↔ colless a = .err k)) ∧
    (sackinYule a = .panic ↔ sackin a = .panic) ∧ (sackinPdaSq a = .panic ↔ sackin a = .panic) ∧
    (collessPdaSq a = .panic ↔ colless a = .panic) :=
  ⟨fun k => ⟨QR.map_err_iff _ _ k, QR.map_err_iff _ _ k, QR.map_err_iff _ _ k⟩,
    QR.map_panic_iff _ _, QR.map_panic_iff _ _, QR.map_panic_iff _ _⟩

/-- **the divisor is never zero**: on a well-formed arena with at most one root, whenever `sackin` or `colless`
    answers the tree is rooted, so it has at least two tips.  (The model's division is the total division of
    `Rat`, `x / 0 = 0`, where the crate's `f64` division would give `NaN`; by this theorem the case is
    unreachable.) -/
theorem normalisations_divisor_nonzero {a : Arena} (g : Good a) (h1 : AtMostOneRoot a) :
    (∀ s, sackin a = .ok s → 2 ≤ nLeaves a) ∧ (∀ c, colless a = .ok c → 2 ≤ nLeaves a) :=
  ⟨fun _ h => sackin_ok_two_tips g h1 h, fun _ h => colless_ok_two_tips g h1 h⟩

/-- on a well-formed arena with one root and abstract tree `t` the normalised indices are computed from `t`
    alone: refused on unrooted / non-binary trees, otherwise the textbook Sackin / Colless index of `t`
    normalised with its number of tips -/
theorem normalisations_of_tree {a : Arena} (g : Good a) (h1 : AtMostOneRoot a) {t : Rose} (h : absRoot a = .ok t) :
    sackinYule a = (do checkRBR t; pure (yuleNorm (sackinR t) (nLeavesR t))) ∧
    sackinPdaSq a = (do checkRBR t; pure (pdaSq (sackinR t) (nLeavesR t))) ∧
    collessPdaSq a = (do checkRBR t; pure (pdaSq (collessR t) (nLeavesR t))) := by
  simp only [sackinYule, sackinPdaSq, collessPdaSq, sackin_refines g h1 h, colless_refines g h1 h,
    nLeaves_refines g h1 h]
  cases checkRBR t <;> exact ⟨rfl, rfl, rfl⟩

/-- hence they do not depend on slot layout, removed slots, cached depths or edit history -/
theorem normalisations_depend_only_on_tree {a b : Arena} (ga : Good a) (gb : Good b) (ha : AtMostOneRoot a)
    (hb : AtMostOneRoot b) {ta tb : Rose} (hta : absRoot a = .ok ta) (htb : absRoot b = .ok tb)
    (he : erase ta = erase tb) :
    sackinYule a = sackinYule b ∧ sackinPdaSq a = sackinPdaSq b ∧ collessPdaSq a = collessPdaSq b := by
  obtain ⟨s1, _, _, _, _, s6, s7, _⟩ := answers_depend_only_on_tree ga gb ha hb hta htb he
  refine ⟨?_, ?_, ?_⟩ <;> simp only [sackinYule, sackinPdaSq, collessPdaSq, s1, s6, s7]

/-- the caterpillar `(((a,b),c),d);` built with a detour (slot 1 is a tombstone): tips at depths 3, 3, 2, 1 -/
def exCat : Arena := runOps #[] [.add none, .addChild 0 (some 9) (some "z"), .prune 1,
  .addChild 0 none none, .addChild 0 none (some "d"), .addChild 2 none none, .addChild 2 none (some "c"),
  .addChild 4 none (some "a"), .addChild 4 none (some "b")]

theorem exCat_ok : Good exCat ∧ AtMostOneRoot exCat :=
  runOps_empty (by simp only [AdmissibleRun, Admissible, and_true]; exact no_root_empty)

/-- four tips, Sackin 9, Colless 3; `H(4) = 13/12`; Yule-normalised Sackin `(9 − 8·13/12)/4 = 1/12`; squares of the
    PDA normalisations `81/64` and `9/64` — through the theorems, with the hypotheses discharged -/
example : nLeaves exCat = 4 ∧ harmonicFrom2 4 = 13 / 12 ∧ sackinYule exCat = .ok (1 / 12) ∧
    sackinPdaSq exCat = .ok (81 / 64) ∧ collessPdaSq exCat = .ok (9 / 64) := by
  have hs : sackin exCat = .ok 9 := qr_eq_of_check _ _ (by decide)
  have hc : colless exCat = .ok 3 := qr_eq_of_check _ _ (by decide)
  have hn : nLeaves exCat = 4 := by decide
  have h2 := (normalisations_divisor_nonzero exCat_ok.1 exCat_ok.2).1 9 hs
  have hH : harmonicFrom2 4 = 13 / 12 := by
    simp only [harmonicFrom2]
    grind
  refine ⟨hn, hH, ?_, ?_, ?_⟩
  · rw [sackin_yule_value]
    refine ⟨9, 4, hs, hn.symm, ?_⟩
    rw [hH]; grind
  · rw [(pda_squares_value exCat _).1]
    refine ⟨9, hs, ?_⟩
    rw [hn]; grind
  · rw [(pda_squares_value exCat _).2.1]
    refine ⟨3, hc, ?_⟩
    rw [hn]; grind

/-- on an unrooted tree (a root with three tips) all three are refused like `sackin` / `colless` -/
example : sackinYule (runOps #[] [.add none, .addChild 0 none none, .addChild 0 none none, .addChild 0 none none])
    = .err "IsNotRooted" := by
  rw [((normalisations_refused_iff _).1 _).1]
  rfl

end C12
