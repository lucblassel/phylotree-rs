import PhyloModel.Props.C06Inv
import PhyloModel.Split.WeightedCongr
import PhyloModel.Split.Rescale
/-! # C07 — invariances of weighted RF and the squared branch score, for the EXECUTABLE model

Both distances are zero between a tree and any child-reordering of itself when all lengths are present (lengths
travel with the nodes; a split induced by several branches accumulates the same lengths in a different order;
a missing length poisons the sum whatever the order), they do not see child order in either argument, and they
are unchanged by a consistent injective renaming of two trees over the SAME leaf set.  (Over different leaf
sets `weighted_robinson_foulds`/`khuner_felsenstein` do not reject — unlike `robinson_foulds` — and compare raw
bit patterns over two different indices; that value is NOT renaming-invariant: see the example at the end.) -/
namespace C07
open AR SPM

/-- **zero against any child-reordering of itself** (all lengths present), in both argument orders; the
    combined report is `(0, 2·#splits, 0, 0)` -/
theorem weighted_reorder_self {t t' : Rose} (h : ReorderR t t') (ps : List Part) (hps : partitions t = .ok ps) :
    (∀ ms, withLengths ps = .ok ms →
      wrf t t' = .ok 0 ∧ kf2 t t' = .ok 0 ∧ wrf t' t = .ok 0 ∧ kf2 t' t = .ok 0 ∧
      compareTopologies t t' = .ok (0, ps.length + ps.length, 0, 0)) ∧
    (withLengths ps = .err "MissingBranchLengths" →
      wrf t t' = .err "MissingBranchLengths" ∧ kf2 t t' = .err "MissingBranchLengths" ∧
      wrf t' t = .err "MissingBranchLengths" ∧ kf2 t' t = .err "MissingBranchLengths") :=
  ⟨fun ms hms => weighted_reorder_zero h ps ms hps hms, fun hms => by
    -- the distance to a reordering is the distance to the tree itself, which has no length-carrying map
    have w := wSame_of_reorder h
    have hw : wmap t = .err "MissingBranchLengths" := by rw [wmap, hps]; exact hms
    have z : ∀ F : Int → Int,
        wsum F t t' = .err "MissingBranchLengths" ∧ wsum F t' t = .err "MissingBranchLengths" := fun F =>
      ⟨(wsum_congr F (.refl t) w).trans (by rw [wsum, hw]; rfl), (wsum_congr F w (.refl t)).trans (by rw [wsum, hw]; rfl)⟩
    simp only [wrf_eq_wsum, kf2_eq_wsum]
    exact ⟨(z _).1, (z _).1, (z _).2, (z _).2⟩⟩

/-- every entry of the partition map carries the poisoned sum `sumO` of the lengths of ALL branches inducing its
    side; `sumO` is permutation-invariant and present iff every summand is, so the accumulated length does not
    depend on the order in which the branches are visited -/
theorem accumulated_length_order_free (t : Rose) (all : List String) (ps : List Part)
    (hall : leafIndex t = .ok all) (hps : partitions t = .ok ps) :
    (∀ p ∈ ps, p.len = sumO (lensOf (nbranches all t) p.side)) ∧
    (∀ l1 l2 : List (Option Int), l1.Perm l2 → sumO l1 = sumO l2) ∧
    (∀ L : List (Option Int), (sumO L).isSome = L.all Option.isSome) :=
  ⟨(partitions_spec t all ps hall hps).len, fun _ _ h => sumO_perm h, sumO_isSome⟩

/-- **the weighted distances do not see child order**: reordering either tree or both changes neither weighted
    RF, nor the squared branch score, nor the combined report (values and errors alike) -/
theorem weighted_reorder_invariant {s s' o o' : Rose} (h1 : ReorderR s s') (h2 : ReorderR o o') :
    wrf s' o' = wrf s o ∧ kf2 s' o' = kf2 s o ∧ compareTopologies s' o' = compareTopologies s o :=
  have w := weighted_congr (wSame_of_reorder h1) (wSame_of_reorder h2)
  ⟨w.1, w.2, compareTopologies_congr (rfSame_of_reorder h1) (wSame_of_reorder h1) (rfSame_of_reorder h2)
    (wSame_of_reorder h2)⟩

/-- **consistent renaming**: for an injective `f` applied to the tips of two trees with the same leaf index
    (or the same leaf-index error), weighted RF and the squared branch score are unchanged -/
theorem weighted_rename_invariant {f : String → String} (hf : Function.Injective f)
    (g g' : Option String → Option String) (s o : Rose) (hidx : leafIndex s = leafIndex o) :
    wrf (renameR f g s) (renameR f g' o) = wrf s o ∧ kf2 (renameR f g s) (renameR f g' o) = kf2 s o := by
  simp only [wrf_eq_wsum, kf2_eq_wsum]
  exact ⟨wsum_renameR hf _ g g' s o hidx, wsum_renameR hf _ g g' s o hidx⟩

/-- **common rescaling, executable form**: multiplying every branch length of both trees by `k` multiplies
    weighted RF by `|k|` and the squared branch score by `k²` (errors are kept); RF itself does not read lengths -/
theorem rescaling_executable (k : Int) (s o : Rose) :
    wrf (scaleR k s) (scaleR k o) =
      (match wrf s o with
       | .ok v => .ok (iabs k * v)
       | .err e => .err e
       | .panic => .panic) ∧
    kf2 (scaleR k s) (scaleR k o) =
      (match kf2 s o with
       | .ok v => .ok (k * k * v)
       | .err e => .err e
       | .panic => .panic) ∧
    rf (scaleR k s) (scaleR k o) = rf s o :=
  ⟨(weighted_scaleR k s o).1, (weighted_scaleR k s o).2, rf_scaleR k k s o⟩

/-- non-vacuity: the reordered example pair of C05Inv has all lengths present and is at distance 0 -/
example : wrf C05.ex1 C05.ex2 = .ok 0 ∧ kf2 C05.ex1 C05.ex2 = .ok 0 := by
  have h := (weighted_reorder_self C05.ex12_reorder _ C05.ex1_partitions).1 _ rfl
  exact ⟨h.1, h.2.1⟩

/-! ### the same-leaf-set hypothesis of `weighted_rename_invariant` cannot be dropped

`cs = (a,b,(c,d),x)` and `co = (a,b,(c,e),x)` have different leaf sets; weighted RF does not reject them and
returns `|5 − 7| = 2` because `{c,d}` and `{c,e}` have the same bit pattern over the two different indices; after
swapping the names `a` and `e` in both trees the two patterns differ and the value is `5 + 7 = 12`. -/

def cs : Rose := C05.exNd 0 [C05.exLf "a" 1, C05.exLf "b" 2, C05.exNd 5 [C05.exLf "c" 1, C05.exLf "d" 1], C05.exLf "x" 1]
def co : Rose := C05.exNd 0 [C05.exLf "a" 1, C05.exLf "b" 2, C05.exNd 7 [C05.exLf "c" 1, C05.exLf "e" 1], C05.exLf "x" 1]

theorem cs_idx : leafIndex cs = .ok ["a", "b", "c", "d", "x"] :=
  have ht : tipNames cs = [some "a", some "b", some "c", some "d", some "x"] := by decide
  leafIndex_of_sorted _ _ (by rw [ht]; rfl) (by rw [names, ht]; exact .refl _) (by decide) (by decide)
theorem co_idx : leafIndex co = .ok ["a", "b", "c", "e", "x"] :=
  have ht : tipNames co = [some "a", some "b", some "c", some "e", some "x"] := by decide
  leafIndex_of_sorted _ _ (by rw [ht]; rfl) (by rw [names, ht]; exact .refl _) (by decide) (by decide)
theorem cs_idx' : leafIndex (renameR C05.exF id cs) = .ok ["b", "c", "d", "e", "x"] :=
  have ht : tipNames (renameR C05.exF id cs) = [some "e", some "b", some "c", some "d", some "x"] := by decide
  leafIndex_of_sorted _ _ (by rw [ht]; rfl) (by rw [names, ht]; decide) (by decide) (by decide)
theorem co_idx' : leafIndex (renameR C05.exF id co) = .ok ["a", "b", "c", "e", "x"] :=
  have ht : tipNames (renameR C05.exF id co) = [some "e", some "b", some "c", some "a", some "x"] := by decide
  leafIndex_of_sorted _ _ (by rw [ht]; rfl) (by rw [names, ht]; decide) (by decide) (by decide)

/-- over different leaf sets weighted RF is accepted ... -/
theorem wrf_cs_co : wrf cs co = .ok 2 := by
  simp only [wrf, partitions, cs_idx, co_idx, QR.bind_ok, QR.pure_eq]
  rfl
/-- ... and its value is not invariant under a consistent injective renaming -/
theorem wrf_cs_co_renamed : wrf (renameR C05.exF id cs) (renameR C05.exF id co) = .ok 12 := by
  simp only [wrf, partitions, cs_idx', co_idx', QR.bind_ok, QR.pure_eq]
  rfl

/-- the counterexample in one statement -/
theorem weighted_rename_needs_same_leaf_set :
    ∃ (f : String → String) (s o : Rose), Function.Injective f ∧ leafIndex s ≠ leafIndex o ∧
      wrf (renameR f id s) (renameR f id o) ≠ wrf s o := by
  refine ⟨C05.exF, cs, co, C05.exF_inj, ?_, ?_⟩
  · rw [cs_idx, co_idx]; intro h; simp at h
  · rw [wrf_cs_co, wrf_cs_co_renamed]; intro h; cases h

end C07
