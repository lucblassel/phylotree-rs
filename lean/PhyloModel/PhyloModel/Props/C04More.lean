import PhyloModel.Props.C04
import PhyloModel.Arena.QueryMoreRefine
/-! # C04 (continued) — `get_leaf_names`, `has_unique_tip_names`, `size`

The three remaining id-free read-only functions of `Tree` (`Arena/QueryMore.lean`): what they return, that the
first two are functions of the abstract tree alone (so they too answer after any edit history like on a freshly
built tree), and that `size` is NOT — it counts arena slots, removed ones included. -/
namespace C04
open AR

/-- `get_leaf_names` lists the names of the live tips in the order `get_leaves` lists the tips (arena order);
    it has one entry per tip -/
theorem leaf_names_are_tip_names (a : Arena) :
    leafNames a = (leaves a).map (fun l => (nd a l).name) ∧ (leafNames a).length = nLeaves a :=
  ⟨leafNames_eq a, leafNames_length a⟩

/-- on a well-formed arena with one root, the leaf names are exactly the names of the tips of the tree, each as
    often as it occurs there — as a multiset: arena order is not the left-to-right order of the tree -/
theorem leaf_names_of_tree {a : Arena} (g : Good a) (h1 : AtMostOneRoot a) {t : Rose} (h : absRoot a = .ok t) :
    (leafNames a).Perm (leafNamesR t) :=
  leafNames_refines g h1 h

/-- `has_unique_tip_names` answers `Err(UnnamedLeaves)` exactly when some live tip has no name; it has no
    other refusal and never panics -/
theorem unique_tip_names_refused_iff (a : Arena) :
    (hasUniqueTipNames a = .err "UnnamedLeaves" ↔ ∃ i, i ∈ leaves a ∧ (nd a i).name = none) ∧
    (hasUniqueTipNames a = .err "UnnamedLeaves" ∨ ∃ b, hasUniqueTipNames a = .ok b) :=
  ⟨hasUniqueTipNames_err_iff a, by
    rw [hasUniqueTipNames_spec]
    split
    · exact Or.inl rfl
    · exact Or.inr ⟨_, rfl⟩⟩

/-- when `has_unique_tip_names` answers `Ok(b)`: every live tip has a name, and `b` is `true` exactly when the
    names are pairwise distinct — the list of leaf names has no repetition, equivalently no two different live
    tips carry the same name.  (The code compares the number of DISTINCT names with `n_leaves()`; this is the
    proof that the comparison decides the textbook property, for every arena, well formed or not.) -/
theorem unique_tip_names_meaning (a : Arena) (b : Bool) (h : hasUniqueTipNames a = .ok b) :
    (∀ i ∈ leaves a, ∃ s, (nd a i).name = some s) ∧
    (b = true ↔ (leafNames a).Nodup) ∧
    (b = true ↔ ∀ i ∈ leaves a, ∀ j ∈ leaves a, (nd a i).name = (nd a j).name → i = j) := by
  have hnd := hasUniqueTipNames_ok_iff_nodup a b h
  refine ⟨fun i hi => ?_, hnd, by rw [hnd, leafNames, List.nodup_map_iff_inj _ _ (leaves_nodup a)]⟩
  cases hn : (nd a i).name with
  | some s => exact ⟨s, rfl⟩
  | none => rw [(hasUniqueTipNames_err_iff a).2 ⟨i, hi, hn⟩] at h; cases h

/-- the same in one equation -/
theorem unique_tip_names_value (a : Arena) :
    hasUniqueTipNames a =
      if none ∈ leafNames a then .err "UnnamedLeaves" else .ok (decide (leafNames a).Nodup) :=
  hasUniqueTipNames_spec a

/-- on a well-formed arena with one root, `has_unique_tip_names` is the textbook answer computed from the tree
    alone (`uniqueTipNamesR`: refused when a tip of the tree is unnamed, otherwise whether the tip names read
    left to right are pairwise distinct) -/
theorem unique_tip_names_of_tree {a : Arena} (g : Good a) (h1 : AtMostOneRoot a) {t : Rose}
    (h : absRoot a = .ok t) : hasUniqueTipNames a = uniqueTipNamesR t :=
  hasUniqueTipNames_refines g h1 h

/-- **the answers depend only on the tree**: two well-formed one-rooted arenas — whatever their slot layout,
    removed slots, cached depths and histories — whose trees agree as Newick trees (`erase`: names, branch
    lengths, ordered topology) agree on `has_unique_tip_names`, and their `get_leaf_names` agree as multisets -/
theorem leaf_name_answers_depend_only_on_tree {a b : Arena} (ga : Good a) (gb : Good b) (ha : AtMostOneRoot a)
    (hb : AtMostOneRoot b) {ta tb : Rose} (hta : absRoot a = .ok ta) (htb : absRoot b = .ok tb)
    (he : erase ta = erase tb) :
    hasUniqueTipNames a = hasUniqueTipNames b ∧ (leafNames a).Perm (leafNames b) := by
  constructor
  · rw [hasUniqueTipNames_refines ga ha hta, hasUniqueTipNames_refines gb hb htb, uniqueTipNamesR,
      uniqueTipNamesR, he]
  · have k1 := leafNames_refines ga ha hta
    rw [leafNamesR, he] at k1
    exact k1.trans (leafNames_refines gb hb htb).symm

/-- **after any edit history**: the arena reached by an admissible history answers `has_unique_tip_names` and
    (as a multiset) `get_leaf_names` exactly like the arena built afresh from its current tree (root by `add`,
    every other node by `add_child` in pre-order, the way the Newick parser builds it) -/
theorem leaf_name_answers_history_vs_fresh (ops : List Op) (hadm : AdmissibleRun #[] ops) {ta : Rose}
    (hta : absRoot (runOps #[] ops) = .ok ta) :
    hasUniqueTipNames (runOps #[] ops) = hasUniqueTipNames (freshArena' (erase ta)) ∧
    (leafNames (runOps #[] ops)).Perm (leafNames (freshArena' (erase ta))) := by
  obtain ⟨ga, ha⟩ := runOps_empty hadm
  obtain ⟨gb, hb, _, tb, htb, hetb⟩ := freshArena'_spec (erase ta)
  exact leaf_name_answers_depend_only_on_tree ga gb ha hb hta htb hetb.symm

/-- `size()` is the number of arena SLOTS: every id ever handed out, live or removed, is below it; the tree
    has at most `size()` nodes, and exactly `size()` iff no slot is a tombstone.  So `size` is NOT a function
    of the tree (see the example below): it is compared with the model id-level only. -/
theorem size_counts_slots {a : Arena} (g : Good a) (h1 : AtMostOneRoot a) {t : Rose} (h : absRoot a = .ok t) :
    AR.sizeOf a = a.size ∧ (∀ i, live a i → i < AR.sizeOf a) ∧
    (idsR t).length ≤ AR.sizeOf a ∧ ((idsR t).length = AR.sizeOf a ↔ ∀ i, i < a.size → live a i) := by
  refine ⟨rfl, fun i hl => hl.1, ?_⟩
  obtain ⟨r, t0, c⟩ := absRoot_ctx g.1 h1 h
  have hp := live_scan_perm c
  rw [c.dec, idsR_decorate, ← hp.length_eq, AR.sizeOf]
  have hle := List.length_filter_le (fun i => isLive a i) (List.range a.size)
  rw [List.length_range] at hle
  refine ⟨hle, fun he i hi => ?_, fun hall => ?_⟩
  · have : (List.range a.size).filter (fun i => isLive a i) = List.range a.size :=
      List.filter_sublist.eq_of_length (by rw [he, List.length_range])
    exact (isLive_iff a i).1 (List.mem_filter.1 (this ▸ List.mem_range.2 hi)).2
  · rw [List.filter_eq_self.2 (fun i hi => (isLive_iff a i).2 (hall i (List.mem_range.1 hi))), List.length_range]

/-- the cherry `(x:3,y:4);` in two layouts (`exA`: slots 0,1,2; `exB`: slot 1 is a tombstone): the hypotheses of
    `leaf_name_answers_depend_only_on_tree` hold, both arenas list the names `x`, `y` and answer `Ok(true)`;
    their sizes differ (3 and 4) although the trees are the same -/
example : hasUniqueTipNames exA = hasUniqueTipNames exB ∧ hasUniqueTipNames exB = .ok true ∧
    leafNames exA = [some "x", some "y"] ∧ leafNames exB = [some "x", some "y"] ∧
    AR.sizeOf exA = 3 ∧ AR.sizeOf exB = 4 := by
  have := leaf_name_answers_depend_only_on_tree exA_ok.1 exB_ok.1 exA_ok.2 exB_ok.2 exA_abs exB_abs ex_erase
  exact ⟨this.1, qr_eq_of_check _ _ (by decide), by decide, by decide, by decide, by decide⟩

/-- two tips with the same name: `Ok(false)`; an unnamed tip: `Err(UnnamedLeaves)` -/
def exDup : Arena := runOps #[] [.add none, .addChild 0 (some 3) (some "x"), .addChild 0 (some 4) (some "x")]
def exUnnamed : Arena := runOps #[] [.add none, .addChild 0 (some 3) (some "x"), .addChild 0 (some 4) none]

example : hasUniqueTipNames exDup = .ok false ∧ ¬ (leafNames exDup).Nodup := by
  have h : hasUniqueTipNames exDup = .ok false := qr_eq_of_check _ _ (by decide)
  refine ⟨h, fun hn => ?_⟩
  have := ((unique_tip_names_meaning exDup false h).2.1).2 hn
  cases this

example : hasUniqueTipNames exUnnamed = .err "UnnamedLeaves" :=
  (unique_tip_names_refused_iff exUnnamed).1.2 ⟨2, by decide, by decide⟩

end C04
