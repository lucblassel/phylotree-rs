import PhyloModel.Props.C01
/-! # C16 — every Newick output format is the full output minus exactly the omitted fields

`NW.nodeText`/`NW.toNewickF` mirror `Node::to_newick(format)`/`Tree::to_newick_impl` for the nine
`NewickFormat` values (tables `FM.keepName`, `FM.keepLen`, `FM.keepComment`); `NW.strip f` erases from a
rose tree exactly the fields format `f` omits. -/
namespace C16
open NW
variable {L : Type} {parseLen : Label → Option L} {showLen : L → Label}

/-- the text of format `f` is the full-format text of the stripped tree, for all nine formats -/
theorem format_is_strip (f : FM.Fmt) (t : RTree L) :
    writeF showLen f t = write showLen (strip f t) := by
  rw [NW.format_is_strip showLen f t, writeF_all]

/-- the arena writer, on any arena layout representing `t`, produces that text -/
theorem arena_format (f : FM.Fmt) (a : Array (PNode L)) (i : Nat) (t : RTree L) (h : RepN a i t)
    (fuel : Nat) (hf : ht t ≤ fuel) :
    toNewickF showLen fuel f a i = some (write showLen (strip f t)) := by
  rw [toNewickF_rep showLen f a t fuel i h hf, format_is_strip]

/-- parsing the formatted text yields the same topology carrying only the retained fields -/
theorem format_parses_to_strip (hc : Codec parseLen showLen) (f : FM.Fmt) (t : RTree L)
    (hwf : WFT (strip f t)) :
    ∃ a, parse parseLen (writeF showLen f t ++ [';']) = .done a ∧ Layout a 0 none (strip f t) := by
  rw [format_is_strip]
  exact C01.roundtrip hc (strip f t) hwf

mutual
/-- stripping keeps a tree inside the round-trip domain -/
theorem strip_wf (f : FM.Fmt) : ∀ t : RTree L, WFT t → WFT (strip f t)
  | .node n l c [], h => by
    rw [WFT] at h; rw [strip, WFT]
    exact ⟨keepIf_keeps (P := nameWF) trivial h.1 _, keepIf_keeps (P := commentWF) trivial h.2.1 _, trivial⟩
  | .node n l c (k :: ks), h => by
    rw [WFT, WFL] at h; rw [strip, WFT, WFL]
    exact ⟨keepIf_keeps (P := nameWF) trivial h.1 _, keepIf_keeps (P := commentWF) trivial h.2.1 _,
      strip_wf f k h.2.2.1, stripL_wf f ks h.2.2.2⟩
theorem stripL_wf (f : FM.Fmt) : ∀ ts : List (RTree L), WFL ts → WFL (stripL f ts)
  | [], _ => by simp [stripL, WFL]
  | k :: ks, h => by
    rw [WFL] at h; rw [stripL, WFL]
    exact ⟨strip_wf f k h.1, stripL_wf f ks h.2⟩
end

/-- five entries of the per-format tables, spelled out -/
example : (FM.keepName .topology true, FM.keepLen .onlyLengths false, FM.keepLen .leafLengthsLeafNames false,
    FM.keepName .internalLengthsLeafNames false, FM.keepComment .noComments) = (false, true, false, false, false) := by
  decide +kernel

end C16
