import PhyloModel.Arena.Cli
import PhyloModel.Props.C11
import PhyloModel.Arena.QRLemmas
import PhyloModel.Arena.CliCollapse
import PhyloModel.Arena.CliRemove
/-! # C18 — command-line subcommands agree with the library semantics

The tool's own logic is modelled in `Arena/Cli.lean` (`collapse`, `remove`) and `Arena/CliReport.lean` (`stats`,
`distance`, `compare`: theorems in `Props/C18Report.lean`); the other subcommands are direct compositions of library
calls whose content is C06–C09, C11, C12.  The real binary built from the working tree
is run on generated tree files on every check and compared with the library in-process, with independent
computations of the harness, and with the models.  clap's argument parsing, the file system and process exit
codes are modelled, not verified; a panic exit counts as an error exit. -/
namespace C18
open AR

/-- `collapse`, one node `x`: children, parent, name, comment and tombstone flag of every slot are untouched; every
    other slot keeps its own length; the length of `x` becomes 0 exactly when it has a parent, a length below the
    threshold, and is not an excluded tip, and is unchanged otherwise (the parent's record of that length:
    `collapse_whole_loop`) -/
theorem collapse_node_exact (thr : Int) (ex : Bool) (a : Arena) (x : Nat) (hx : x < a.size) :
    (∀ i, (nd (collapseNode thr ex a x) i).children = (nd a i).children ∧
          (nd (collapseNode thr ex a x) i).parent = (nd a i).parent ∧
          (nd (collapseNode thr ex a x) i).name = (nd a i).name ∧
          (nd (collapseNode thr ex a x) i).comment = (nd a i).comment ∧
          (nd (collapseNode thr ex a x) i).deleted = (nd a i).deleted) ∧
    (∀ i, i ≠ x → (nd (collapseNode thr ex a x) i).pedge = (nd a i).pedge) ∧
    (nd (collapseNode thr ex a x) x).pedge =
      (if (ex && (nd a x).children.isEmpty) then (nd a x).pedge else
       match (nd a x).parent, (nd a x).pedge with
       | some _, some len => if len < thr then some 0 else some len
       | _, l => l) := by
  rcases collapseNode_cases thr ex a x with ⟨p, _, hc, heq⟩ | ⟨hc, heq⟩
  · rw [heq]
    obtain ⟨hfr, hpe, _⟩ := setLen_fields a x p 0 hx
    refine ⟨fun i => ?_, fun i hix => by rw [hpe, if_neg hix], ?_⟩
    · obtain ⟨f1, f2, f3, f4, f5, _⟩ := hfr i
      exact ⟨f1, f2, f3, f4, f5⟩
    · rw [hpe, if_pos rfl]
      exact (collapsedPedge_pos hc).symm
  · rw [heq]
    exact ⟨fun _ => ⟨rfl, rfl, rfl, rfl, rfl⟩, fun _ _ => rfl, (collapsedPedge_neg hc).symm⟩

/-- `remove` with no name is the final `tree.compress().unwrap()` (leaf-to-leaf path lengths kept: C11); a round
    on a name is `remove_unfold` -/
theorem remove_is_prune_then_compress (a : Arena) :
    cliRemove a [] = (match compress a with
      | (a2, .ok _) => .ok a2
      | (_, .err k) => .err k
      | (_, _) => .err "CompressFailed") := by
  simp only [cliRemove, List.foldlM_nil, QR.pure_eq, QR.bind_ok]
  rcases compress a with ⟨a2, o⟩
  cases o <;> rfl

/-- a name that does not exist, or names an internal node, is an error exit (the tool panics) -/
theorem remove_rejects_non_tips (a : Arena) (name : String) (rest : List String)
    (h : getByName a name = none ∨ ∃ x, getByName a name = some x ∧ (nd a x).children.isEmpty = false) :
    ∃ k, cliRemove a (name :: rest) = .err k := by
  rw [cliRemove_eq, List.foldlM_cons, removeStep]
  rcases h with h | ⟨x, h1, h2⟩
  · exact ⟨"NoSuchName", by rw [h]; rfl⟩
  · exact ⟨"NotATip", by rw [h1, QR.ofOpt, QR.bind_ok, removeNode, h2]; rfl⟩

/-- `rescale` is the library operation (C11): every branch length is multiplied by the factor -/
theorem rescale_is_library (a : Arena) (k : Int) (i : Nat) :
    (nd (rescale a k) i).pedge = (nd a i).pedge.map (· * k) := (C11.rescale_every_length a k i).1


/-! ## the tool's own loops: `collapse` and `remove`, in full

`Arena/Cli.lean` models the two subcommands whose logic lives in the binary (`src/bin/phylotree/main.rs`).
This file states their contracts over the WHOLE loops, on every arena satisfying the invariant `Good`
(what every edit history and the parser produce, C03):

* `collapse thr [-e]` succeeds whenever the tree has a root; it changes nothing but branch lengths; a node's length becomes `0` exactly
  when the node has a parent, is not an excluded tip, and carries a length below the threshold; both records
  of the length (the node's and its parent's) are written, so the invariant still holds.
* `remove names…`, when it exits normally: the result satisfies the invariant, has no one-child non-root node,
  no new tip (as long as one tip of the input remains, the tips of the result are exactly the tips of the input that
  were not removed), the path length between any two remaining tips is what it was, and every name resolved, at its
  turn, to a live childless node carrying that name which is gone from the result.  `cliRemoveTrace` is `cliRemove` instrumented to return also the slots
  the names resolved to (`remove_trace_is_remove`).
-/

open AR

/-! ## collapse -/

/-- the condition under which the loop sets a node's length to zero (definition unfolded) -/
theorem collapses_iff (thr : Int) (ex : Bool) (n : Node) :
    Collapses thr ex n ↔
      (n.parent.isSome = true ∧ ¬ (ex = true ∧ n.children = []) ∧ ∃ len, n.pedge = some len ∧ len < thr) :=
  Iff.rfl

/-- **`collapse`, the whole loop**, on any arena satisfying the invariant that has a root `r`: the call
    succeeds; for EVERY slot the children, parent, name, comment, tombstone flag and depth are unchanged; a
    node below the root gets length `0` iff `Collapses` holds for it and keeps its length otherwise; slots
    not below the root are untouched; the result satisfies the invariant, in particular every parent's
    record of a child's length is the child's own -/
theorem collapse_whole_loop {a : Arena} (g : Good a) {r : Nat} (hr : getRoot a = some r) (thr : Int) (ex : Bool) :
    ∃ a', cliCollapse a thr ex = .ok a' ∧ Good a' ∧ a'.size = a.size ∧
      (∀ i, (nd a' i).children = (nd a i).children ∧ (nd a' i).parent = (nd a i).parent ∧
        (nd a' i).name = (nd a i).name ∧ (nd a' i).comment = (nd a i).comment ∧
        (nd a' i).deleted = (nd a i).deleted ∧ (nd a' i).depth = (nd a i).depth) ∧
      (∀ i, (∃ k, BelowK a r i k) →
        (nd a' i).pedge = if Collapses thr ex (nd a i) then some 0 else (nd a i).pedge) ∧
      (∀ i, (¬ ∃ k, BelowK a r i k) → nd a' i = nd a i) ∧
      (∀ p c, live a p → c ∈ (nd a p).children → alGet (nd a' p).cedges c = (nd a' c).pedge) := by
  obtain ⟨hlr, hpr⟩ := getRoot_spec hr
  obtain ⟨t, _, hpre, _, hnd, _, hmem, _⟩ := traversals_total g.1 r hlr
  have hrun : cliCollapse a thr ex = .ok ((pre t).foldl (collapseNode thr ex) a) := by
    simp [cliCollapse, root, subtree, hr, hpre, QR.ofOpt]
  have hlive : ∀ x ∈ pre t, live a x := fun x hx => by
    obtain ⟨k, hb⟩ := (hmem x).1 hx; exact hb.is_live
  have s := CState.fold (pre t) (CState.init thr ex g) hlive hnd (fun _ _ h => by simp at h)
  refine ⟨_, hrun, s.good, s.size, s.frame, ?_, ?_, ?_⟩
  · intro i hi
    rw [s.pdone i (by simpa using (hmem i).2 hi), collapsedPedge_eq_ite]
  · intro i hi
    apply s.untouched i
    · simpa using fun h => hi ((hmem i).1 h)
    · intro c hc hp
      have hc' : c ∈ pre t := by simpa using hc
      obtain ⟨k, hb⟩ := (hmem c).1 hc'
      exact hi (hb.parent_below hp hpr)
  · intro p c hl hc
    obtain ⟨f1, _, _, _, f5, _⟩ := s.frame p
    exact (s.good.1.child_ok p c ⟨by rw [s.size]; exact hl.1, by rw [f5]; exact hl.2⟩ (by rw [f1]; exact hc)).2.2.2

/-- **`collapse`, every slot**: when the live nodes form one tree (at most one parentless live node — every
    tree the parser builds), the new length of EVERY slot `i` is
    `if live a i ∧ Collapses thr ex (nd a i) then some 0 else (nd a i).pedge` -/
theorem collapse_every_slot {a : Arena} (g : Good a) (h1 : AtMostOneRoot a) {r : Nat} (hr : getRoot a = some r)
    (thr : Int) (ex : Bool) :
    ∃ a', cliCollapse a thr ex = .ok a' ∧ Good a' ∧ a'.size = a.size ∧
      (∀ i, (nd a' i).children = (nd a i).children ∧ (nd a' i).parent = (nd a i).parent ∧
        (nd a' i).name = (nd a i).name ∧ (nd a' i).comment = (nd a i).comment ∧
        (nd a' i).deleted = (nd a i).deleted ∧ (nd a' i).depth = (nd a i).depth) ∧
      (∀ i, (nd a' i).pedge = if live a i ∧ Collapses thr ex (nd a i) then some 0 else (nd a i).pedge) := by
  obtain ⟨a', e, g', hsz, hfr, hin, hout, _⟩ := collapse_whole_loop g hr thr ex
  refine ⟨a', e, g', hsz, hfr, ?_⟩
  intro i
  by_cases hl : live a i
  · obtain ⟨t, _, ht, _, hall⟩ := one_tree g.1 h1 i hl
    rw [hr] at ht; cases ht
    rw [hin i (hall i hl)]
    simp [hl]
  · have : ¬ ∃ k, BelowK a r i k := fun ⟨k, hb⟩ => hl hb.is_live
    rw [hout i this]
    simp [hl]

/-- without a root the tool panics (an error exit) -/
theorem collapse_no_root {a : Arena} (hr : getRoot a = none) (thr : Int) (ex : Bool) :
    cliCollapse a thr ex = .err "RootNotFound" := by
  simp [cliCollapse, root, hr, QR.ofOpt]

/-! ## remove -/

/-- the instrumented run returns the arena `cliRemove` returns (and the same errors) -/
theorem remove_trace_is_remove (a : Arena) (tips : List String) :
    cliRemove a tips = (cliRemoveTrace a tips).fst :=
  cliRemoveTrace_fst a tips

/-- **general composition lemma** (`C18.remove_is_prune_then_compress` is the case of the empty list):
    one round of the loop — the name is looked up, must name a childless node, that node is pruned, the
    ancestors that lost all their children are pruned — then `remove` on the remaining names -/
theorem remove_unfold (a : Arena) (name : String) (rest : List String) :
    cliRemove a (name :: rest) =
      (match getByName a name with
       | none => .err "NoSuchName"
       | some x =>
         if !(nd a x).children.isEmpty then .err "NotATip" else
         match prune a x with
         | (a1, .ok _) => cliRemove (pruneEmptied (fuelOf a) a1 (nd a x).parent) rest
         | _ => .err "PruneFailed") := by
  rw [cliRemove_eq, List.foldlM_cons, removeStep]
  cases getByName a name with
  | none => rfl
  | some x =>
    simp only [QR.ofOpt, QR.bind_ok, removeNode]
    split
    · rfl
    · rcases prune a x with ⟨a1, o⟩
      cases o with
      | ok _ => simp only [QR.bind_ok]; rw [cliRemove_eq]
      | err k => rfl
      | panic => rfl
      | diverge => rfl

/-- ... and the empty list of names is the final `compress` -/
theorem remove_nil (a : Arena) : cliRemove a [] = compressQ a := by
  rw [cliRemove_eq]; rfl

/-- a round on a name that resolves to a live childless node never fails -/
theorem remove_round_total {a : Arena} (g : Good a) {name : String} {x : Nat} (hn : getByName a name = some x)
    (ht : IsTip a x) : ∃ a1, removeStep a name = .ok a1 ∧ Good a1 := by
  have e : removeStep a name = removeNode a x := by simp [removeStep, hn, QR.ofOpt]
  rw [e]
  rcases removeNode_outcome g x with h | ⟨_, h⟩ | ⟨_, h⟩
  · exact h
  · exact absurd ht.2 h
  · exact absurd ht.1 h

/-- **outcomes of `remove`**: on an arena satisfying the invariant the model never panics and never exhausts
    its fuel (the climb over emptied ancestors ends, `prune` and `compress` terminate); an error exit is one of
    the tool's own panics (`NoSuchName`, `NotATip`, `PruneFailed` = the name resolved to a removed slot) or an
    error value `compress` returns on an arena satisfying the invariant (the pruned tree) -/
theorem remove_outcomes {a : Arena} (g : Good a) (tips : List String) :
    (∃ a', cliRemove a tips = .ok a') ∨
    (∃ k, cliRemove a tips = .err k ∧ (k = "NoSuchName" ∨ k = "NotATip" ∨ k = "PruneFailed" ∨
      ∃ a1, Good a1 ∧ (compress a1).2 = .err k)) := by
  rw [cliRemove_eq]
  rcases removeFold_outcome tips g with ⟨a1, h, g1⟩ | ⟨k, h, hk⟩
  · rw [h]
    simp only [QR.bind_ok, compressQ]
    rcases compressLoop_outcome (toCompress a1) g1 with ⟨o, ho⟩ | ⟨k, ho⟩
    · left
      have : compress a1 = ((compress a1).1, .ok o) := Prod.ext rfl ho
      rw [this]; exact ⟨_, rfl⟩
    · right
      have : compress a1 = ((compress a1).1, .err k) := Prod.ext rfl ho
      refine ⟨k, ?_, Or.inr (Or.inr (Or.inr ⟨a1, g1, ho⟩))⟩
      rw [this]
  · rw [h]
    exact .inr ⟨k, rfl, hk.imp_right fun hk => hk.imp_right .inl⟩

theorem remove_trace_ok {a a' : Arena} {tips : List String} {xs : List Nat}
    (h : cliRemoveTrace a tips = .ok (a', xs)) :
    ∃ a1 o, removeLoopT a tips = .ok (a1, xs) ∧ compress a1 = (a', .ok o) := by
  unfold cliRemoveTrace at h
  split at h
  next a1 xs' hloop =>
    split at h
    next a2 hcq =>
      cases h
      unfold compressQ at hcq
      split at hcq
      next a2' o hc => cases hcq; exact ⟨a1, o, hloop, hc⟩
      · cases hcq
      · cases hcq
    · cases h
    · cases h
  · cases h
  · cases h

/-- **contract of `remove`**.  `a`: the tree read (invariant, at most one root); `a'`: the tree printed.
    There is a list `xs` of slots, the ones the names resolved to in order (`cliRemoveTrace`), without
    repetition, such that
    (a) `a'` satisfies the invariant and has at most one root;
    (b) no live non-root node of `a'` has exactly one child;
    (c) nothing comes back to life; a tip of `a` not in `xs` is a tip of `a'`; a tip of `a'` is a tip of `a` not
        in `xs` — NO NEW TIP — the only exception being the root of `a` once every tip of `a` has been removed;
        any two distinct tips of `a'` are at the same path length in `a'` as in `a` (edge count not larger);
    (d) each name resolved to a slot that is live in `a`, carries that name, is childless in `a` (or is the
        root of `a`: the exception of (c), removed by a later name), and is not live in `a'`. -/
theorem remove_contract {a a' : Arena} {tips : List String} (g : Good a) (h1 : AtMostOneRoot a)
    (h : cliRemove a tips = .ok a') :
    ∃ xs, cliRemoveTrace a tips = .ok (a', xs) ∧ xs.Nodup ∧
      Good a' ∧ AtMostOneRoot a' ∧ (∀ i, ¬ Unary a' i) ∧
      (∀ i, live a' i → live a i) ∧
      (∀ i, IsTip a i → i ∉ xs → IsTip a' i) ∧
      (∀ i, IsTip a' i → (IsTip a i ∧ i ∉ xs) ∨ (isRoot a i ∧ ¬ IsTip a i ∧ ∀ j, IsTip a j → j ∈ xs)) ∧
      (∀ x y, IsTip a' x → IsTip a' y → x ≠ y →
        ∃ d n n', distance a x y = .ok (d, n) ∧ distance a' x y = .ok (d, n') ∧ n' ≤ n) ∧
      List.Forall₂ (fun name x => (live a x ∧ (nd a x).name = some name ∧
        ((nd a x).children = [] ∨ (nd a x).parent = none)) ∧ ¬ live a' x) tips xs := by
  obtain ⟨xs, hx⟩ := (cliRemove_ok_iff a a' tips).1 h
  obtain ⟨a1, o, hloop, hc⟩ := remove_trace_ok hx
  obtain ⟨g1, sh, _, nn, r5, r6, r7, r8⟩ := removeLoopT_spec (a := a) tips g (Shrunk.refl a)
    (NoNewTipBut.refl _) hloop
  have e : (compressLoop (toCompress a1) a1).1 = a' := congrArg Prod.fst hc
  have g2 : Good a' := e ▸ (compress_good g1).1
  have h11 : AtMostOneRoot a1 := sh.roots.atMostOne h1
  have h12 : AtMostOneRoot a' := e ▸ (compressLoop_roots (toCompress a1) g1).atMostOne h11
  have hsub2 : ∀ i, live a' i → live a1 i := fun i hl => compressLoop_sub (toCompress a1) g1 i (e ▸ hl)
  obtain ⟨hun, _⟩ := compress_post g1 hc
  obtain ⟨htip, hdist⟩ := compress_tip_distances g1 hc
  -- a tip of `a` that is not in `xs` is a tip of `a1`
  have hkeep : ∀ i, IsTip a i → i ∉ xs → IsTip a1 i := by
    intro i hi hx
    have hl1 : live a1 i := Classical.byContradiction fun hd => (r6 i hi.1 hd).elim hx fun e => e hi.2
    refine ⟨hl1, List.eq_nil_iff_forall_not_mem.2 (fun c hc => ?_)⟩
    have := sh.kids i c hl1 hc
    rw [hi.2] at this; cases this
  refine ⟨xs, hx, r8, g2, h12, hun, fun i hl => sh.sub i (hsub2 i hl), ?_, ?_, ?_, ?_⟩
  · intro i hi hx
    exact (htip i).2 (hkeep i hi hx)
  · intro i hi
    have hi1 := (htip i).1 hi
    have hnx : i ∉ xs := fun hm => (r5 i hm).2 hi1.1
    have hla := sh.sub i hi1.1
    by_cases hca : (nd a i).children = []
    · exact Or.inl ⟨⟨hla, hca⟩, hnx⟩
    · right
      have hroot1 : (nd a1 i).parent = none := by
        cases hp : (nd a1 i).parent with
        | none => rfl
        | some q => exact absurd (nn i hi1.1 (by simp) hi1.2 (by simp [hp])) hca
      refine ⟨⟨hla, by rw [← sh.par i hi1.1]; exact hroot1⟩, fun ht => hca ht.2, ?_⟩
      intro j hj
      apply Classical.byContradiction
      intro hjx
      have hj1 := hkeep j hj hjx
      obtain ⟨t, ht, _, _, hall⟩ := one_tree g1.1 h11 j hj1.1
      have : t = i := h11 t i ht ⟨hi1.1, hroot1⟩
      subst this
      obtain ⟨k, hb⟩ := hall j hj1.1
      have := below_childless_eq g1.1.toW hi1.2 hb
      subst this
      exact hca hj.2
  · intro x y hx hy hxy
    have hx1 := (htip x).1 hx
    have hy1 := (htip y).1 hy
    obtain ⟨d, n, n', e1, e2, hle⟩ := hdist x y hx1 hy1 hxy
    rw [sh.dist x y hx1.1 hy1.1] at e1
    exact ⟨d, n, n', e1, e2, hle⟩
  · exact forall₂_and_right_cli r7 (fun x hx hl => (r5 x hx).2 (hsub2 x hl))

/-- (d), "at its turn": in the instrumented run the first slot is what the first name resolves to in the
    current arena — a live childless node carrying that name — and the rest of the run is the run on the
    remaining names from the arena this round leaves (which satisfies the invariant again) -/
theorem remove_trace_round {b b2 : Arena} {name : String} {rest : List String} {ys : List Nat} (gb : Good b)
    (h : removeLoopT b (name :: rest) = .ok (b2, ys)) :
    ∃ x b1 xs, ys = x :: xs ∧ getByName b name = some x ∧ IsTip b x ∧ (nd b x).name = some name ∧
      removeNode b x = .ok b1 ∧ Good b1 ∧ removeLoopT b1 rest = .ok (b2, xs) := by
  obtain ⟨x, b1, xs, e, hname, hrn, hloop⟩ := removeLoopT_cons_inv h
  obtain ⟨s1, s2, _⟩ := removeNode_spec gb (Shrunk.refl b) (NoNewTipBut.refl _) hrn
  exact ⟨x, b1, xs, e, hname, s1, getByName_name hname, hrn, s2, hloop⟩

/-- **the tips after `remove`**: as soon as one tip of the input survives, the tips of the result are exactly
    the tips of the input that were not removed -/
theorem remove_tips_exact {a a' : Arena} {tips : List String} {xs : List Nat} (g : Good a)
    (h1 : AtMostOneRoot a) (h : cliRemoveTrace a tips = .ok (a', xs)) (hs : ∃ j, IsTip a j ∧ j ∉ xs) (i : Nat) :
    IsTip a' i ↔ (IsTip a i ∧ i ∉ xs) := by
  obtain ⟨xs', hx', _, _, _, _, _, t1, t2, _⟩ := remove_contract g h1 ((cliRemove_ok_iff a a' tips).2 ⟨xs, h⟩)
  obtain rfl : xs = xs' := (Prod.mk.inj (QR.ok.inj (h.symm.trans hx'))).2
  constructor
  · intro hi
    rcases t2 i hi with e | ⟨_, _, e⟩
    · exact e
    · obtain ⟨j, hj, hjx⟩ := hs
      exact absurd (e j hj) hjx
  · rintro ⟨hi, hx⟩; exact t1 i hi hx

/-! ## non-vacuity: `((A:3,B:4):1,C:2,(D:1):5);` — root 0, inner node 1 with tips 3 = A, 4 = B, tip 2 = C, and
    the one-child node 5 above the tip 6 = D -/

def exOps : List Op := [.add none, .addChild 0 (some 1) none, .addChild 0 (some 2) (some "C"),
  .addChild 1 (some 3) (some "A"), .addChild 1 (some 4) (some "B"), .addChild 0 (some 5) none,
  .addChild 5 (some 1) (some "D")]
def exT : Arena := runOps #[] exOps

theorem exT_good : Good exT := runOps_good _ empty_good

theorem exT_oneRoot : AtMostOneRoot exT :=
  (runOps_oneRoot exOps empty_good (fun i _ hi => absurd hi.1.1 (by simp))
    ⟨fun i hi => absurd hi.1.1 (by simp), trivial, trivial, trivial, trivial, trivial, trivial, trivial⟩).2

theorem exT_root : getRoot exT = some 0 := by decide

/-- `collapse 3`: nodes 1, 2 and 6 (lengths 1, 2, 1) are collapsed, nodes 3, 4, 5 (lengths 3, 4, 5) are not, the
    root has no length -/
example : Collapses 3 false (nd exT 1) ∧ Collapses 3 false (nd exT 2) ∧ Collapses 3 false (nd exT 6) ∧
    ¬ Collapses 3 false (nd exT 3) ∧ ¬ Collapses 3 false (nd exT 5) ∧ ¬ Collapses 3 false (nd exT 0) := by decide

/-- with `-e` the tips 2 and 6 are excluded -/
example : Collapses 3 true (nd exT 1) ∧ ¬ Collapses 3 true (nd exT 2) ∧ ¬ Collapses 3 true (nd exT 6) := by decide

/-- the executable model on this tree, against the theorem -/
example : ((cliCollapse exT 3 false).getD #[]).toList.map (·.pedge) =
    [none, some 0, some 0, some 3, some 4, some 5, some 0] := by decide

/-- the hypotheses of `collapse_every_slot` hold for this tree; two of its conclusions spelled out -/
example : ∃ a', cliCollapse exT 3 true = .ok a' ∧ (nd a' 1).pedge = some 0 ∧ (nd a' 2).pedge = some 2 ∧
    alGet (nd a' 0).cedges 1 = some 0 := by
  obtain ⟨a', e, g', hsz, hf, hp⟩ := collapse_every_slot exT_good exT_oneRoot exT_root 3 true
  have h1 : (nd a' 1).pedge = some 0 := by rw [hp 1]; decide
  have h2 : (nd a' 2).pedge = some 2 := by rw [hp 2]; decide
  refine ⟨a', e, h1, h2, ?_⟩
  have hl : live a' 0 := ⟨by rw [hsz]; decide, by rw [(hf 0).2.2.2.2.1]; decide⟩
  have hc : 1 ∈ (nd a' 0).children := by rw [(hf 0).1]; decide
  rw [(g'.1.child_ok 0 1 hl hc).2.2.2, h1]

/-- `remove D A`: the names resolve to the slots 6 and 3; the run succeeds -/
def exR : Arena := (cliRemove exT ["D", "A"]).getD #[]

theorem exR_run : cliRemoveTrace exT ["D", "A"] = .ok (exR, [6, 3]) := by
  -- one evaluation of the run; the arena component is `exR` by definition
  have h : (match cliRemoveTrace exT ["D", "A"] with | .ok p => p.2 == [6, 3] | _ => false) = true := by decide
  have e := remove_trace_is_remove exT ["D", "A"]
  cases hr : cliRemoveTrace exT ["D", "A"] with
  | ok p =>
    rw [hr] at h e
    have : exR = p.1 := by unfold exR; rw [e]; rfl
    rw [this, ← beq_iff_eq.1 h]
  | err k => rw [hr] at h; cases h
  | panic => rw [hr] at h; cases h
theorem exR_ok : cliRemove exT ["D", "A"] = .ok exR :=
  (cliRemove_ok_iff _ _ _).2 ⟨_, exR_run⟩

/-- the hypotheses of `remove_contract` / `remove_tips_exact` hold: the tips 4 = B and 2 = C survive, at the
    same path length 7 (over one edge less: node 1 was left with one child and is spliced out); node 5, which
    lost its only child, is gone and is NOT a new tip -/
example : IsTip exT 4 ∧ IsTip exT 2 ∧ 4 ∉ [6, 3] ∧ IsTip exR 4 ∧ IsTip exR 2 ∧ ¬ live exR 5 ∧ ¬ live exR 6 ∧
    ¬ live exR 3 ∧ ¬ live exR 1 ∧
    distance exT 4 2 = .ok (some 7, 3) ∧ distance exR 4 2 = .ok (some 7, 2) := by
  refine ⟨by decide, by decide, by decide, ?_, ?_, by decide, by decide, by decide, by decide,
    distIs_eq (by decide), distIs_eq (by decide)⟩
  · exact (remove_tips_exact exT_good exT_oneRoot exR_run ⟨4, by decide, by decide⟩ 4).2 ⟨by decide, by decide⟩
  · exact (remove_tips_exact exT_good exT_oneRoot exR_run ⟨4, by decide, by decide⟩ 2).2 ⟨by decide, by decide⟩

example : ∃ xs, cliRemoveTrace exT ["D", "A"] = .ok (exR, xs) ∧ xs.Nodup ∧ Good exR ∧ AtMostOneRoot exR ∧
    (∀ i, ¬ Unary exR i) := by
  obtain ⟨xs, h1, h2, h3, h4, h5, _⟩ := remove_contract exT_good exT_oneRoot exR_ok
  exact ⟨xs, h1, h2, h3, h4, h5⟩

/-- the degenerate case of (c): `(A:1)R;` — after `remove A` the root is the only node left (a childless
    root that was not a tip of the input); `remove A R` then prunes the root as well -/
def exDOps : List Op := [.add (some "R"), .addChild 0 (some 1) (some "A")]
def exD : Arena := runOps #[] exDOps

example : Good exD ∧ AtMostOneRoot exD ∧ (cliRemoveTrace exD ["A"]).isOk = true ∧
    ((cliRemoveTrace exD ["A"]).getD (#[], [])).2 = [1] ∧
    IsTip ((cliRemoveTrace exD ["A"]).getD (#[], [])).1 0 ∧ ¬ IsTip exD 0 ∧
    ((cliRemoveTrace exD ["A", "R"]).getD (#[], [])).2 = [1, 0] := by
  refine ⟨runOps_good _ empty_good, ?_, by decide, by decide, by decide, by decide, by decide⟩
  exact (runOps_oneRoot exDOps empty_good (fun i _ hi => absurd hi.1.1 (by simp))
    ⟨fun i hi => absurd hi.1.1 (by simp), trivial, trivial⟩).2

/-- an error exit of `remove` on this tree: unknown name -/
example : cliRemove exT ["X"] = .err "NoSuchName" := by
  rw [remove_unfold]; rfl

end C18
