import PhyloModel.Arena.Cache
import PhyloModel.Arena.Abs
import PhyloModel.Split.Model
import PhyloModel.Arena.QRLemmas
import PhyloModel.Arena.C04Summary
/-! # C04 — query answers depend only on the tree, not on edit or query history

Two ingredients.  (1) The cache discipline of the two `RefCell` caches, on a small state-machine model
(`CacheM`): after the documented reset a query returns the value for the current tree, any number of
queries in any order return that same value and never change the tree, and an edit followed by the reset is
observed by the next query; without the reset the answer can be stale (which is why the property requires
the reset).  (2) In the arena model every query is a pure function of the arena that never reads a removed
slot: removed nodes are never listed, found, or used as root, and the bipartition / comparison machinery
only sees the rose tree below the live root.  The tie to the crate (whose queries do fill caches) is the
C04 correspondence: id-level answers against the model, name-level answers against a freshly parsed tree. -/
namespace C04
open CacheM

variable {T V : Type}

theorem reset_ok (f : T → V) (s : Cached T V) : CacheOK f (reset s) := by
  intro v h; simp [reset] at h

/-- a query answers with the value for the current tree, keeps the tree and keeps the cache consistent -/
theorem query_correct (f : T → V) (s : Cached T V) (h : CacheOK f s) :
    (query f s).1 = f s.tree ∧ (query f s).2.tree = s.tree ∧ CacheOK f (query f s).2 := by
  unfold query
  cases hc : s.cache with
  | none => refine ⟨rfl, rfl, ?_⟩; intro v hv; simp at hv; exact hv.symm
  | some v => exact ⟨h v hc, rfl, h⟩

/-- read-only queries, in any number, never change the answer of a later query -/
theorem queries_stable (f : T → V) : ∀ (n : Nat) (s : Cached T V), CacheOK f s →
    (∀ v ∈ (queries f n s).1, v = f s.tree) ∧ (queries f n s).2.tree = s.tree ∧ CacheOK f (queries f n s).2
  | 0, s, h => ⟨by simp [queries], rfl, h⟩
  | n + 1, s, h => by
    obtain ⟨h1, h2, h3⟩ := query_correct f s h
    obtain ⟨g1, g2, g3⟩ := queries_stable f n (query f s).2 h3
    simp only [queries]
    refine ⟨?_, by rw [g2, h2], g3⟩
    intro v hv
    rcases List.mem_cons.mp hv with rfl | hv
    · exact h1
    · rw [g1 v hv, h2]

/-- an edit followed by the documented reset is seen by every later query, whatever was cached before -/
theorem edit_reset_query (f : T → V) (g : T → T) (s : Cached T V) (n : Nat) :
    ∀ v ∈ (queries f n (reset (edit g s))).1, v = f (g s.tree) := by
  have := (queries_stable f n (reset (edit g s)) (reset_ok f _)).1
  simpa [reset, edit] using this

/-- without the reset a query may return the stale value: the reset in the property's statement is needed -/
theorem stale_without_reset : ∃ (s : Cached Nat Nat), CacheOK id s ∧
    (query id (edit (· + 1) (query id s).2)).1 ≠ id (edit (· + 1) (query id s).2).tree :=
  ⟨⟨0, none⟩, by intro v h; simp at h, by decide⟩

/-! ### removed slots are never observable in the arena model -/
open AR

theorem leaves_live (a : Arena) (i : Nat) (h : i ∈ leaves a) : live a i := by
  simp only [leaves, List.mem_filter, Bool.and_eq_true] at h
  exact (isLive_iff a i).mp h.2.1

theorem search_live (a : Arena) (n : Option String) (i : Nat) (h : i ∈ searchName a n) : live a i := by
  simp only [searchName, List.mem_filter, Bool.and_eq_true] at h
  exact (isLive_iff a i).mp h.2.1

theorem root_live (a : Arena) (r : Nat) (h : getRoot a = some r) : live a r ∧ (nd a r).parent = none :=
  getRoot_isRoot h

theorem get_dead (a : Arena) (i : Nat) (h : ¬ live a i) : (∃ k, AR.get a i = .err k) :=
  ⟨"NodeNotFound", by simp [AR.get, isLive_eq_false h]⟩

/-- the abstraction used by every rose-level query never descends into a removed slot -/
theorem abs_dead (f : Nat) (a : Arena) (x : Nat) (h : ¬ live a x) : absF f a x = none := by
  cases f with
  | zero => rfl
  | succ f => simp [absF, isLive_eq_false h]

/-! ## C04, assembled

One statement for the whole property: the arena `a` reached by any admissible edit history answers every
id-free read-only query — shape statistics, leaf names, name searches, traversals, bipartitions,
node-to-node distances (nodes addressed by pre-order position), both distance matrices — exactly like the
arena `freshArena' (erase ta)` built afresh (root by `add`, all other nodes by `add_child` in pre-order, the
way the Newick parser builds it) from the current tree of `a`.  Tree comparison, common ancestors and
`get_by_name` are not part of the statement: see `AR.comparison_depends_only_on_tree`,
`AR.commonAncestor_depends_only_on_tree`, `get_by_name_after_history`. -/
open AR SPM DMF


theorem C04_history_vs_fresh (ops : List Op) (hadm : AdmissibleRun #[] ops) {ta : Rose}
    (hta : absRoot (runOps #[] ops) = .ok ta) :
    let a := runOps #[] ops
    let b := freshArena' (erase ta)
    ∃ tb, absRoot b = .ok tb ∧ erase tb = erase ta ∧
    -- shape statistics
    nLeaves a = nLeaves b ∧ isRooted a = isRooted b ∧ isBinary a = isBinary b ∧
    totalLength a = totalLength b ∧ cherries a = cherries b ∧ colless a = colless b ∧ sackin a = sackin b ∧
    (∀ u, treeHeight a u = treeHeight b u) ∧ (∀ u, diameter a u = diameter b u) ∧
    -- leaf names and name searches
    ((leaves a).map (fun i => (nd a i).name)).Perm ((leaves b).map (fun i => (nd b i).name)) ∧
    (∀ n, (searchName a n).length = (searchName b n).length) ∧
    -- traversals and listings from the root, read as names
    qnames a (subtree a ta.id) = qnames b (subtree b tb.id) ∧
    qnames a (postorder a ta.id) = qnames b (postorder b tb.id) ∧
    qnames a (inorder a ta.id) = qnames b (inorder b tb.id) ∧
    qnames a (levelorderQ a ta.id) = qnames b (levelorderQ b tb.id) ∧
    qnames a (subtreeLeaves a ta.id) = qnames b (subtreeLeaves b tb.id) ∧
    qnames a (descendants a ta.id) = qnames b (descendants b tb.id) ∧
    -- bipartitions
    partitionsArena a = partitionsArena b ∧
    -- distance matrices
    dmRecursive a = dmRecursive b ∧ (∀ u, dmRose a u = dmRose b u) ∧
    -- node-to-node distances, nodes addressed by pre-order position
    (∀ (i j xa ya xb yb : Nat), (idsR ta)[i]? = some xa → (idsR ta)[j]? = some ya → (idsR tb)[i]? = some xb →
      (idsR tb)[j]? = some yb → distance a xa ya = distance b xb yb) :=
  AR.C04_history_vs_fresh ops hadm hta

/-- non-vacuity: the history with a removal (`exB`) satisfies the hypotheses; e.g. its distance matrix equals
    that of the freshly built cherry -/
example : dmRecursive exB = dmRecursive (freshArena' (erase exTb)) :=
  exB_matrix_fresh

/-- **`get_by_name` after any edit history** (started from the empty arena, `add` only on a rootless arena, names set
    only on live nodes): the answer is the node of the CURRENT tree with the smallest id carrying the name — never a
    removed slot — and nothing is found exactly when no node of the tree carries it -/
theorem get_by_name_after_history (ops : List Op) (hadm : AdmissibleRun #[] ops) (hok : NamesOKRun #[] ops)
    {t : Rose} (h : absRoot (runOps #[] ops) = .ok t) (s : String) :
    (∀ i, getByName (runOps #[] ops) s = some i → i ∈ idsNamedR t (some s) ∧ ∀ j ∈ idsNamedR t (some s), i ≤ j) ∧
    (getByName (runOps #[] ops) s = none ↔ idsNamedR t (some s) = []) := by
  obtain ⟨g, h1⟩ := runOps_empty hadm
  exact getByName_refines_partial g h1 (runOps_blank ops blank_empty hok) h s

/-- every abstract tree has a fresh arena (root by `add`, every other node by `add_child` in pre-order, the way the
    Newick parser builds it) that is well formed, holds one tree, has no removed slot carrying a name, and represents it -/
theorem fresh_arena_exists (T : RoseNL) :
    Good (freshArena' T) ∧ AtMostOneRoot (freshArena' T) ∧ BlankNames (freshArena' T) ∧
    ∃ t, absRoot (freshArena' T) = .ok t ∧ erase t = T :=
  freshArena'_spec T

end C04
