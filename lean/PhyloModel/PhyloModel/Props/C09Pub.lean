import PhyloModel.Arena.PathFacts
/-! # C09 (public entry points) — an id that is not a node of the tree is refused by the ancestor and distance queries

`AR.commonAncestorPub` / `AR.distancePub` are `get_common_ancestor` / `get_distance` as they are called from outside (what
the driver runs): the `source == target` shortcut answers only for a node of the tree (repaired: the shortcut used to come
before any lookup, so `get_distance(99, 99)` on a three-node tree was `Ok((Some(0), 0))` and a removed id was handed back as
its own ancestor).  On nodes of the tree they are the functions the other C09 theorems are about. -/
namespace C09
open AR

theorem isLive_false {a : Arena} {s : Nat} (h : ¬ live a s) : isLive a s = false :=
  isLive_eq_false h

theorem path_ok_or_err (a : Arena) (x : Nat) : (∃ l, pathFromRoot a x = .ok l) ∨ (∃ e, pathFromRoot a x = .err e) := by
  unfold pathFromRoot QR.ofOpt
  cases climbF (fuelOf a) a x [] with
  | some v => exact Or.inl ⟨v, rfl⟩
  | none => exact Or.inr ⟨_, rfl⟩

/-- on a node of the tree the public entry point is the function the C09 theorems are about -/
theorem commonAncestorPub_live (a : Arena) (s t : Nat) (h : live a s) :
    commonAncestorPub a s t = commonAncestor a s t := by
  have hl := (isLive_iff a s).2 h
  unfold commonAncestorPub commonAncestor
  by_cases hst : s = t
  · subst hst; simp [hl]
  · simp [hst]

/-- on a node of the tree the public entry point is the function the C09 theorems are about -/
theorem distancePub_live (a : Arena) (s t : Nat) (h : live a s) :
    distancePub a s t = distance a s t := by
  have hl := (isLive_iff a s).2 h
  unfold distancePub distance
  by_cases hst : s = t
  · subst hst; simp [hl]
  · simp [hst]

/-- a first argument that is not a node of the tree (removed, or never handed out) is refused, whatever the second one is -/
theorem commonAncestorPub_refuses_first (a : Arena) (s t : Nat) (h : ¬ live a s) :
    commonAncestorPub a s t = .err "NodeNotFound" := (pub_dead a s t (Or.inl h)).1

/-- a first argument that is not a node of the tree is refused by the distance query as well -/
theorem distancePub_refuses_first (a : Arena) (s t : Nat) (h : ¬ live a s) :
    distancePub a s t = .err "NodeNotFound" := (pub_dead a s t (Or.inl h)).2

/-- a second argument that is not a node of the tree is refused too -/
theorem commonAncestorPub_refuses_second (a : Arena) (s t : Nat) (h : ¬ live a t) :
    ∃ e, commonAncestorPub a s t = .err e := ⟨_, (pub_dead a s t (Or.inr h)).1⟩

/-- a second argument that is not a node of the tree is refused by the distance query as well -/
theorem distancePub_refuses_second (a : Arena) (s t : Nat) (h : ¬ live a t) :
    ∃ e, distancePub a s t = .err e := ⟨_, (pub_dead a s t (Or.inr h)).2⟩

/-- the hypotheses are satisfiable and the guard is not vacuous: in the one-node arena, id 0 is a node and is at distance 0
    from itself, id 7 is not a node and is refused -/
example : distancePub #[(default : Node)] 0 0 = .ok (some 0, 0) ∧ distancePub #[(default : Node)] 7 7 = .err "NodeNotFound" := by
  constructor <;> rfl

end C09
