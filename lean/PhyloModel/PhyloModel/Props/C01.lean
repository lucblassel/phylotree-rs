import PhyloModel.Newick.BuildLayout
import PhyloModel.Newick.StructRep
import PhyloModel.Newick.WriterSpec
import PhyloModel.Newick.LayoutSize
/-! # C01 — Newick write-then-parse round trip is lossless

The parser model `NW.parse` mirrors `Tree::from_newick` character by character and the arena writer
`NW.toNewickF` mirrors `Tree::to_newick_impl` (both are what the driver runs against the real crate).
Branch lengths are values of an arbitrary type `L` with a codec `(showLen, parseLen)`; the only facts
used about it are the three laws of `NW.Codec` (what is printed parses back to the same value, uses only
plain characters, is non-empty) — for `f64` these are properties of Rust's `Display`/`FromStr`, checked
by the harness on every run and listed in the trusted base.  `WFT t` is the domain of the property:
names are non-empty and either metacharacter-free or protected by verbatim double quotes
(`nameOKFrom`), comments are non-empty and contain no `]`. -/
namespace C01
open NW
variable {L : Type} {parseLen : Label → Option L} {showLen : L → Label}

/-- Rose level: parsing the written form of any well-formed tree — any shape and size, unary and
    multifurcating nodes, unnamed nodes, missing lengths, a single node — yields an arena that lays out
    exactly that tree: same shape and child order, names, comments and length values. -/
theorem roundtrip (hc : Codec parseLen showLen) (t : RTree L) (hwf : WFT t) :
    ∃ a, parse parseLen (write showLen t ++ [';']) = .done a ∧ Layout a 0 none t :=
  ⟨rootArena t, roundtrip_run parseLen showLen hc t hwf [], rootArena_layout t⟩

/-- write_abs: whatever the arena layout (API-built in any order, with removed slots, parsed), the arena
    writer returns the rose-level text of the tree the arena represents. -/
theorem writer_refines (a : Array (PNode L)) (i : Nat) (t : RTree L) (h : RepN a i t) (fuel : Nat)
    (hf : ht t ≤ fuel) : toNewickF showLen fuel .allFields a i = some (write showLen t) := by
  rw [toNewickF_rep showLen .allFields a t fuel i h hf, writeF_all]

/-- The property on arenas: writing any arena that represents a well-formed tree `t` and parsing the text
    yields an arena representing the same `t`, and writing that arena again reproduces the same text. -/
theorem roundtrip_arena (hc : Codec parseLen showLen) (a : Array (PNode L)) (i : Nat) (t : RTree L)
    (h : RepN a i t) (hwf : WFT t) (fuel : Nat) (hf : ht t ≤ fuel) :
    ∃ txt a', toNewickF showLen fuel .allFields a i = some txt ∧
      parse parseLen (txt ++ [';']) = .done a' ∧ RepN a' 0 t ∧
      toNewickF showLen (a'.size + 1) .allFields a' 0 = some txt := by
  obtain ⟨a', hp, hl⟩ := roundtrip hc t hwf
  have hrep := layout_rep a' t 0 none hl
  -- a pre-order layout of `t` fits into the arena, and the size of `t` bounds its height
  have hsz : 0 + sz t ≤ a'.size := layout_bound a' t 0 none hl
  exact ⟨write showLen t, a', writer_refines a i t h fuel hf, hp, hrep,
    writer_refines a' 0 t hrep _ (by have := ht_le_sz t; omega)⟩

/-- Boundary (stated instead of silently totalised): a present-but-empty name is written exactly like an
    absent one, so it cannot survive the round trip; the property's domain excludes it. -/
theorem empty_name_is_absent (l : Option L) (c : Option Label) :
    label showLen (some []) l c = label showLen none l c := by
  simp [label]

/-- non-vacuity: a single named node with a comment is in the domain -/
example : WFT (RTree.node (some ['A']) (none : Option Nat) (some ['x']) []) := by decide

end C01
