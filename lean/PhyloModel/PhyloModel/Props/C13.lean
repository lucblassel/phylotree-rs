import PhyloModel.Matrix.StoreByName
/-! # C13 — distance-matrix storage is a faithful symmetric table

`Tri.idx i j = i(i-1)/2 + j` is `tril_to_rowvec_index` on `j < i`; `MX.cell` is the same on an unordered
pair; `MXS.invIdx` is the integer inverse (the crate's `rowvec_to_tril_index` computes it with `f64::sqrt`:
that function is compared with an integer inverse through the hook at every triangular-number boundary below
2^50 — a check resting on IEEE monotonicity, not a theorem).  `MXS.get/set/toMap/indexedIter/extremum` mirror
the by-name API.  All statements hold for every matrix size. -/
namespace C13
open Tri MX MXS

/-- each unordered pair of distinct taxa below `n` corresponds to exactly one cell below `n(n-1)/2` ... -/
theorem pair_to_cell (n i j : Nat) (hij : i ≠ j) (hi : i < n) (hj : j < n) :
    cell i j < T n ∧ cell i j = cell j i ∧ 2 * T n = n * (n - 1) :=
  ⟨cell_lt hij hi hj, cell_symm i j hij, T_closed n⟩

/-- ... distinct unordered pairs to distinct cells ... -/
theorem cell_injective {i j i' j' : Nat} (h : i ≠ j) (h' : i' ≠ j') (hc : cell i j = cell i' j') :
    (i = i' ∧ j = j') ∨ (i = j' ∧ j = i') := cell_inj h h' hc

/-- ... and each cell to exactly one pair, computed by the integer inverse -/
theorem cell_to_pair (n k : Nat) (hk : k < T n) :
    (invIdx k).2 < (invIdx k).1 ∧ (invIdx k).1 < n ∧ cell (invIdx k).1 (invIdx k).2 = k ∧
    (∀ i j, j < i → idx i j = k → (i, j) = invIdx k) := by
  obtain ⟨h1, h2⟩ := invIdx_spec k
  refine ⟨h1, invIdx_lt n k hk, ?_, ?_⟩
  · rw [cell, if_pos h1, h2]
  · intro i j hji hidx
    rw [← hidx, invIdx_idx i j hji]

/-- index-level store law: a value set for a pair is read back for that pair in either order and for no
    other pair; identical indices read zero -/
theorem get_set_index (m : MX.Mat) (hsz : m.v.size = T m.n) (i j i' j' : Nat) (x : Int) (hij : i ≠ j)
    (hi : i < m.n) (hj : j < m.n) (hij' : i' ≠ j') :
    MX.get (MX.set m i j x) i' j' = (if (i' = i ∧ j' = j) ∨ (i' = j ∧ j' = i) then x else MX.get m i' j') ∧
    MX.get m i i = 0 :=
  ⟨MX.get_set m hsz i j i' j' x hij hi hj hij', by simp [MX.get]⟩

variable {α : Type} [Inhabited α]

/-- by-name API: identical taxa always read zero, and `set` on identical taxa is accepted iff the value is zero -/
theorem diagonal (zero : α) (isZero : α → Bool) (m : Mat α) (a : String) (x : α) :
    MXS.get zero m a a = .ok zero ∧ (MXS.set isZero m a a x).1 = m ∧
    (MXS.set isZero m a a x).2 = (if isZero x then .ok () else .err "NonZeroIdenticalDistance") := by
  simp [MXS.get, MXS.set]

/-- by-name store law: after a successful `set a b x` (distinct known taxa), `get a b` and `get b a` read `x`
    and every other unordered pair of known taxa reads what it read before -/
theorem get_set_by_name (zero : α) (isZero : α → Bool) (m : Mat α) (a b a' b' : String) (x : α)
    (i j i' j' : Nat) (hab : (a == b) = false) (hab' : (a' == b') = false)
    (ha : taxonIdx m a = some i) (hb : taxonIdx m b = some j) (ha' : taxonIdx m a' = some i')
    (hb' : taxonIdx m b' = some j') (hij : i ≠ j) (hij' : i' ≠ j')
    (hi : i < size m) (hj : j < size m) (hi' : i' < size m) (hj' : j' < size m) (hsz : m.v.size = T (size m)) :
    (MXS.set isZero m a b x).2 = .ok () ∧
    MXS.get zero (MXS.set isZero m a b x).1 a' b' =
      if (i' = i ∧ j' = j) ∨ (i' = j ∧ j' = i) then .ok x else MXS.get zero m a' b' := by
  rw [set_of_idx isZero m hsz hab ha hb hij]
  refine ⟨rfl, ?_⟩
  -- the labels, hence the positions found for `a'`, `b'`, are those of `m`
  have hget : MXS.get zero ({ m with v := m.v.setIfInBounds (cell i j) x } : Mat α) a' b' = _ :=
    get_of_idx zero _ (by simpa [size] using hsz) hab' ha' hb' hij'
  rw [hget, get_of_idx zero m hsz hab' ha' hb' hij', getD_set_cell m.v default x hij hij' (hsz ▸ cell_lt hij hi hj)]
  split <;> rfl

/-- indexed iteration lists every cell once, under the pair the index functions assign to it -/
theorem indexed_iter_spec (m : Mat α) (k : Nat) (hk : k < m.v.size) :
    (indexedIter m)[k]? = some (invIdx k, m.v.getD k default) ∧ (indexedIter m).length = m.v.size ∧
    cell (invIdx k).1 (invIdx k).2 = k := by
  obtain ⟨h1, h2⟩ := invIdx_spec k
  exact ⟨by simp [indexedIter, hk], by simp [indexedIter], by rw [cell, if_pos h1, h2]⟩

/-- the pair-keyed map contains exactly the ordered pairs of taxa, each with the value `get` returns -/
theorem to_map_spec (zero : α) (m : Mat α) (e : (String × String) × Res α) :
    e ∈ toMap zero m ↔ e.1.1 ∈ m.taxa ∧ e.1.2 ∈ m.taxa ∧ e.2 = MXS.get zero m e.1.1 e.1.2 := by
  simp only [toMap, List.mem_flatMap, List.mem_map]
  constructor
  · rintro ⟨a, ha, b, hb, rfl⟩; exact ⟨ha, hb, rfl⟩
  · rintro ⟨ha, hb, he⟩; exact ⟨e.1.1, ha, e.1.2, hb, by rw [← he]⟩

/-- with repeated taxon labels the list holds several entries under one key; they all carry the same value (the one `get`
    returns for the labels), so collecting the entries into a hash map yields the same map in whatever order they are
    inserted — the pair-keyed map is a function of the labelled matrix -/
theorem to_map_functional (zero : α) (m : Mat α) (e e' : (String × String) × Res α)
    (h : e ∈ toMap zero m) (h' : e' ∈ toMap zero m) (hk : e.1 = e'.1) : e.2 = e'.2 := by
  have h1 := ((to_map_spec zero m e).1 h).2.2
  have h2 := ((to_map_spec zero m e').1 h').2.2
  rw [h1, h2, hk]

/-- minimum / maximum search returns an entry of the indexed iteration (that it is the first strict extremum is not stated) -/
theorem extremum_spec (lt : α → α → Bool) (m : Mat α) (r : (Nat × Nat) × α) (h : extremum lt m = some r) : r ∈ indexedIter m := by
  unfold extremum at h
  have key : ∀ (l : List ((Nat × Nat) × α)) (acc : Option ((Nat × Nat) × α)) (r : (Nat × Nat) × α),
      l.foldl (fun acc x => match acc with
        | none => some x
        | some a => if lt x.2 a.2 then some x else some a) acc = some r → r ∈ l ∨ acc = some r := by
    intro l
    induction l with
    | nil => intro acc r h; right; simpa using h
    | cons x xs ih =>
      intro acc r h
      simp only [List.foldl_cons] at h
      rcases ih _ r h with h1 | h1
      · left; simp [h1]
      · cases acc with
        | none => simp at h1; left; simp [h1]
        | some a =>
          simp only at h1
          split at h1
          · simp at h1; left; simp [h1]
          · right; exact h1
  rcases key _ none r h with h1 | h1
  · exact h1
  · cases h1

/-- the `i`-th label of a duplicate-free taxon list is found at position `i` -/
theorem label_position (m : Mat α) (hn : m.taxa.Nodup) (i : Nat) (hi : i < m.taxa.length) :
    taxonIdx m (m.taxa[i]) = some i := by
  rw [List.getElem_eq_getD ""]; exact taxonIdx_nodup m hn i hi

/-- **relabelling** (`set_taxa`): with as many new distinct labels as the matrix has taxa the call succeeds, no cell
    changes, and from then on the pair of NEW labels at positions `(i, j)` reads exactly the cell the pair of OLD
    labels at those positions read — by-name access always resolves through the current labels, whatever was
    looked up before -/
theorem relabel (zero : α) (m : Mat α) (t' : List String) (hlen : t'.length = m.taxa.length)
    (hn : m.taxa.Nodup) (hn' : t'.Nodup) (i j : Nat) (hi : i < m.taxa.length) (hj : j < m.taxa.length) :
    (setTaxa m t').2 = .ok () ∧ (setTaxa m t').1.v = m.v ∧ (setTaxa m t').1.taxa = t' ∧
    MXS.get zero (setTaxa m t').1 (t'[i]'(by omega)) (t'[j]'(by omega)) = MXS.get zero m (m.taxa[i]) (m.taxa[j]) := by
  have hs : setTaxa m t' = ({ m with taxa := t' }, .ok ()) := by simp [setTaxa, size, hlen]
  rw [hs]
  refine ⟨rfl, rfl, rfl, ?_⟩
  -- both sides are `get` by position (`get_at`) at `i`, `j`, over the same cell vector
  have h1 := get_at zero ({ m with taxa := t' } : Mat α) hn' i j (hlen ▸ hi) (hlen ▸ hj)
  have h2 := get_at zero m hn i j hi hj
  rw [← List.getElem_eq_getD (h := hlen ▸ hi), ← List.getElem_eq_getD (h := hlen ▸ hj)] at h1
  rw [← List.getElem_eq_getD (h := hi), ← List.getElem_eq_getD (h := hj)] at h2
  exact h1.trans h2.symm

/-- a label list of the wrong length is refused and nothing changes -/
theorem relabel_refused (m : Mat α) (t' : List String) (h : t'.length ≠ m.taxa.length) :
    setTaxa m t' = (m, .err "SizeError") := by
  simp [setTaxa, size, h]

/-- non-vacuity: the four-taxon layout of the crate's unit test -/
example : (List.range 6).map invIdx = [(1, 0), (2, 0), (2, 1), (3, 0), (3, 1), (3, 2)] := by decide

/-- uniqueness of the row: `T i ≤ k < T (i+1)` determines `i` -/
theorem row_unique {k i j : Nat} (h1 : T i ≤ k) (h2 : k < T (i + 1)) (g1 : T j ≤ k)
    (g2 : k < T (j + 1)) : i = j := by
  apply Classical.byContradiction; intro hne
  rcases Nat.lt_or_gt_of_ne hne with h | h
  · have := T_mono (i := i + 1) (j := j) (by omega); omega
  · have := T_mono (i := j + 1) (j := i) (by omega); omega

/-- **the floating-point inverse index, under an explicit hypothesis about the square root.**
    `rowvec_to_tril_index` computes `p = floor((sqrt(8k+1) − 1)/2)`, `i = p + 1`, `j = k − p(p+1)/2` in `f64`.  Let `s` be
    the value the hardware returns for `sqrt(8k+1)`, read as a rational.  The ONLY fact used about it is
    `∀ m, m ≤ s ↔ m² ≤ 8k+1` — which holds for an IEEE-754 square root whenever `8k+1 < 2^53`: the argument and every
    integer `m ≤ 2^26` are exactly representable, `sqrt` is correctly rounded, hence monotone and exact on perfect squares.
    The subtraction of 1, the halving and `floor` are exact on the values that occur (Sterbenz / power of two / integer
    part), so the computed `p` is the natural number with `2p+1 ≤ s < 2p+3`.  Then the pair the code returns IS the
    integer inverse `invIdx k`.  (The hypothesis is what the boundary sweep of the harness checks on the real `f64::sqrt`
    at every triangular-number boundary below 2^50.) -/
theorem float_inverse_correct (k : Nat) (s : Rat) (hs : ∀ m : Nat, ((m : Nat) : Rat) ≤ s ↔ m * m ≤ 8 * k + 1)
    (p : Nat) (hp1 : ((2 * p + 1 : Nat) : Rat) ≤ s) (hp2 : ¬ ((2 * p + 3 : Nat) : Rat) ≤ s) :
    (p + 1, k - p * (p + 1) / 2) = invIdx k := by
  -- `(2p+1)² ≤ 8k+1 < (2p+3)²` reads `T (p+1) ≤ k < T (p+2)`
  have a1 := (hs (2 * p + 1)).mp hp1
  have a2 : ¬ (2 * (p + 1) + 1) * (2 * (p + 1) + 1) ≤ 8 * k + 1 := fun h => hp2 ((hs (2 * p + 3)).mpr h)
  rw [sq_odd] at a1 a2
  obtain ⟨r1, r2⟩ := rowOf_spec k
  have hrow : rowOf k = p + 1 := (row_unique (by omega) (by omega) r1 r2).symm
  have hT := T_closed (p + 1)
  rw [Nat.add_sub_cancel, Nat.mul_comm (p + 1)] at hT
  simp only [invIdx, hrow]
  congr 1; omega

/-- non-vacuity: for `k = 4` (pair (3,1) of the unit test's layout) `s = 5.74…` — any rational in `[5,6)` with the stated
    property, e.g. `23/4` — gives `p = 2` -/
example : (∀ m : Nat, ((m : Nat) : Rat) ≤ (23 / 4 : Rat) ↔ m * m ≤ 8 * 4 + 1) := by
  intro m
  constructor
  · intro h
    have : m ≤ 5 := by
      apply Classical.byContradiction; intro hn
      have h6 : (6 : Rat) ≤ (m : Rat) := by exact_mod_cast (by omega : 6 ≤ m)
      have : (6 : Rat) ≤ 23 / 4 := Rat.le_trans h6 h
      exact absurd this (by decide +kernel)
    have : m * m ≤ 25 := Nat.mul_le_mul this this
    omega
  · intro h
    have : m ≤ 5 := by
      apply Classical.byContradiction; intro hn
      have : 6 * 6 ≤ m * m := Nat.mul_le_mul (by omega) (by omega)
      omega
    have h5 : ((m : Nat) : Rat) ≤ (5 : Rat) := by exact_mod_cast this
    exact Rat.le_trans h5 (by decide +kernel)
end C13
