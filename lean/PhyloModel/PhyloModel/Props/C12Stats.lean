import PhyloModel.Props.C12
import PhyloModel.Arena.C12Summary
/-! # C12 (continued) — the statistics against the tree

For every well-formed arena with one root and abstract tree `t`, the shape statistics the executable model
computes by scanning the arena slots equal the textbook values of `Arena/RoseStats.lean` computed from the
topology and branch lengths of `t`; the balance indices are refused on unrooted or non-binary trees. -/
namespace C12
open AR


theorem C12_statistics {a : Arena} (g : Good a) (h1 : AtMostOneRoot a) {t : Rose} (h : absRoot a = .ok t) :
    nLeaves a = nLeavesR t ∧
    isRooted a = .ok (isRootedR t) ∧
    isBinary a = .ok (isBinaryR t) ∧
    totalLength a = QR.ofOpt (totalLengthR t) "MissingBranchLengths" ∧
    (∀ u, diameter a u = QR.ofOpt (diameterR u t) "IsEmpty") ∧
    (∀ u, treeHeight a u = if !isRootedR t then .err "IsNotRooted" else QR.ofOpt (heightR u t) "IsEmpty") ∧
    cherries a = (if isBinaryR t then .ok (cherriesR t) else .err "IsNotBinary") ∧
    colless a = (do checkRBR t; pure (collessR t)) ∧
    sackin a = (do checkRBR t; pure (sackinR t)) :=
  AR.C12_statistics g h1 h

/-- on a rooted binary tree the three indices are the textbook values ... -/
theorem C12_indices_defined {a : Arena} (g : Good a) (h1 : AtMostOneRoot a) {t : Rose} (h : absRoot a = .ok t)
    (hr : isRootedR t = true) (hb : isBinaryR t = true) :
    cherries a = .ok (cherriesR t) ∧ colless a = .ok (collessR t) ∧ sackin a = .ok (sackinR t) :=
  AR.C12_indices_defined g h1 h hr hb

/-- ... and they are refused otherwise -/
theorem C12_indices_refused {a : Arena} (g : Good a) (h1 : AtMostOneRoot a) {t : Rose} (h : absRoot a = .ok t) :
    (isRootedR t = false → colless a = .err "IsNotRooted" ∧ sackin a = .err "IsNotRooted" ∧
      ∀ u, treeHeight a u = .err "IsNotRooted") ∧
    (isRootedR t = true → isBinaryR t = false → colless a = .err "IsNotBinary" ∧ sackin a = .err "IsNotBinary") ∧
    (isBinaryR t = false → cherries a = .err "IsNotBinary") :=
  AR.C12_indices_refused g h1 h

/-- non-vacuity: on the arena with a tombstone of `AnswersDependOnTree` the cherry `(x:3,y:4);` has two tips,
    one cherry, Colless 0, Sackin 2 — by the theorem, its hypotheses discharged -/
example : nLeaves exB = 2 ∧ cherries exB = .ok 1 ∧ colless exB = .ok 0 ∧ sackin exB = .ok 2 :=
  exB_statistics

end C12
