import PhyloModel.Dist.Keys
import PhyloModel.Dist.Fold
import PhyloModel.Dist.FoldRose
import PhyloModel.Dist.FoldRoseExamples
/-! # C08 — both distance-matrix algorithms return the true leaf-to-leaf path lengths

`DM.pathLen t x y` is the textbook path length between leaves `x` and `y` (descend to the deepest node
containing both, add the two legs).  `DM.pairs t` is the multiset of contributions
`pairwise[idx(l1,l2)] += d1 + d2` that `Tree::distance_matrix` makes, written by structural recursion on the
rose tree (per-node caches `DM.cache`).  The theorems show that every unordered leaf pair receives exactly one
contribution and that it is the path length — the mathematical core of the fast algorithm, for every tree
shape (polytomies, unary nodes, any root style) and every assignment of lengths.

The link to the EXECUTABLE arena fold `DMF.dmFast` (reversed level order of the arena, per-slot caches, keyed
accumulation into the triangular vector — what the driver runs against the crate) is a kernel-checked
loop-invariant proof (second half of this file; `Arena/LevelFacts`, `Dist/Tree`, `Taxa`, `FoldW`, `CSum`, `FoldStep`,
`FoldPerm`, `FoldInv`, `FoldCorrect`, `FoldRose`): under the arena invariant every cell `dmFast` returns IS the path length between the two
taxa of the cell in the tree the arena represents (`dm_fast_correct`; forests: `dm_fast_correct_forest`), the fold never
reaches a panic / `unwrap` / missing-cache outcome (`dm_fast_total`), and it equals the rose-level computation
`dmRose` whenever the tips have pairwise different names (`dm_fast_eq_rose`; with a repeated tip name the two break the
tie of the taxon order differently — kernel-checked counterexample `DMF.dmFast_d4` / `DMF.dmRose_d4` — which is outside
C08's domain of uniquely named leaves). -/
namespace C08
open DM

/-- every contribution of the fast algorithm is the path length of its pair -/
theorem contributions_are_path_lengths (t : RT) (x y : Nat) (d : Rat) (hn : (leafIds t).Nodup)
    (h : ((x, y), d) ∈ pairs t) : pathLen t x y = some d :=
  pairs_correct t x y d hn h

/-- the contributions are keyed by each pair of leaves (first before second in leaf order) exactly once -/
theorem each_pair_contributes_once (t : RT) : (keys (pairs t)).Perm (allPairs (leafIds t)) :=
  keys_pairs t

/-- hence: for duplicate-free leaves, every pair listed by `allPairs` has a contribution, and it is the path
    length (`dm_fast_correct_partial`: rose-level form of the fast algorithm) -/
theorem dm_fast_correct_partial (t : RT) (hn : (leafIds t).Nodup) (x y : Nat)
    (hxy : (x, y) ∈ allPairs (leafIds t)) :
    ∃ d, ((x, y), d) ∈ pairs t ∧ pathLen t x y = some d := by
  have hmem : (x, y) ∈ keys (pairs t) := (keys_pairs t).mem_iff.mpr hxy
  simp only [keys, List.mem_map] at hmem
  obtain ⟨⟨⟨k1, k2⟩, d⟩, hkd, hk⟩ := hmem
  simp only [Prod.mk.injEq] at hk
  obtain ⟨rfl, rfl⟩ := hk
  exact ⟨d, hkd, pairs_correct t k1 k2 d hn hkd⟩

/-- the per-node cache of the fast algorithm holds exactly the leaves below the node -/
theorem cache_keys_are_the_leaves (t : RT) : ckeys (cache t) = leafIds t := ckeys_cache t

/-- ... each with its distance from the node -/
theorem cache_values_are_depths (t : RT) (x : Nat) (d : Rat) (hn : (leafIds t).Nodup) (h : (x, d) ∈ cache t) :
    depthTo t x = some d :=
  cache_depthTo t x d hn h

/-- an id that is not a leaf of the tree has no depth in it (`depthTo` is how `pathLen` finds its two legs, so no path
    length either: `DM.pathLen_none`) -/
theorem path_length_needs_leaves (t : RT) (x : Nat) (h : x ∉ leafIds t) : depthTo t x = none :=
  depthTo_none_of_not_mem t x h

/-- non-vacuity: the tree ((1,2)4,3)0 has duplicate-free leaves and three leaf pairs -/
example : leafIds (.node 0 0 [.node 4 1 [.node 1 2 [], .node 2 3 []], .node 3 4 []]) = [1, 2, 3] ∧
    allPairs [1, 2, 3] = [(1, 2), (1, 3), (2, 3)] := by decide

/-! ## the executable arena fold -/
open AR DMF

theorem dm_fast_correct (a : Arena) (unit : Int) (hinv : Inv a) (h1 : AtMostOneRoot a) (names : List String)
    (cells : List Int) (h : dmFast a unit = .ok (names, cells)) :
    ∃ t, absRoot a = .ok t ∧
      names = (leafOrder a).map (fun l => ((nd a l).name).getD "") ∧
      (∀ l ∈ leafOrder a, (nd a l).name.isSome) ∧
      cells.length = Tri.T (leafOrder a).length ∧
      (DM.leafIds (absDM unit t)).Nodup ∧
      (∀ x, x ∈ DM.leafIds (absDM unit t) ↔ x ∈ leafOrder a) ∧
      ∀ (i j : Nat) (_ : j < i) (hi : i < (leafOrder a).length),
        DM.pathLen (absDM unit t) (leafOrder a)[i] (leafOrder a)[j]
          = some (((cells.getD (MX.cell i j) 0 : Int)) : Rat) :=
  dmFast_correct a unit hinv h1 names cells h

/-- Forest form: if `dmFast` returns a matrix then, in the tree `t` that `absRoot` abstracts from the arena, the taxa are
    the live tips in name order and every cell `(i, j)`, `j < i`, holds the path length between taxa `i` and `j` when
    both are tips of `t`; a cell of a pair of tips that are not both below the root (possible only when the arena holds
    several trees) is `0`. -/
theorem dm_fast_correct_forest (a : Arena) (unit : Int) (hinv : Inv a) (names : List String) (cells : List Int)
    (h : dmFast a unit = .ok (names, cells)) :
    ∃ t, absRoot a = .ok t ∧
      names = (leafOrder a).map (fun l => ((nd a l).name).getD "") ∧
      (∀ l ∈ leafOrder a, (nd a l).name.isSome) ∧
      cells.length = Tri.T (leafOrder a).length ∧
      (DM.leafIds (absDM unit t)).Nodup ∧
      (∀ x, x ∈ DM.leafIds (absDM unit t) → x ∈ leafOrder a) ∧
      ∀ (i j : Nat) (_ : j < i) (hi : i < (leafOrder a).length),
        ((leafOrder a)[i] ∈ DM.leafIds (absDM unit t) ∧ (leafOrder a)[j] ∈ DM.leafIds (absDM unit t) →
          DM.pathLen (absDM unit t) (leafOrder a)[i] (leafOrder a)[j]
            = some (((cells.getD (MX.cell i j) 0 : Int)) : Rat)) ∧
        (¬ ((leafOrder a)[i] ∈ DM.leafIds (absDM unit t) ∧ (leafOrder a)[j] ∈ DM.leafIds (absDM unit t)) →
          cells.getD (MX.cell i j) 0 = 0) := by
  obtain ⟨r, t, _, _, h1, h2, h3, h4, h5, h6, h7⟩ := dmFast_core a unit hinv names cells h
  refine ⟨roseOf a t, h1, h2, h3, h4, ?_⟩
  rw [absDM_roseOf, DMW.leafIds_toRT]
  exact ⟨h5, h6, h7⟩

theorem dm_fast_total (a : Arena) (unit : Int) (hinv : Inv a) :
    (dmFast a unit = .err "UnnamedLeaves" ∧ ∃ l ∈ leaves a, (nd a l).name = none) ∨
    (dmFast a unit = .err "RootNotFound" ∧ getRoot a = none ∧ ∀ i, ¬ live a i) ∨
    (∃ names cells, dmFast a unit = .ok (names, cells)) :=
  dmFast_total a unit hinv

theorem dm_fast_eq_rose (a : Arena) (unit : Int) (hinv : Inv a) (h1 : AtMostOneRoot a)
    (hdist : ∀ x ∈ leaves a, ∀ y ∈ leaves a, (nd a x).name = (nd a y).name → x = y) :
    dmFast a unit = dmRose a unit :=
  dmFast_eq_dmRose a unit hinv h1 hdist

/-- the hypothesis `Inv a` used above is the first half of `Good a`, which the model's operations preserve
    (`AR.runOps_good`) -/
example (a : Arena) (g : Good a) : Inv a := g.1

end C08
