import PhyloModel.Misc.LayoutCoords
import PhyloModel.Arena.AbsRose
import PhyloModel.Props.C19
/-! # C19, coordinates — the radial layout as a drawing

`LAY.place c s total t start pos` computes the coordinates on top of the exact-angle model `LAY.layout`, for
ABSTRACT direction functions `c s : Rat → Rat` (standing for `cos`/`sin` of a fraction of a turn).  Proved here,
for all trees and all `c s`:
* `place_draws` — `place` refines `layout`: same nodes, same parents, same order, and the branch of a node
  leaves its start point in the direction of the bisector of the node's wedge, with the node's length;
* `one_branch_per_non_root_node`;
* `branches_join_positions` — with distinct node ids, every branch starts at the drawn position of the node's
  parent (the END of the parent's branch, the origin for the root) and ends at the node's own position;
* `branch_lengths` — with `c² + s² = 1` and all lengths present, the squared Euclidean length of every branch
  is the squared branch length;
* `rescale_commutes_with_place` (any rational factor, abstract lengths), `rescale_scaled_tree` (the tree with
  all lengths multiplied by an integer): rescaling the drawing = drawing the rescaled tree;
* `missing_length_refused_coords`. -/
namespace C19
open AR LAY

def Pointwise {α β : Type} (R : α → β → Prop) : List α → List β → Prop
  | [], [] => True
  | a :: as, b :: bs => R a b ∧ Pointwise R as bs
  | [], _ :: _ => False
  | _ :: _, [] => False

theorem Pointwise.append {α β : Type} {R : α → β → Prop} : ∀ {as : List α} {bs : List β} {as' : List α} {bs' : List β},
    Pointwise R as bs → Pointwise R as' bs' → Pointwise R (as ++ as') (bs ++ bs')
  | [], [], _, _, _, h => h
  | _ :: _, _ :: _, _, _, h, h' => ⟨h.1, Pointwise.append h.2 h'⟩
  | [], _ :: _, _, _, h, _ => h.elim
  | _ :: _, [], _, _, h, _ => h.elim

theorem Pointwise.length_eq {α β : Type} {R : α → β → Prop} : ∀ {as : List α} {bs : List β},
    Pointwise R as bs → as.length = bs.length
  | [], [], _ => rfl
  | _ :: _, _ :: _, h => congrArg (· + 1) (Pointwise.length_eq h.2)
  | [], _ :: _, h => h.elim
  | _ :: _, [], h => h.elim

theorem Pointwise.get {α β : Type} {R : α → β → Prop} : ∀ {as : List α} {bs : List β}, Pointwise R as bs →
    ∀ (j : Nat) (h1 : j < as.length) (h2 : j < bs.length), R as[j] bs[j]
  | [], [], _, j, h1, _ => absurd h1 (Nat.not_lt_zero j)
  | _ :: _, _ :: _, h, 0, _, _ => h.1
  | _ :: _, _ :: _, h, j + 1, h1, h2 => Pointwise.get h.2 j (Nat.lt_of_succ_lt_succ h1) (Nat.lt_of_succ_lt_succ h2)
  | [], _ :: _, h, _, _, _ => h.elim
  | _ :: _, [], h, _, _, _ => h.elim

theorem Pointwise.map_eq {α β γ : Type} {R : α → β → Prop} (f : α → γ) (g : β → γ) (hfg : ∀ a b, R a b → f a = g b) :
    ∀ {as : List α} {bs : List β}, Pointwise R as bs → as.map f = bs.map g
  | [], [], _ => rfl
  | a :: _, b :: _, h => congr (congrArg List.cons (hfg a b h.1)) (Pointwise.map_eq f g hfg h.2)
  | [], _ :: _, h => h.elim
  | _ :: _, [], h => h.elim

theorem Pointwise.mono {α β : Type} {R S : α → β → Prop} : ∀ {as : List α} {bs : List β},
    (∀ a b, a ∈ as → b ∈ bs → R a b → S a b) → Pointwise R as bs → Pointwise S as bs
  | [], [], _, _ => trivial
  | a :: _, b :: _, hrs, h =>
    ⟨hrs a b List.mem_cons_self List.mem_cons_self h.1,
      Pointwise.mono (fun x y hx hy => hrs x y (List.mem_cons_of_mem _ hx) (List.mem_cons_of_mem _ hy)) h.2⟩
  | [], _ :: _, _, h => h.elim
  | _ :: _, [], _, h => h.elim

/-- branch `b` draws segment `g`: same node, same parent, and the branch leaves its start point in the
    direction of the bisector of the wedge, with the node's branch length -/
def Draws (c s : Rat → Rat) (b : Branch) (g : Seg) : Prop :=
  b.parent = g.parent ∧ b.id = g.id ∧ b.name = g.name ∧
  b.xend = b.xstart + ((g.len.getD 0 : Int) : Rat) * c g.angle ∧
  b.yend = b.ystart + ((g.len.getD 0 : Int) : Rat) * s g.angle

mutual
/-- `place` is `layout` with coordinates: the same nodes in the same (pre-)order, each drawn along the
    bisector of its wedge -/
theorem place_draws (c s : Rat → Rat) (total : Nat) : ∀ (t : Rose) (start : Rat) (pos : Rat × Rat),
    Pointwise (Draws c s) (place c s total t start pos) (layout total t start)
  | .node i n l d ks, start, pos => by
    rw [place_node, layout]; exact placeL_draws c s total i ks start pos
theorem placeL_draws (c s : Rat → Rat) (total : Nat) (p : Nat) : ∀ (ks : List Rose) (start : Rat) (pos : Rat × Rat),
    Pointwise (Draws c s) (placeL c s total p ks start pos) (layoutL total p ks start)
  | [], start, pos => by rw [placeL_nil, layoutL]; exact trivial
  | k :: ks, start, pos => by
    rw [placeL_cons, layoutL, Pointwise]
    refine ⟨⟨rfl, rfl, rfl, rfl, rfl⟩, ?_⟩
    exact Pointwise.append (place_draws c s total k start _) (placeL_draws c s total p ks _ pos)
end

theorem place_ids (c s : Rat → Rat) (total : Nat) (t : Rose) (start : Rat) (pos : Rat × Rat) :
    (place c s total t start pos).map Branch.id = (layout total t start).map Seg.id :=
  Pointwise.map_eq _ _ (fun _ _ h => h.2.1) (place_draws c s total t start pos)

theorem place_parents (c s : Rat → Rat) (total : Nat) (t : Rose) (start : Rat) (pos : Rat × Rat) :
    (place c s total t start pos).map Branch.parent = (layout total t start).map Seg.parent :=
  Pointwise.map_eq _ _ (fun _ _ h => h.1) (place_draws c s total t start pos)

theorem place_names (c s : Rat → Rat) (total : Nat) (t : Rose) (start : Rat) (pos : Rat × Rat) :
    (place c s total t start pos).map Branch.name = (layout total t start).map Seg.name :=
  Pointwise.map_eq _ _ (fun _ _ h => h.2.2.1) (place_draws c s total t start pos)

theorem one_branch_per_non_root_node (c s : Rat → Rat) (total : Nat) (t : Rose) (start : Rat) (pos : Rat × Rat) :
    (place c s total t start pos).length + 1 = size t := by
  rw [(place_draws c s total t start pos).length_eq]; exact one_segment_per_non_root_node total t start

mutual
/-- the branches are those of the non-root nodes, in pre-order -/
theorem place_ids_preorder (c s : Rat → Rat) (total : Nat) : ∀ (t : Rose) (start : Rat) (pos : Rat × Rat),
    t.id :: (place c s total t start pos).map Branch.id = idsR t
  | .node i n l d ks, start, pos => by
    rw [place_node, idsR, nodesR, List.map_cons, placeL_ids_preorder c s total i ks start pos]
theorem placeL_ids_preorder (c s : Rat → Rat) (total : Nat) (p : Nat) : ∀ (ks : List Rose) (start : Rat) (pos : Rat × Rat),
    (placeL c s total p ks start pos).map Branch.id = (nodesRL ks).map Rose.id
  | [], start, pos => by rw [placeL_nil, nodesRL]; rfl
  | k :: ks, start, pos => by
    rw [placeL_cons, nodesRL, List.map_cons, List.map_append, List.map_append,
      placeL_ids_preorder c s total p ks _ pos]
    have := place_ids_preorder c s total k start
      (pos.1 + lenQ k * c (start + (LAY.nLeaves k : Rat) / (total : Rat) / 2),
       pos.2 + lenQ k * s (start + (LAY.nLeaves k : Rat) / (total : Rat) / 2))
    rw [idsR] at this
    rw [← this]; rfl
end

/-- every branch of `bs` either hangs from `p`, drawn at `pos`, or from a node whose branch is in `bs` and
    starts where that branch ends -/
def Linked (p : Nat) (pos : Rat × Rat) (bs : List Branch) : Prop :=
  ∀ b ∈ bs, (b.parent = p ∧ (b.xstart, b.ystart) = pos) ∨
    ∃ b' ∈ bs, b'.id = b.parent ∧ (b.xstart, b.ystart) = (b'.xend, b'.yend)

theorem Linked.weaken {p : Nat} {pos : Rat × Rat} {bs all : List Branch} (h : Linked p pos bs)
    (hsub : ∀ b ∈ bs, b ∈ all) :
    ∀ b ∈ bs, (b.parent = p ∧ (b.xstart, b.ystart) = pos) ∨
      ∃ b' ∈ all, b'.id = b.parent ∧ (b.xstart, b.ystart) = (b'.xend, b'.yend) := by
  intro b hb
  rcases h b hb with h1 | ⟨b', hb', h2⟩
  · exact Or.inl h1
  · exact Or.inr ⟨b', hsub b' hb', h2⟩

mutual
theorem place_linked (c s : Rat → Rat) (total : Nat) : ∀ (t : Rose) (start : Rat) (pos : Rat × Rat),
    Linked t.id pos (place c s total t start pos)
  | .node i n l d ks, start, pos => by
    rw [place_node]; exact placeL_linked c s total i ks start pos
theorem placeL_linked (c s : Rat → Rat) (total : Nat) (p : Nat) : ∀ (ks : List Rose) (start : Rat) (pos : Rat × Rat),
    Linked p pos (placeL c s total p ks start pos)
  | [], start, pos => by rw [placeL_nil]; intro b hb; simp at hb
  | k :: ks, start, pos => by
    rw [placeL_cons]
    have h1 := place_linked c s total k start
      (pos.1 + lenQ k * c (start + (LAY.nLeaves k : Rat) / (total : Rat) / 2),
       pos.2 + lenQ k * s (start + (LAY.nLeaves k : Rat) / (total : Rat) / 2))
    have h2 := placeL_linked c s total p ks (start + (LAY.nLeaves k : Rat) / (total : Rat)) pos
    intro b hb
    simp only [List.mem_cons, List.mem_append] at hb
    rcases hb with rfl | hb | hb
    · exact Or.inl ⟨rfl, rfl⟩
    · right
      rcases h1 b hb with ⟨e1, e2⟩ | ⟨b', hb', e⟩
      · exact ⟨_, List.mem_cons_self, e1.symm, e2⟩
      · exact ⟨b', by simp [hb'], e⟩
    · rcases h2 b hb with e | ⟨b', hb', e⟩
      · exact Or.inl e
      · exact Or.inr ⟨b', by simp [hb'], e⟩
end

theorem posOf_of_mem : ∀ (bs : List Branch), (bs.map Branch.id).Nodup → ∀ b ∈ bs, posOf bs b.id = (b.xend, b.yend)
  | [], _, b, hb => by simp at hb
  | a :: bs, hnd, b, hb => by
    simp only [List.map_cons, List.nodup_cons] at hnd
    rcases List.mem_cons.1 hb with rfl | hb'
    · simp [posOf]
    · have hne : a.id ≠ b.id := by
        intro e; exact hnd.1 (e ▸ List.mem_map.2 ⟨b, hb', rfl⟩)
      have ih := posOf_of_mem bs hnd.2 b hb'
      have hne' : (a.id == b.id) = false := by simp [hne]
      simp only [posOf, List.find?_cons, hne'] at ih ⊢
      exact ih

theorem posOf_of_not_mem (bs : List Branch) (i : Nat) (h : i ∉ bs.map Branch.id) : posOf bs i = (0, 0) := by
  have : bs.find? (fun b => b.id == i) = none := by
    rw [List.find?_eq_none]
    intro b hb
    simp only [beq_iff_eq]
    intro e
    exact h (e ▸ List.mem_map.2 ⟨b, hb, rfl⟩)
  simp [posOf, this]

/-- C19, positions: in a tree with distinct node ids (every abstraction of a well-formed arena,
    `AR.absRoot_nodes`), drawn with the root at the origin, the root's position is the origin and every
    branch starts at the drawn position of its node's parent — the END of the parent's branch, or the origin
    when the parent is the root — and ends at the drawn position of the node itself -/
theorem branches_join_positions (c s : Rat → Rat) (total : Nat) (t : Rose) (start : Rat) (hnd : (idsR t).Nodup) :
    posOf (place c s total t start (0, 0)) t.id = (0, 0) ∧
    ∀ b ∈ place c s total t start (0, 0),
      (b.xstart, b.ystart) = posOf (place c s total t start (0, 0)) b.parent ∧
      (b.xend, b.yend) = posOf (place c s total t start (0, 0)) b.id := by
  have hids := place_ids_preorder c s total t start (0, 0)
  rw [← hids, List.nodup_cons] at hnd
  have hroot := posOf_of_not_mem _ _ hnd.1
  refine ⟨hroot, ?_⟩
  intro b hb
  refine ⟨?_, (posOf_of_mem _ hnd.2 b hb).symm⟩
  rcases place_linked c s total t start (0, 0) b hb with ⟨e1, e2⟩ | ⟨b', hb', e1, e2⟩
  · rw [e1, hroot, e2]
  · rw [← e1, posOf_of_mem _ hnd.2 b' hb', e2]

/-- for the abstraction of a well-formed arena the ids are distinct -/
theorem branches_join_positions_arena {a : Arena} (g : Good a) (h1 : AtMostOneRoot a) {t : Rose}
    (h : absRoot a = .ok t) (c s : Rat → Rat) :
    posOf (place c s (LAY.nLeaves t) t 0 (0, 0)) t.id = (0, 0) ∧
    ∀ b ∈ place c s (LAY.nLeaves t) t 0 (0, 0),
      (b.xstart, b.ystart) = posOf (place c s (LAY.nLeaves t) t 0 (0, 0)) b.parent ∧
      (b.xend, b.yend) = posOf (place c s (LAY.nLeaves t) t 0 (0, 0)) b.id :=
  branches_join_positions c s (LAY.nLeaves t) t 0 (absRoot_nodes g h1 h).1

theorem draws_length {c s : Rat → Rat} (hcs : ∀ θ, c θ * c θ + s θ * s θ = 1) {b : Branch} {g : Seg}
    (h : Draws c s b g) {d : Int} (hd : g.len = some d) :
    (b.xend - b.xstart) * (b.xend - b.xstart) + (b.yend - b.ystart) * (b.yend - b.ystart) = (d : Rat) * (d : Rat) := by
  obtain ⟨_, _, _, hx, hy⟩ := h
  rw [hx, hy, hd]
  exact branch_has_its_length b.xstart b.ystart _ _ _ (hcs g.angle)

/-- C19, lengths: whenever the layout is produced (all lengths present), every branch, listed alongside its
    segment of the exact-angle model, has squared Euclidean length equal to the squared branch length -/
theorem branch_lengths {c s : Rat → Rat} (hcs : ∀ θ, c θ * c θ + s θ * s θ = 1) (t : Rose) (segs : List Seg)
    (h : radial t = .ok segs) :
    Pointwise (fun b g => b.id = g.id ∧ ∃ d : Int, g.len = some d ∧
        (b.xend - b.xstart) * (b.xend - b.xstart) + (b.yend - b.ystart) * (b.yend - b.ystart) = (d : Rat) * (d : Rat))
      (place c s (LAY.nLeaves t) t 0 (0, 0)) segs := by
  obtain ⟨rfl, hlen⟩ := radial_ok h
  refine Pointwise.mono ?_ (place_draws c s (LAY.nLeaves t) t 0 (0, 0))
  intro b g _ hg hdr
  cases hl : g.len with
  | none => exact absurd hl (hlen g hg)
  | some d => exact ⟨hdr.2.1, d, rfl, draws_length hcs hdr hl⟩

/-- the layout with coordinates is produced whenever the exact-angle layout is -/
theorem radialCoords_ok (c s : Rat → Rat) (t : Rose) (segs : List Seg) (h : radial t = .ok segs) :
    radialCoords c s t = .ok (place c s (LAY.nLeaves t) t 0 (0, 0)) := by
  simp [radialCoords, h]

theorem scale_step (x f d e : Rat) : x * f + f * d * e = (x + d * e) * f := LAY.scale_step x f d e

/-- `Layout::rescale` commutes with the construction: drawing with every length multiplied by `f` (from the
    rescaled start point) = multiplying every coordinate of the drawing by `f`; any rational factor.
    (`LAY.placeW_rescale` for the same tree, `g = id`.) -/
theorem rescale_commutes_with_placeW (ℓ : Rose → Rat) (c s : Rat → Rat) (total : Nat) (f : Rat) :
    ∀ (t : Rose) (start : Rat) (pos : Rat × Rat),
    placeW (fun t => f * ℓ t) c s total t start (pos.1 * f, pos.2 * f) = LAY.rescale f (placeW ℓ c s total t start pos) :=
  placeW_rescale ℓ (fun t => f * ℓ t) id c s total f (fun _ => rfl) (fun _ => rfl) (fun _ => rfl)
    (fun k => (List.map_id k.kids).symm) (fun _ => rfl)

theorem rescale_commutes_with_placeWL (ℓ : Rose → Rat) (c s : Rat → Rat) (total : Nat) (f : Rat) (p : Nat) :
    ∀ (ks : List Rose) (start : Rat) (pos : Rat × Rat),
    placeWL (fun t => f * ℓ t) c s total p ks start (pos.1 * f, pos.2 * f) =
      LAY.rescale f (placeWL ℓ c s total p ks start pos) := by
  intro ks start pos
  have := placeWL_rescale ℓ (fun t => f * ℓ t) id c s total f (fun _ => rfl) (fun _ => rfl) (fun _ => rfl)
    (fun k => (List.map_id k.kids).symm) (fun _ => rfl) p ks start pos
  rwa [List.map_id] at this

/-- the whole drawing (root at the origin) -/
theorem rescale_commutes_with_place (ℓ : Rose → Rat) (c s : Rat → Rat) (total : Nat) (f : Rat) (t : Rose) (start : Rat) :
    placeW (fun t => f * ℓ t) c s total t start (0, 0) = LAY.rescale f (placeW ℓ c s total t start (0, 0)) := by
  have := rescale_commutes_with_placeW ℓ c s total f t start (0, 0)
  simpa using this

mutual
theorem nLeaves_scaleT (f : Int) : ∀ t : Rose, LAY.nLeaves (scaleT f t) = LAY.nLeaves t
  | .node i n l d [] => by rw [scaleT, scaleTL, LAY.nLeaves, LAY.nLeaves]
  | .node i n l d (k :: ks) => by
    rw [scaleT, scaleTL, LAY.nLeaves, LAY.nLeaves, ← scaleTL, nLeavesL_scaleTL f (k :: ks)]
theorem nLeavesL_scaleTL (f : Int) : ∀ ts : List Rose, LAY.nLeavesL (scaleTL f ts) = LAY.nLeavesL ts
  | [] => by rw [scaleTL]
  | t :: ts => by rw [scaleTL, LAY.nLeavesL, LAY.nLeavesL, nLeaves_scaleT f t, nLeavesL_scaleTL f ts]
end

theorem id_scaleT (f : Int) (t : Rose) : (scaleT f t).id = t.id := by cases t; rw [scaleT]; rfl

theorem name_scaleT (f : Int) (t : Rose) : (scaleT f t).name = t.name := by cases t; rw [scaleT]; rfl

theorem lenQ_scaleT (f : Int) (t : Rose) : lenQ (scaleT f t) = (f : Rat) * lenQ t := by
  cases t with
  | node i n l d ks =>
    rw [scaleT]
    cases l with
    | none => simp [lenQ, Rose.len]
    | some v => simp [lenQ, Rose.len, Rat.intCast_mul]

/-- the tree whose lengths are all multiplied by the integer `f` is drawn as the rescaled drawing
    (`LAY.placeW_rescale` for `g = scaleT f`) -/
theorem rescale_scaled_tree_at (c s : Rat → Rat) (total : Nat) (f : Int) :
    ∀ (t : Rose) (start : Rat) (pos : Rat × Rat),
    place c s total (scaleT f t) start (pos.1 * f, pos.2 * f) = LAY.rescale f (place c s total t start pos) :=
  placeW_rescale lenQ lenQ (scaleT f) c s total f (nLeaves_scaleT f) (id_scaleT f) (name_scaleT f) (kids_scaleT f)
    (lenQ_scaleT f)

theorem rescale_scaled_treeL_at (c s : Rat → Rat) (total : Nat) (f : Int) (p : Nat) :
    ∀ (ks : List Rose) (start : Rat) (pos : Rat × Rat),
    placeL c s total p (scaleTL f ks) start (pos.1 * f, pos.2 * f) = LAY.rescale f (placeL c s total p ks start pos) := by
  intro ks start pos
  rw [scaleTL_eq_map]
  exact placeWL_rescale lenQ lenQ (scaleT f) c s total f (nLeaves_scaleT f) (id_scaleT f) (name_scaleT f) (kids_scaleT f)
    (lenQ_scaleT f) p ks start pos

/-- C19, rescaling: drawing the tree with all lengths multiplied by `f` = multiplying every coordinate of
    the drawing by `f` -/
theorem rescale_scaled_tree (c s : Rat → Rat) (f : Int) (t : Rose) :
    place c s (LAY.nLeaves (scaleT f t)) (scaleT f t) 0 (0, 0) = LAY.rescale f (place c s (LAY.nLeaves t) t 0 (0, 0)) := by
  have := rescale_scaled_tree_at c s (LAY.nLeaves t) f t 0 (0, 0)
  rw [nLeaves_scaleT]
  simpa using this

theorem missing_length_refused_coords (c s : Rat → Rat) (t : Rose)
    (h : (layout (LAY.nLeaves t) t 0).any (fun g => g.len.isNone) = true) :
    radialCoords c s t = .err "MissingBranchLengths" := by
  simp [radialCoords, missing_length_refused t h]

/-- C19, coordinates: for a tree with distinct ids and all lengths present, and any direction functions on the
    unit circle, the layout is produced; it has one branch (= labelled point) per non-root node, in the order,
    with the parents and the labels of the exact-angle model; each branch has squared Euclidean length equal
    to the squared branch length; the root is at the origin and each branch joins the drawn position of the
    node's parent to the drawn position of the node -/
theorem radial_coords_summary {c s : Rat → Rat} (hcs : ∀ θ, c θ * c θ + s θ * s θ = 1) (t : Rose)
    (hnd : (idsR t).Nodup) (segs : List Seg) (h : radial t = .ok segs) :
    radialCoords c s t = .ok (place c s (LAY.nLeaves t) t 0 (0, 0)) ∧
    (place c s (LAY.nLeaves t) t 0 (0, 0)).length + 1 = size t ∧
    t.id :: (place c s (LAY.nLeaves t) t 0 (0, 0)).map Branch.id = idsR t ∧
    (place c s (LAY.nLeaves t) t 0 (0, 0)).map Branch.parent = segs.map Seg.parent ∧
    (place c s (LAY.nLeaves t) t 0 (0, 0)).map Branch.name = segs.map Seg.name ∧
    Pointwise (fun b g => b.id = g.id ∧ ∃ d : Int, g.len = some d ∧
        (b.xend - b.xstart) * (b.xend - b.xstart) + (b.yend - b.ystart) * (b.yend - b.ystart) = (d : Rat) * (d : Rat))
      (place c s (LAY.nLeaves t) t 0 (0, 0)) segs ∧
    posOf (place c s (LAY.nLeaves t) t 0 (0, 0)) t.id = (0, 0) ∧
    ∀ b ∈ place c s (LAY.nLeaves t) t 0 (0, 0),
      (b.xstart, b.ystart) = posOf (place c s (LAY.nLeaves t) t 0 (0, 0)) b.parent ∧
      (b.xend, b.yend) = posOf (place c s (LAY.nLeaves t) t 0 (0, 0)) b.id := by
  have hj := branches_join_positions c s (LAY.nLeaves t) t 0 hnd
  refine ⟨radialCoords_ok c s t segs h, one_branch_per_non_root_node c s _ t 0 (0, 0),
    place_ids_preorder c s _ t 0 (0, 0), ?_, ?_, branch_lengths hcs t segs h, hj.1, hj.2⟩
  · rw [(radial_ok h).1]; exact place_parents c s _ t 0 (0, 0)
  · rw [(radial_ok h).1]; exact place_names c s _ t 0 (0, 0)

/-! ### wedges are nested and sibling wedges disjoint (on the exact-angle model) -/

theorem width_nonneg (a t : Nat) : (0 : Rat) ≤ (a : Rat) / (t : Rat) := by
  rw [Rat.div_def]
  apply Rat.mul_nonneg Rat.natCast_nonneg
  by_cases h : t = 0
  · subst h; simp
  · exact Rat.le_of_lt (Rat.inv_pos.2 (Rat.natCast_pos.2 (by omega)))

theorem width_add (a b t : Nat) : ((a + b : Nat) : Rat) / (t : Rat) = (a : Rat) / t + (b : Rat) / t := by
  rw [Rat.natCast_add, Rat.div_def, Rat.div_def, Rat.div_def, Rat.add_mul]

/-- the wedge `[start, start + width]` of the segment lies within `[lo, hi]` -/
def Seg.within (g : Seg) (lo hi : Rat) : Prop := lo ≤ g.start ∧ g.start + g.width ≤ hi

mutual
/-- NESTING: every wedge handed out below `t` lies inside the wedge of `t` (which starts at `start` and has
    width `leaves(t)/total`) -/
theorem wedges_nested (total : Nat) : ∀ (t : Rose) (start : Rat),
    ∀ g ∈ layout total t start, Seg.within g start (start + (LAY.nLeaves t : Rat) / (total : Rat))
  | .node i n l d [], start => by rw [layout, layoutL]; intro g hg; simp at hg
  | .node i n l d (k :: ks), start => by
    rw [layout, LAY.nLeaves]; exact wedgesL_nested total i (k :: ks) start
theorem wedgesL_nested (total : Nat) (p : Nat) : ∀ (ks : List Rose) (start : Rat),
    ∀ g ∈ layoutL total p ks start, Seg.within g start (start + (LAY.nLeavesL ks : Rat) / (total : Rat))
  | [], start => by rw [layoutL]; intro g hg; simp at hg
  | k :: ks, start => by
    rw [layoutL, LAY.nLeavesL, width_add]
    -- with `w`, `W` the widths of `k` and of the later siblings: `start ≤ start + w ≤ start + (w + W)`
    have a : start ≤ start + (LAY.nLeaves k : Rat) / (total : Rat) := by
      have := (Rat.add_le_add_left (c := start)).2 (width_nonneg (LAY.nLeaves k) total)
      rwa [Rat.add_zero] at this
    have b : start + (LAY.nLeaves k : Rat) / (total : Rat) ≤
        start + ((LAY.nLeaves k : Rat) / (total : Rat) + (LAY.nLeavesL ks : Rat) / (total : Rat)) := by
      have := (Rat.add_le_add_left (c := start + (LAY.nLeaves k : Rat) / (total : Rat))).2
        (width_nonneg (LAY.nLeavesL ks) total)
      rwa [Rat.add_zero, Rat.add_assoc] at this
    intro g hg
    simp only [List.mem_cons, List.mem_append] at hg
    rcases hg with rfl | hg | hg
    · exact ⟨Rat.le_refl, b⟩
    · have := wedges_nested total k start g hg
      exact ⟨this.1, Rat.le_trans this.2 b⟩
    · have := wedgesL_nested total p ks (start + (LAY.nLeaves k : Rat) / (total : Rat)) g hg
      rw [Rat.add_assoc] at this
      exact ⟨Rat.le_trans a this.1, this.2⟩
end

/-- DISJOINT sibling wedges: the wedge of a node `k`, and every wedge below it, ends no later than where
    the wedge of any later sibling, and every wedge below that sibling, starts -/
theorem sibling_subtrees_disjoint (total p : Nat) (k : Rose) (ks : List Rose) (start : Rat)
    (g1 : Seg) (h1 : g1 ∈ ({ parent := p, id := k.id, start := start, width := (LAY.nLeaves k : Rat) / (total : Rat), len := k.len, name := k.name } : Seg) :: layout total k start)
    (g2 : Seg) (h2 : g2 ∈ layoutL total p ks (start + (LAY.nLeaves k : Rat) / (total : Rat))) :
    g1.start + g1.width ≤ g2.start := by
  have a2 := (wedgesL_nested total p ks _ g2 h2).1
  rcases List.mem_cons.1 h1 with rfl | h1
  · exact a2
  · have a1 := (wedges_nested total k start g1 h1).2
    exact Rat.le_trans a1 a2

theorem nLeaves_pos : ∀ t : Rose, 0 < LAY.nLeaves t
  | .node i n l d [] => by rw [LAY.nLeaves]; omega
  | .node i n l d (k :: ks) => by rw [LAY.nLeaves, LAY.nLeavesL]; have := nLeaves_pos k; omega

theorem nLeavesL_pos : ∀ (k : Rose) (ks : List Rose), 0 < LAY.nLeavesL (k :: ks) := by
  intro k ks; rw [LAY.nLeavesL]; have := nLeaves_pos k; omega

/-- every wedge of the drawing lies within the full turn `[0, 1]` -/
theorem wedges_within_full_turn (t : Rose) : ∀ g ∈ layout (LAY.nLeaves t) t 0, 0 ≤ g.start ∧ g.start + g.width ≤ 1 := by
  intro g hg
  have h := wedges_nested (LAY.nLeaves t) t 0 g hg
  have hne : ((LAY.nLeaves t : Nat) : Rat) ≠ 0 := by
    have := nLeaves_pos t
    simp only [ne_eq, Rat.natCast_eq_zero_iff]; omega
  have e : (0 : Rat) + (LAY.nLeaves t : Rat) / (LAY.nLeaves t : Rat) = 1 := by
    rw [Rat.div_def, Rat.mul_inv_cancel _ hne]; grind
  rw [e] at h
  exact h

/-! ### non-vacuity -/

/-- a rational direction family on the unit circle, not constant: `(3/5, 4/5)` in the first half turn,
    `(-4/5, 3/5)` in the second -/
def cq : Rat → Rat := fun θ => if θ < 1 / 2 then 3 / 5 else -4 / 5
def sq : Rat → Rat := fun θ => if θ < 1 / 2 then 4 / 5 else 3 / 5

theorem cq_sq_unit : ∀ θ, cq θ * cq θ + sq θ * sq θ = 1 := by
  intro θ; simp only [cq, sq]; split <;> decide +kernel

/-- `((B:10,C:5)A:5,D:10);` with ids 0 (root), 1 (A), 3, 4, 2 -/
def exT : Rose :=
  .node 0 none none 0 [.node 1 (some "A") (some 5) 1 [.node 3 (some "B") (some 10) 2 [], .node 4 (some "C") (some 5) 2 []],
    .node 2 (some "D") (some 10) 1 []]

example : (idsR exT).Nodup := by decide

example : ∀ g ∈ layout (LAY.nLeaves exT) exT 0, 0 ≤ g.start ∧ g.start + g.width ≤ 1 := wedges_within_full_turn exT

example : (layout (LAY.nLeaves exT) exT 0).map Seg.angle = [1 / 3, 1 / 6, 1 / 2, 5 / 6] := by decide +kernel

/-- the value / the error kind of a result (`QR` has no decidable equality) -/
def okOf {α : Type} : QR α → Option α | .ok v => some v | _ => none
def errOf {α : Type} : QR α → Option String | .err e => some e | _ => none

/-- the hypotheses of `radial_coords_summary` hold for `exT`, `cq`, `sq` -/
example : (okOf (radial exT)).isSome = true := by decide +kernel

/-- the drawing by evaluation: A at (3,4); B = A + 10·(3/5,4/5); C = A + 5·(-4/5,3/5); D = 10·(-4/5,3/5) -/
example : okOf (radialCoords cq sq exT) = some
    [{ xstart := 0, ystart := 0, xend := 3, yend := 4, parent := 0, id := 1, name := some "A" },
     { xstart := 3, ystart := 4, xend := 9, yend := 12, parent := 1, id := 3, name := some "B" },
     { xstart := 3, ystart := 4, xend := -1, yend := 7, parent := 1, id := 4, name := some "C" },
     { xstart := 0, ystart := 0, xend := -8, yend := 6, parent := 0, id := 2, name := some "D" }] := by decide +kernel

example : posOf (place cq sq (LAY.nLeaves exT) exT 0 (0, 0)) 4 = (-1, 7) ∧
    posOf (place cq sq (LAY.nLeaves exT) exT 0 (0, 0)) 0 = (0, 0) := by decide +kernel

/-- rescaling by 3: by evaluation, in agreement with `rescale_scaled_tree` -/
example : place cq sq (LAY.nLeaves (scaleT 3 exT)) (scaleT 3 exT) 0 (0, 0) =
    [{ xstart := 0, ystart := 0, xend := 9, yend := 12, parent := 0, id := 1, name := some "A" },
     { xstart := 9, ystart := 12, xend := 27, yend := 36, parent := 1, id := 3, name := some "B" },
     { xstart := 9, ystart := 12, xend := -3, yend := 21, parent := 1, id := 4, name := some "C" },
     { xstart := 0, ystart := 0, xend := -24, yend := 18, parent := 0, id := 2, name := some "D" }] := by decide +kernel

/-- a tree with a missing length is refused -/
example : errOf (radialCoords cq sq (.node 0 none none 0 [.node 1 none (some 1) 1 [], .node 2 none none 1 []])) =
    some "MissingBranchLengths" := by decide +kernel

end C19
