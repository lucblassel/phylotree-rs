import PhyloModel.Upgma.ArenaLinkMain
/-! # C15 / C03 — the ARENA that `DistanceMatrix::upgma` builds, linked to the tree of the numeric model

`DistanceMatrix::upgma` does not assemble a tree value: it drives the arena API (`Tree::add`, `Tree::add_child`, one
`Tree::merge_children` per iteration, `node_ids[a] = new id`).  `UPG.upgmaShape` (Matrix/UpgmaArena.lean) performs exactly
these calls on the arena model `AR` while the numeric state is advanced by the same `UPG.stepC` that `UPG.upgmaC` runs;
every length the real code writes is replaced by the placeholder `0` (arena lengths are integers, UPGMA lengths are
rationals), a length it leaves absent stays absent.  This file links the two component models:

* `upgmaShape_same_outcome`, `upgmaShape_ok_iff`, `upgmaShape_succeeds` — the arena calls never refuse: the run with the arena
  succeeds exactly when the numeric run succeeds (and fails with the same error), for EVERY taxon list and vector;
* `merge_never_refuses` — the loop invariant behind it: the two merged ids are always two different live children of slot 0;
* `merge_children_order` — where `merge_children` puts things: the new node gets `[child1, child2]`, the parent loses both
  and gets the new node at the END of its child list;
* `upgmaShape_good` — C03 for UPGMA-built trees: the arena is one consistent rooted tree with root slot 0;
* `upgmaShape_represents` — the abstraction of the arena, ids and lengths erased, IS the tree `upgmaC` returns, lengths erased:
  same names, same order of the children under every node;
* `upgmaShape_slots`, `upgmaShape_leaves` — the layout: `2n − 1` slots, none removed, slots `1..n` are the tips carrying the
  taxa in order, every later slot is an unnamed node with two children, the root has two children; `get_leaves` lists
  exactly the slots `1..n`.

None of the theorems about a returned arena has a hypothesis on the matrix (size, signs): they hold whenever the run
returns. -/
namespace C15
open UP UPG MX Tri MXS AR

/-- **Same outcome.**  For every taxon list and every vector, the run that also drives the arena ends like the numeric run:
    both succeed, or both fail with the same error, or both panic. -/
theorem upgmaShape_same_outcome (taxa : List String) (v : Array Rat) :
    (upgmaShape taxa v).outcome = (upgmaC taxa v).outcome := by
  obtain ⟨k1, k2, k3⟩ := upgmaShape_decomp taxa v
  rw [upgmaC_eq]
  cases hl : loopC taxa.length (initSt taxa v) with
  | ok st =>
    obtain ⟨s, _, he, hu⟩ := k1 st hl
    rw [hu, finishShape_outcome nonNeg, he]
  | err k => rw [k2 k hl]; rfl
  | panic => rw [k3 hl]; rfl

/-- `upgmaShape` returns an arena exactly when `upgmaC` returns a tree: no arena call (`add_child`, `merge_children`)
    ever refuses on a run whose numeric part goes through. -/
theorem upgmaShape_ok_iff (taxa : List String) (v : Array Rat) :
    (∃ A, upgmaShape taxa v = .ok A) ↔ (∃ r, upgmaC taxa v = .ok r) := by
  rw [Res.ok_iff_outcome, Res.ok_iff_outcome, upgmaShape_same_outcome]

/-- On the domain of the C15 master theorem (two or more taxa, a triangular vector of the right size, non-negative
    entries) the run with the arena succeeds. -/
theorem upgmaShape_succeeds (taxa : List String) (v : Array Rat) (h2 : 2 ≤ taxa.length) (hv : v.size = T taxa.length)
    (hpos : ∀ k, k < v.size → 0 ≤ v.getD k 0) : ∃ A, upgmaShape taxa v = .ok A := by
  rw [upgmaShape_ok_iff, upgmaC_eq_upgma taxa v h2 hv hpos]
  exact (upgma_ok_nonneg taxa v h2 hv hpos).1

/-- non-vacuity: taxa `a, b, c`, distances `a-b 2, a-c 4, b-c 4` satisfy the hypotheses, so the hypothesis
    `upgmaShape taxa v = .ok A` of the theorems below is satisfiable -/
example : ∃ A, upgmaShape ["a", "b", "c"] #[2, 4, 4] = .ok A :=
  upgmaShape_succeeds _ _ UPG.hyps_example.1 UPG.hyps_example.2.1 UPG.hyps_example.2.2

/-- **The `merge_children` call of an iteration never refuses.**  On a state satisfying the loop invariant `SInv`
    (the arena is well formed with the single root 0; `node_ids[i]`, for the unmerged `i`, are exactly the children of
    slot 0 in the order of `rootKids`, pairwise different; slot `node_ids[i]` holds the cluster tree of `i`), whenever the
    numeric iteration `stepC` succeeds the iteration with the arena succeeds with the same numeric state, and the invariant
    holds again. -/
theorem merge_never_refuses {taxa : List String} {s : ShSt} (hI : SInv taxa s) {st' : UPG.St} (hs : stepC s.st = .ok st') :
    ∃ s', stepShape s = .ok s' ∧ s'.st = st' ∧ SInv taxa s' :=
  UPG.stepShape_inv hI hs

/-- the invariant holds before the loop (the set-up phase — virtual root, one `add_child` per taxon — cannot fail) -/
theorem invariant_initially (taxa : List String) (v : Array Rat) :
    ∃ s0, initShape taxa v = .ok s0 ∧ s0.st = initSt taxa v ∧ SInv taxa s0 :=
  UPG.initShape_inv taxa v

/-- non-vacuity of `merge_never_refuses`: the state before the loop on `a, b, c` satisfies the invariant and its numeric
    iteration succeeds -/
example : ∃ s st', SInv ["a", "b", "c"] s ∧ stepC s.st = .ok st' := by
  obtain ⟨s0, _, he, hI⟩ := invariant_initially ["a", "b", "c"] #[2, 4, 4]
  -- the input is in the domain of C15: the loop invariant holds, so the iteration cannot fail and the clamp does nothing
  have hL := init_linv ["a", "b", "c"] #[2, 4, 4] UPG.hyps_example.2.1 UPG.hyps_example.1 UPG.hyps_example.2.2
  obtain ⟨st', hs⟩ := UPG.step_total hL.wf (by rw [← hL.wf.ncl]; decide)
  exact ⟨s0, st', hI, by rw [he, UPG.stepC_eq_step (d0of_symm _) hL (by decide)]; exact hs⟩

/-- **Where `merge_children` puts things.**  In a well-formed arena, merging two different children `c1`, `c2` of a live
    node `q` succeeds and returns the fresh id `a.size`; the new node has the child list `[c1, c2]` (in the order of the
    arguments) and the parent `q`; `q` loses `c1` and `c2` and gets the new node at the END of its child list; `c1` and `c2`
    get the new node as parent; no other slot changes its liveness, name, child list or parent; the result is well
    formed. -/
theorem merge_children_order {a : Arena} (q c1 c2 : Nat) (e1 e2 pe : Option Int) (name : Option String) (g : Good a)
    (hlq : live a q) (hm1 : c1 ∈ (nd a q).children) (hm2 : c2 ∈ (nd a q).children) (h12 : c1 ≠ c2) :
    ∃ a', mergeChildren a c1 c2 e1 e2 pe name = (a', .ok (some a.size)) ∧ Good a' ∧ a'.size = a.size + 1 ∧
      (∀ i, (nd a' i).deleted = if i = a.size then false else (nd a i).deleted) ∧
      (∀ i, (nd a' i).name = if i = a.size then name else (nd a i).name) ∧
      (∀ i, (nd a' i).children = if i = a.size then [c1, c2]
          else if i = q then ((nd a q).children.erase c1).erase c2 ++ [a.size] else (nd a i).children) ∧
      (∀ i, (nd a' i).parent = if i = a.size then some q
          else if i = c1 ∨ i = c2 then some a.size else (nd a i).parent) :=
  UPG.mergeChildren_under q c1 c2 e1 e2 pe name g hlq hm1 hm2 h12

/-- non-vacuity of `merge_children_order`: the star tree on three tips, children 1 and 3 of the root; after the call the
    root holds `[2, 4]` and the new node `[1, 3]` -/
example : let a : Arena := runOps #[] [.add none, .addChild 0 none (some "a"), .addChild 0 none (some "b"),
      .addChild 0 none (some "c")]
    Good a ∧ live a 0 ∧ 1 ∈ (nd a 0).children ∧ 3 ∈ (nd a 0).children ∧ 1 ≠ 3 ∧
    (nd (mergeChildren a 1 3 (some 0) (some 0) none none).1 0).children = [2, 4] ∧
    (nd (mergeChildren a 1 3 (some 0) (some 0) none none).1 4).children = [1, 3] := by
  intro a
  exact ⟨runOps_good _ empty_good, (isLive_iff a 0).1 (by decide), by decide, by decide, by decide, by decide, by decide⟩

/-- **C03 for UPGMA-built trees.**  Whenever the run returns an arena, that arena satisfies the arena invariant
    (`AR.Good`: parent and child links mirror each other, cached depths and both records of every branch length agree,
    tombstones are blank), has at most one root, and its root is slot 0. -/
theorem upgmaShape_good (taxa : List String) (v : Array Rat) (A : Arena) (h : upgmaShape taxa v = .ok A) :
    Good A ∧ AtMostOneRoot A ∧ getRoot A = some 0 :=
  UPG.upgmaShape_good taxa v A h

/-- **The arena holds the tree of the numeric model.**  Whenever the run returns an arena `A`: the abstraction `absRoot A`
    exists, `upgmaC` returns a tree `u`, and after forgetting ids, cached depths and branch lengths on the arena side
    (`AR.erase`, then `eraseLen`) and branch lengths on the model side (`URose.shape`) the two are EQUAL — the same names
    and the same order of children under every node. -/
theorem upgmaShape_represents (taxa : List String) (v : Array Rat) (A : Arena) (h : upgmaShape taxa v = .ok A) :
    ∃ t u m tie dy, absRoot A = .ok t ∧ upgmaC taxa v = .ok (u, m, tie, dy) ∧ eraseLen (erase t) = u.shape :=
  UPG.upgmaShape_represents taxa v A h

/-- **The slot layout.**  Whenever the run returns an arena `A` on `n` taxa: `n ≥ 2`; `A` has `2n − 1` slots (one virtual
    root, `n` tips, `n − 2` merge nodes) and none of them is removed; slot 0 is unnamed, has no parent and has exactly two
    children; slot `i + 1` is a childless node named after taxon `i`; every slot after the tips is an unnamed node with
    exactly two children. -/
theorem upgmaShape_slots (taxa : List String) (v : Array Rat) (A : Arena) (h : upgmaShape taxa v = .ok A) :
    2 ≤ taxa.length ∧ A.size + 1 = 2 * taxa.length ∧ (∀ i, i < A.size → (nd A i).deleted = false) ∧
    (nd A 0).name = none ∧ (nd A 0).parent = none ∧ (nd A 0).children.length = 2 ∧
    (∀ i, i < taxa.length → (nd A (i + 1)).name = some (nameOf taxa i) ∧ (nd A (i + 1)).children = []) ∧
    (∀ i, taxa.length < i → i < A.size → (nd A i).name = none ∧ (nd A i).children.length = 2) := by
  obtain ⟨s, ai, bi, dab, hI, _, hact, hn2, _, g, sk⟩ := upgmaShape_ok_inv taxa v A h
  have hsz := hI.size
  have h2n : 2 ≤ taxa.length := by
    have := actOf_length_le taxa.length s.st
    rw [hact] at this; exact this
  refine ⟨h2n, by rw [sk.size]; omega, ?_, by rw [sk.name]; exact hI.name0, by rw [sk.parent]; exact hI.par0, ?_, ?_, ?_⟩
  · intro i hi; rw [sk.deleted]; exact hI.nodel i (by rw [← sk.size]; exact hi)
  · rw [sk.children, hI.kids, List.length_map, hI.rkL, hn2]
  · intro i hi; rw [sk.name, sk.children]; exact hI.tips i hi
  · intro i h1 h2
    rw [sk.name, sk.children]
    obtain ⟨k1, k2⟩ := hI.inner i h1 (by rw [← sk.size]; exact h2)
    exact ⟨k2, k1⟩

/-- **The leaves are exactly the taxa.**  `Tree::get_leaves` on the returned arena lists the slots `1, .., n`, and their
    names, in that order, are the taxa. -/
theorem upgmaShape_leaves (taxa : List String) (v : Array Rat) (A : Arena) (h : upgmaShape taxa v = .ok A) :
    leaves A = (List.range taxa.length).map (· + 1) ∧ (leaves A).map (fun i => (nd A i).name) = taxa.map some := by
  obtain ⟨hn, hsz, hdel, _, _, h0, htips, hinner⟩ := upgmaShape_slots taxa v A h
  have hl : leaves A = (List.range taxa.length).map (· + 1) := by
    unfold leaves
    apply filter_range_mid _ taxa.length A.size (by omega)
    · cases hc : (nd A 0).children with
      | nil => rw [hc] at h0; simp at h0
      | cons _ _ => simp
    · intro i hi1 hi2
      obtain ⟨_, hc⟩ := htips (i - 1) (by omega)
      have e : i - 1 + 1 = i := by omega
      rw [e] at hc
      simp [isLive, hc, hdel i (by omega)]; omega
    · intro i hi1 hi2
      obtain ⟨_, hc⟩ := hinner i hi1 hi2
      cases hk : (nd A i).children with
      | nil => rw [hk] at hc; simp at hc
      | cons _ _ => simp
  refine ⟨hl, ?_⟩
  rw [hl, List.map_map]
  conv => rhs; rw [← map_nameOf_range taxa, List.map_map]
  apply List.map_congr_left
  intro i hi
  exact (htips i (List.mem_range.1 hi)).1


/-- what a run looks like from outside: the arena passes the Boolean invariant checker, has one live root, the given
    number of slots, and both its abstraction and the tree of `upgmaC` have the given shape -/
def runHasShape (taxa : List String) (v : Array Rat) (slots : Nat) (expected : Shape) : Bool :=
  match upgmaShape taxa v, upgmaC taxa v with
  | .ok A, .ok (u, _) =>
    (match absRoot A with
      | .ok t => Shape.beq (eraseLen (erase t)) expected
      | _ => false) && Shape.beq u.shape expected && checkInv A && (liveRoots A).length == 1 && A.size == slots
  | _, _ => false

/-- three taxa, `a-b 2, a-c 4, b-c 4`: `(c,(b,a))` — the pair found by `min()` is `(1, 0)`, so `b` comes before `a`, and the
    new node goes to the end of the root's child list, after `c` -/
example : runHasShape ["a", "b", "c"] #[2, 4, 4] 5
    (.node none [.node (some "c") [], .node none [.node (some "b") [], .node (some "a") []]]) = true := by
  decide +kernel

/-- the child lists of that arena: the root holds `[3, 4]` (tip `c`, then the merge node), the merge node `[2, 1]` -/
example : (match upgmaShape ["a", "b", "c"] #[2, 4, 4] with
    | .ok A => (nd A 0).children == [3, 4] && (nd A 4).children == [2, 1] && (nd A 4).parent == some 0
    | _ => false) = true := by decide +kernel

/-- four taxa, all distances equal (every minimum is tied; the first cell in cell order wins): `(d,(c,(b,a)))` -/
example : runHasShape ["a", "b", "c", "d"] #[1, 1, 1, 1, 1, 1] 7
    (.node none [.node (some "d") [], .node none [.node (some "c") [], .node none [.node (some "b") [], .node (some "a") []]]])
    = true := by
  decide +kernel

/-- four taxa, two cherries `c-d 1`, `a-b 2`: `((d,c),(b,a))` -/
example : runHasShape ["a", "b", "c", "d"] #[2, 6, 6, 6, 6, 1] 7
    (.node none [.node none [.node (some "d") [], .node (some "c") []], .node none [.node (some "b") [], .node (some "a") []]])
    = true := by
  decide +kernel

/-- a vector that is too short: both runs fail, with the same error -/
example : (match upgmaShape ["a", "b", "c"] #[2, 4] with | .err k => k == "NonFinite" | _ => false) = true ∧
    (match upgmaC ["a", "b", "c"] #[2, 4] with | .err k => k == "NonFinite" | _ => false) = true := by
  constructor <;> decide +kernel

end C15
