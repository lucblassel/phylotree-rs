import PhyloModel.Props.C05
/-! # C06 — Robinson–Foulds distance is a symmetric, naming-independent split distance

`SPM.rf`, `SPM.rfNorm`, `SPM.compareTopologies` mirror `robinson_foulds`, `robinson_foulds_norm` and
`compare_topologies` of the repaired crate.  `Δ = |A| + |B| − 2|A∩B|` over the reported split sets. -/
namespace C06
open AR SPM

/-- the value computed before the root-placement correction -/
def delta (ps po : List Part) : Nat := po.length + ps.length - 2 * inter (sides po) (sides ps)

/-- the condition under which the correction of two is applied -/
def corrected (s o : Rose) (ls lo : List String) (d : Nat) : Bool :=
  isRootedR s && isRootedR o && d != 0 && !sameSet (rootSides ls s) (rootSides lo o)

/-- unfolding of `rf` on inputs where both bipartition sets exist -/
theorem rf_eq (s o : Rose) (ps po : List Part) (ls lo : List String)
    (hps : partitions s = .ok ps) (hpo : partitions o = .ok po)
    (hls : leafIndex s = .ok ls) (hlo : leafIndex o = .ok lo) :
    rf s o = if ls != lo then .err "DifferentTipIndices"
      else if corrected s o ls lo (delta ps po) then .ok (delta ps po + 2) else .ok (delta ps po) := by
  simp only [rf, hps, hpo, hls, hlo, QR.bind_ok, QR.pure_eq, delta, corrected, sides]
  split <;> rfl

/-- `Δ` is the number of non-trivial splits present in exactly one of the two trees -/
theorem delta_is_symmetric_difference (s o : Rose) (ps po : List Part)
    (hps : partitions s = .ok ps) (hpo : partitions o = .ok po) :
    delta ps po = ((sides ps).filter (fun x => !(sides po).contains x)).length
                + ((sides po).filter (fun x => !(sides ps).contains x)).length := by
  have h := delta_eq_symdiff (sides ps) (sides po) (C05.partitions_nodup s ps hps) (C05.partitions_nodup o po hpo)
  simpa [delta, sides] using h

/-- RF differs from the split count only by the fixed correction of two, applied only when both trees have a
    two-child root and their root splits differ -/
theorem rf_shape (s o : Rose) (ps po : List Part) (ls : List String)
    (hps : partitions s = .ok ps) (hpo : partitions o = .ok po)
    (hls : leafIndex s = .ok ls) (hlo : leafIndex o = .ok ls) :
    rf s o = .ok (delta ps po) ∨
    (rf s o = .ok (delta ps po + 2) ∧ isRootedR s = true ∧ isRootedR o = true ∧
      sameSet (rootSides ls s) (rootSides ls o) = false) := by
  rw [rf_eq s o ps po ls ls hps hpo hls hlo]
  simp only [bne_self_eq_false, Bool.false_eq_true, ↓reduceIte]
  by_cases hc : corrected s o ls ls (delta ps po) = true
  · right
    simp only [hc, ↓reduceIte, true_and]
    simp only [corrected, Bool.and_eq_true, Bool.not_eq_true'] at hc
    exact ⟨hc.1.1.1, hc.1.1.2, hc.2⟩
  · left; simp [hc]

/-- between trees whose roots are not both two-child roots, RF equals the split count -/
theorem rf_unrooted (s o : Rose) (ps po : List Part) (ls : List String)
    (hps : partitions s = .ok ps) (hpo : partitions o = .ok po)
    (hls : leafIndex s = .ok ls) (hlo : leafIndex o = .ok ls)
    (hroot : isRootedR s = false ∨ isRootedR o = false) : rf s o = .ok (delta ps po) := by
  rw [rf_eq s o ps po ls ls hps hpo hls hlo]
  have : corrected s o ls ls (delta ps po) = false := by
    rcases hroot with h | h <;> simp [corrected, h]
  simp [this]

theorem sameSet_symm (a b : List Side) : sameSet a b = sameSet b a := by
  simp only [sameSet, Bool.and_comm]

/-- RF is symmetric in its arguments -/
theorem rf_symmetric (s o : Rose) (ps po : List Part) (ls lo : List String)
    (hps : partitions s = .ok ps) (hpo : partitions o = .ok po)
    (hls : leafIndex s = .ok ls) (hlo : leafIndex o = .ok lo) : rf s o = rf o s := by
  rw [rf_eq s o ps po ls lo hps hpo hls hlo, rf_eq o s po ps lo ls hpo hps hlo hls]
  have hd : delta ps po = delta po ps := by
    unfold delta
    rw [inter_symm (sides po) (sides ps) (C05.partitions_nodup o po hpo) (C05.partitions_nodup s ps hps)]
    omega
  have hc : corrected s o ls lo (delta ps po) = corrected o s lo ls (delta po ps) := by
    unfold corrected
    rw [hd, sameSet_symm (rootSides ls s) (rootSides lo o), Bool.and_comm (isRootedR s) (isRootedR o)]
  by_cases hne : ls = lo
  · subst hne
    simp only [bne_self_eq_false, Bool.false_eq_true, ↓reduceIte]
    rw [hc, hd]
  · have h1 : (ls != lo) = true := by simpa using hne
    have h2 : (lo != ls) = true := by simpa using (fun h => hne h.symm)
    simp [h1, h2]

/-- trees on different leaf sets are rejected -/
theorem rf_rejects_different_leaf_sets (s o : Rose) (ps po : List Part) (ls lo : List String)
    (hps : partitions s = .ok ps) (hpo : partitions o = .ok po)
    (hls : leafIndex s = .ok ls) (hlo : leafIndex o = .ok lo) (hne : ls ≠ lo) :
    rf s o = .err "DifferentTipIndices" ∧ rfNorm s o = .err "DifferentTipIndices" := by
  have h1 : (ls != lo) = true := by simpa using hne
  have hr : rf s o = .err "DifferentTipIndices" := by
    rw [rf_eq s o ps po ls lo hps hpo hls hlo]; simp [h1]
  exact ⟨hr, by simp [rfNorm, hr]⟩

/-- the normalised distance is RF divided by the total number of splits; without the correction it lies in
    [0, 1] (the split count never exceeds the total) -/
theorem rf_norm_is_quotient (s o : Rose) (ps po : List Part) (d : Nat)
    (hps : partitions s = .ok ps) (hpo : partitions o = .ok po) (hrf : rf s o = .ok d) :
    rfNorm s o = .ok (d, po.length + ps.length) ∧ delta ps po ≤ po.length + ps.length := by
  refine ⟨by simp [rfNorm, hrf, hps, hpo], ?_⟩
  unfold delta; omega

/-- identical split sets give distance zero, whatever the root splits: the correction needs `Δ ≠ 0` (in
    particular a tree against any child-reordering of itself, by C05's invariance) -/
theorem rf_zero_of_same_splits (s o : Rose) (ps po : List Part) (ls : List String)
    (hps : partitions s = .ok ps) (hpo : partitions o = .ok po)
    (hls : leafIndex s = .ok ls) (hlo : leafIndex o = .ok ls)
    (hsame : ∀ x, x ∈ sides ps ↔ x ∈ sides po) : rf s o = .ok 0 := by
  have hz : delta ps po = 0 := by
    rw [delta_is_symmetric_difference s o ps po hps hpo]
    have h1 : (sides ps).filter (fun x => !(sides po).contains x) = [] := by
      rw [List.filter_eq_nil_iff]; intro x hx; simp [(hsame x).mp hx]
    have h2 : (sides po).filter (fun x => !(sides ps).contains x) = [] := by
      rw [List.filter_eq_nil_iff]; intro x hx; simp [(hsame x).mpr hx]
    rw [h1, h2]; rfl
  rw [rf_eq s o ps po ls ls hps hpo hls hlo]
  simp [corrected, hz]

/-- the combined report carries the same RF value (all lengths present) -/
theorem rf_equals_report (s o : Rose) (ps po : List Part) (ls lo : List String)
    (ms mo : List (Side × Nat × Int))
    (hps : partitions s = .ok ps) (hpo : partitions o = .ok po)
    (hls : leafIndex s = .ok ls) (hlo : leafIndex o = .ok lo)
    (hms : withLengths ps = .ok ms) (hmo : withLengths po = .ok mo)
    (hms1 : ms.map (·.1) = sides ps) (hmo1 : mo.map (·.1) = sides po) :
    (do let r ← compareTopologies s o; pure r.1) = rf s o := by
  rw [compareTopologies_eq]
  simp only [hps, hpo, hms, hmo, QR.bind_ok, QR.pure_eq, rfNorm, wrf, kf2]
  cases rf s o <;> rfl

/-- `withLengths` keeps the sides -/
theorem withLengths_sides (ps : List Part) (ms : List (Side × Nat × Int)) (h : withLengths ps = .ok ms) :
    ms.map (·.1) = sides ps :=
  withLengths_keys ps ms h

/-- `inter` on a concrete pair: one common side -/
example : inter [[false, true, true]] [[false, true, true], [false, false, true]] = 1 := by decide

end C06
