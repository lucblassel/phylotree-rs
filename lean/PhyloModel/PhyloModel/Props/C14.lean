import PhyloModel.Matrix.Phylip
import PhyloModel.Matrix.StoreLemmas
import PhyloModel.Matrix.PhylipRT
import PhyloModel.Matrix.PhylipRows
import PhyloModel.Matrix.PhylipStrictRT
import PhyloModel.Matrix.PhylipStrictSym
/-! # C14 — Phylip round trip is lossless; the parsers are total and strict

`PHY.toPhylip`, `PHY.fromPhylipTril`, `PHY.fromPhylipStrict` mirror `to_phylip`, `from_phylip_tril`,
`from_phylip_strict` of the repaired crate on `List Char`, with `str::lines` / `str::split_whitespace` /
`usize::from_str` transcribed (`PH.lines`, `PH.splitWs`, `PHY.parseUsize`).  Entries are values of any type
with a codec (`showL`, `parseL`, `numEq`, `isZero`).  The cell-for-cell round trip is a theorem for the triangular layout read by
`from_phylip_tril` (`tril_roundtrip`, including the size line: `usize` `Display`/`FromStr` is proved from the
core library's digit lemmas, not assumed) and, in the second part of this file, for `from_phylip_strict` in both
layouts (`strict_roundtrip`); on the real crate it is also decided on every run by the bit-exact correspondence
and the round-trip oracle (f32 and f64, both layouts, three entry points).  The hypothesis "taxon names are non-empty
words" is forced by the proof; the real code was run at the excluded point (an empty name) and fails there: a
recorded known finding. -/
namespace C14
open PHY MXS MX Tri

variable {L : Type} [Inhabited L] (cd : Codec L)

/-- strictness of the row loop: started after `i` well-shaped rows, on success it has read every line, none
    beyond the declared size, and all rows are well-shaped (required length, zero diagonal if square) -/
theorem strict_go (size : Nat) (square : Bool) :
    ∀ (ls : List Text) (i : Nat) (names : List String) (rows : List (List L)) (names' : List String)
      (rows' : List (List L)),
      names.length = i → rows.length = i →
      (∀ k (r : List L), rows[k]? = some r → (if square then r.length = size else r.length = k) ∧
          (square = true → cd.isZero (r.getD k default) = true)) →
      strictGo cd size square ls i names rows = .ok (names', rows') →
      names'.length = i + ls.length ∧ rows'.length = i + ls.length ∧ (ls ≠ [] → i + ls.length ≤ size) ∧
      (∀ k (r : List L), rows'[k]? = some r → (if square then r.length = size else r.length = k) ∧
          (square = true → cd.isZero (r.getD k default) = true)) := by
  intro ls i names rows names' rows' hn hr hrows h
  obtain ⟨hall, hout⟩ := (strictGo_ok_iff cd size square ls i names rows _).1 h
  cases hout
  have hrow := forall_mem_zipIdx.1 hall
  refine ⟨by simp [parsedNames, hn], by simp [parsedRows, hr], fun hne => ?_, fun k r hk => ?_⟩
  · have := (hrow (ls.length - 1) (by have := List.length_pos_iff.2 hne; omega)).1
    omega
  · by_cases hki : k < rows.length
    · rw [List.getElem?_append_left hki] at hk
      exact hrows k r hk
    · -- a new row: it is the parsed line number `k - i`, which passed as row `i + (k - i) = k`
      rw [List.getElem?_append_right (by omega), parsedRows, List.getElem?_map, Option.map_eq_some_iff] at hk
      obtain ⟨l, hl, rfl⟩ := hk
      obtain ⟨hlt, rfl⟩ := List.getElem?_eq_some_iff.1 hl
      have := hrow (k - rows.length) hlt
      rw [show i + (k - rows.length) = k by omega] at this
      exact ⟨by cases square <;> simpa [limS] using this.2.2.1, this.2.2.2⟩

/-- **strictness**: a text accepted by the strict parser has exactly as many rows as its declared size, every
    row has exactly the required number of distances (`size` for square, the row number for triangular), and
    in the square layout the diagonal entries are zero -/
theorem strict_accepts_only_well_shaped (text : Text) (square : Bool) (m : Mat L)
    (h : fromPhylipStrict cd text square = .ok m) :
    ∃ (first : Text) (rest : List Text) (size : Nat) (names : List String) (rows : List (List L)),
      PH.lines text = first :: rest ∧ parseUsize first = some size ∧
      rest.length = size ∧ names.length = size ∧ rows.length = size ∧
      (∀ k (r : List L), rows[k]? = some r → (if square then r.length = size else r.length = k) ∧
          (square = true → cd.isZero (r.getD k default) = true)) := by
  obtain ⟨first, rest, size, hlines, hsize, ha, _⟩ := strict_ok_stored cd text square m h
  refine ⟨first, rest, size, parsedNames cd size rest, parsedRows cd size rest, hlines, hsize, ha.count,
    by simp [parsedNames, ha.count], by simp [parsedRows, ha.count], fun k r hk => ?_⟩
  obtain ⟨hlt, rfl⟩ := List.getElem?_eq_some_iff.1 hk
  have hks : k < size := by simpa [parsedRows, ha.count] using hlt
  have hg : (parsedRows cd size rest).getD k [] = (parsedRows cd size rest)[k] := by
    simp [List.getD_eq_getElem?_getD, hlt]
  have h1 := ha.shape k hks
  have h2 := fun hs => ha.diag hs k hks
  simp only [entry, hg, limS] at h1 h2
  exact ⟨by cases square <;> simpa using h1, h2⟩

theorem readRow_no_panic (row : Text) (limit : Nat) : readRow cd row limit ≠ .panic :=
  PHY.readRow_no_panic cd row limit

theorem trilGo_no_panic : ∀ (ls : List Text) (i : Nat) (taxa : List String) (vals : List L),
    trilGo cd ls i taxa vals ≠ .panic
  | [], _, _, _ => by simp [trilGo]
  | l :: ls, i, taxa, vals => by
    simp only [trilGo]
    split
    · split
      · simp
      · exact trilGo_no_panic ls _ _ _
    · simp
    · next h => exact absurd h (readRow_no_panic cd l i)

/-- **totality** of the triangular parser: for every text it returns a matrix or an error, never a panic -/
theorem tril_total (text : Text) : fromPhylipTril cd text ≠ .panic := by
  unfold fromPhylipTril
  split
  · simp
  · split
    · simp
    · split
      · split
        · simp
        · split <;> simp
      · simp
      · next h => exact absurd h (trilGo_no_panic cd _ _ _ _)

theorem strictGo_no_panic (size : Nat) (square : Bool) (ls : List Text) (i : Nat) (names : List String)
    (rows : List (List L)) : strictGo cd size square ls i names rows ≠ .panic :=
  PHY.strictGo_no_panic cd size square ls i names rows

/-- text without any line, or whose first line is not an unsigned integer, is rejected by every entry point -/
theorem header_required (text : Text) (square : Bool)
    (h : PH.lines text = [] ∨ ∃ f r, PH.lines text = f :: r ∧ parseUsize f = none) :
    (∃ k, fromPhylipStrict cd text square = .err k) ∧ (∃ k, fromPhylipTril cd text = .err k) := by
  rcases h with h | ⟨f, r, h1, h2⟩
  · exact ⟨⟨"EmptyMatrixFile", by simp [fromPhylipStrict, h]⟩, ⟨"EmptyMatrixFile", by simp [fromPhylipTril, h]⟩⟩
  · exact ⟨⟨"SizeParseError", by simp [fromPhylipStrict, h1, h2]⟩, ⟨"SizeParseError", by simp [fromPhylipTril, h1, h2]⟩⟩

/-- the string layer of the round trip: the writer's rows (non-empty whitespace-free fields joined by
    blanks) split back into exactly those fields -/
theorem row_fields_roundtrip (sep : List Char) (hsep : PH.Sep sep) (ws : List (List Char))
    (h : ∀ w ∈ ws, PH.Word w) : PH.splitWs (PH.joinSep sep ws) = ws :=
  PH.split_join sep hsep ws h

/-- `usize::from_str` accepts what `Display` for `usize` prints (decimal digits, no sign) -/
example : parseUsize "12".toList = some 12 ∧ parseUsize "+3".toList = some 3 ∧ parseUsize "-0".toList = none ∧
    parseUsize "".toList = none ∧ parseUsize "3 ".toList = none := by
  -- the literals as lists of characters without evaluation: see the note at the first use in `Props/C02.lean`
  conv in (occs := *) String.toList _ => all_goals rw [String.toList_ofList]
  decide

/-- **triangular round trip**: writing a matrix (fewer than 2^64 taxa, `n(n-1)/2` cells) whose taxon names are
    non-empty and whitespace-free in triangular form and reading it back with `from_phylip_tril` reproduces the taxa (same order) and every
    cell, for every entry type whose `Display`/`FromStr` pair satisfies the two codec laws (what is written
    parses back to the same value; what is written is a non-empty whitespace-free word) -/
theorem tril_roundtrip (hl : Laws cd) (m : Mat L) (hnames : ∀ nm ∈ m.taxa, PH.Word nm.toList)
    (hsz : m.v.size = T2 m.taxa.length) (hn : m.taxa.length < 2 ^ 64) :
    fromPhylipTril cd (toPhylip cd m false) = .ok m := by
  have hgo := trilGo_rows cd hl m.taxa.length m.v m.taxa 0 [] [] hnames
  have hflat : (m.taxa.zipIdx 0).flatMap (fun p => rowValsS cd false m.taxa.length m.v p.2) = m.v.toList := by
    rw [List.flatMap_def, zipIdx_map_snd (rowValsS cd false m.taxa.length m.v), ← List.flatMap_def,
      ← List.range_eq_range', flat_rows, ← T2_eq_T, ← hsz, array_toList_getD]
  unfold fromPhylipTril
  rw [lines_toPhylip cd hl m false hnames]
  -- the parser's branches in turn: the size line parses, the row loop succeeds (`hgo`), the row count and the
  -- number of values (`hflat`, `hsz`) are the declared ones, and the collected values are `m.v`
  simp only [header_roundtrip _ hn, hgo, List.nil_append, hflat, ne_eq, not_true_eq_false, ↓reduceIte,
    Array.length_toList, hsz, Array.toArray_toList]

/-- the size line round-trips for every size a `usize` can hold -/
theorem size_line_roundtrip (n : Nat) (hn : n < 2 ^ 64) : parseUsize (toString n).toList = some n :=
  header_roundtrip n hn

/-! ## C14, strict parser (positional fill) — totality, round trip in both layouts, symmetry clause

`from_phylip_strict(text, square)` (model `PHY.fromPhylipStrict`) fills the matrix cell by cell BY POSITION
(`PHY.fillCell` over `PHY.cellsOf rows`); row labels play no role in the fill, so nothing below assumes
that the names are pairwise different. -/

open PHY MXS MX Tri

variable {L : Type} [Inhabited L] (cd : Codec L)

/-- **totality of the strict parser**: for every text and both layouts `from_phylip_strict` returns a matrix
    or an error, never a panic -/
theorem strict_total (text : Text) (square : Bool) : fromPhylipStrict cd text square ≠ .panic := by
  rcases header_cases cd text square with ⟨k, h⟩ | ⟨first, rest, size, hlines, hsize⟩
  · rw [h]; nofun
  · rcases strict_spec cd square hlines hsize with ⟨_, m, h, _⟩ | ⟨_, k, h⟩ <;> rw [h] <;> nofun

/-- **strict round trip, both layouts** (names may repeat) -/
theorem strict_roundtrip (hl : Laws2 cd) (m : Mat L) (square : Bool) (hnames : ∀ nm ∈ m.taxa, PH.Word nm.toList)
    (hsz : m.v.size = T2 m.taxa.length) (hn : m.taxa.length < 2 ^ 64)
    (hrefl : square = true → ∀ x ∈ m.v.toList, cd.numEq x x = true) :
    fromPhylipStrict cd (toPhylip cd m square) square = .ok m :=
  PHY.strict_roundtrip cd hl m square hnames hsz hn hrefl

/-- the triangular layout through the strict parser needs neither `zero() == zero()` nor reflexivity of the
    symmetry test (nothing is compared): NaN distances survive it -/
theorem strict_roundtrip_tril (hl : Laws cd) (m : Mat L) (hnames : ∀ nm ∈ m.taxa, PH.Word nm.toList)
    (hsz : m.v.size = T2 m.taxa.length) (hn : m.taxa.length < 2 ^ 64) :
    fromPhylipStrict cd (toPhylip cd m false) false = .ok m :=
  strict_roundtrip_gen cd hl m false (fun h => by cases h) hnames hsz hn (fun h => by cases h)

/-- **strictness, symmetry clause**: every accepted square text has `size` rows of `size` distances, a zero
    diagonal, every distance above the diagonal equal (symmetry test, upper entry first) to its mirror image,
    and the result stores exactly the parsed upper triangle -/
theorem strict_square_symmetric (text : Text) (m : Mat L) (h : fromPhylipStrict cd text true = .ok m) :
    ∃ (first : Text) (rest : List Text) (size : Nat),
      PH.lines text = first :: rest ∧ parseUsize first = some size ∧ rest.length = size ∧
      (∀ l ∈ rest, readRow cd l (size + 1) = .ok (parseLine cd size l)) ∧
      m.taxa = parsedNames cd size rest ∧ m.v.size = T2 size ∧
      (∀ i, i < size → ((parsedRows cd size rest).getD i []).length = size) ∧
      (∀ i, i < size → cd.isZero (entry (parsedRows cd size rest) i i) = true) ∧
      (∀ i j, i < j → j < size →
        cd.numEq (entry (parsedRows cd size rest) i j) (entry (parsedRows cd size rest) j i) = true) ∧
      (∀ i j, i < j → j < size → m.v.getD (cell i j) default = entry (parsedRows cd size rest) i j) := by
  obtain ⟨first, rest, size, hlines, hsize, ha, hr⟩ := strict_ok_stored cd text true m h
  exact ⟨first, rest, size, hlines, hsize, ha.count, ha.read, hr.taxa, (T2_eq_T size).symm ▸ hr.vsize, ha.shape,
    ha.diag rfl, fun i j hij hj => ha.symm rfl j i hij hj,
    fun i j hij hj => hr.cells i j (by omega) hj (by omega) (by omega)⟩

/-- every accepted triangular text: the result stores exactly the parsed rows -/
theorem strict_tril_stored (text : Text) (m : Mat L) (h : fromPhylipStrict cd text false = .ok m) :
    ∃ (first : Text) (rest : List Text) (size : Nat),
      PH.lines text = first :: rest ∧ parseUsize first = some size ∧ rest.length = size ∧
      (∀ l ∈ rest, readRow cd l (size + 1) = .ok (parseLine cd size l)) ∧
      m.taxa = parsedNames cd size rest ∧ m.v.size = T2 size ∧
      (∀ i, i < size → ((parsedRows cd size rest).getD i []).length = i) ∧
      (∀ i j, j < i → i < size → m.v.getD (cell i j) default = entry (parsedRows cd size rest) i j) := by
  obtain ⟨first, rest, size, hlines, hsize, ha, hr⟩ := strict_ok_stored cd text false m h
  exact ⟨first, rest, size, hlines, hsize, ha.count, ha.read, hr.taxa, (T2_eq_T size).symm ▸ hr.vsize, ha.shape,
    fun i j hji hi => hr.cells i j hi hji (by omega) (by simp)⟩

/-- **asymmetric input is rejected**: a square text in which some parsed distance above the diagonal differs
    (symmetry test) from its mirror image is answered with an error, whatever the names are -/
theorem strict_rejects_asymmetric (text first : Text) (rest : List Text) (size : Nat)
    (hlines : PH.lines text = first :: rest) (hsize : parseUsize first = some size)
    (i j : Nat) (hij : i < j) (hj : j < size)
    (hasym : cd.numEq (entry (parsedRows cd size rest) i j) (entry (parsedRows cd size rest) j i) = false) :
    ∃ k, fromPhylipStrict cd text true = .err k := by
  rcases strict_spec cd true hlines hsize with ⟨ha, _⟩ | ⟨_, h⟩
  · rw [ha.symm rfl j i hij hj] at hasym; cases hasym
  · exact h

/-- **acceptance criterion of the strict parser**: a text with a header declaring `size` is accepted exactly
    when it has `size` further lines, every line parses (a name and at most `size+1` distances), row `k` has
    `size` (square) resp. `k` (triangular) distances, and in the square layout the diagonal is zero and every
    distance above the diagonal equals its mirror image -/
theorem strict_accepts_iff (text first : Text) (rest : List Text) (size : Nat) (square : Bool)
    (hlines : PH.lines text = first :: rest) (hsize : parseUsize first = some size) :
    (∃ m, fromPhylipStrict cd text square = .ok m) ↔
      rest.length = size ∧
      (∀ l ∈ rest, ∃ p, readRow cd l (size + 1) = .ok p) ∧
      (∀ k, k < size → ((parsedRows cd size rest).getD k []).length = if square then size else k) ∧
      (square = true →
        (∀ k, k < size → cd.isZero (entry (parsedRows cd size rest) k k) = true) ∧
        (∀ i j, i < j → j < size →
          cd.numEq (entry (parsedRows cd size rest) i j) (entry (parsedRows cd size rest) j i) = true)) := by
  have key : (∃ m, fromPhylipStrict cd text square = .ok m) ↔ Accepts cd size square rest := by
    rcases strict_spec cd square hlines hsize with ⟨ha, m, h, _⟩ | ⟨hn, k, h⟩
    · exact ⟨fun _ => ha, fun _ => ⟨m, h⟩⟩
    · exact ⟨fun ⟨m, h'⟩ => (nomatch h.symm.trans h'), fun ha => absurd ha hn⟩
  rw [key]
  constructor
  · rintro ⟨h1, h2, h3, h4, h5⟩
    exact ⟨h1, fun l hl => ⟨_, h2 l hl⟩, h3, fun hs => ⟨h4 hs, fun i j hij hj => h5 hs j i hij hj⟩⟩
  · rintro ⟨h1, h2, h3, h4⟩
    refine ⟨h1, fun l hl => ?_, h3, fun hs => (h4 hs).1, fun hs a b hba ha => (h4 hs).2 b a hba ha⟩
    obtain ⟨p, hp⟩ := h2 l hl
    rw [hp, parseLine_of_ok cd hp]

/-! ### non-vacuity and sharpness of the hypotheses, on a two-valued entry type -/

def bc : Codec Bool := { showL := fun b => if b then ['1'] else ['0'], parseL := fun t => if t = ['1'] then some true else if t = ['0'] then some false else none, numEq := fun a b => a == b, isZero := fun b => !b, zero := false }

theorem bc_laws : Laws bc := by
  constructor
  · intro x; cases x <;> simp [bc]
  · intro x; cases x <;> exact ⟨by simp [bc], by intro c hc; simp [bc] at hc; subst hc; decide⟩

/-- non-vacuity: a two-valued entry type whose codec satisfies both laws -/
example : Laws ({ showL := fun b => if b then ['1'] else ['0'],
                  parseL := fun t => if t = ['1'] then some true else if t = ['0'] then some false else none,
                  numEq := fun a b => a == b, isZero := fun b => !b, zero := false } : Codec Bool) := bc_laws

theorem bc_laws2 : Laws2 bc := ⟨bc_laws, rfl⟩

def m3 : Mat Bool := { taxa := ["a", "b", "c"], v := #[true, false, true] }
def mdup : Mat Bool := { taxa := ["a", "b", "a"], v := #[true, false, true] }

/-- what a result looks like (for `decide`) -/
def view (r : PRes (Mat Bool)) : Option (List String × List Bool) ⊕ String :=
  match r with
  | .ok m => .inl (some (m.taxa, m.v.toList))
  | .err k => .inr k
  | .panic => .inl none

/-- the hypotheses of `strict_roundtrip` hold for a three-taxon matrix with non-zero entries, and for one with
    a repeated label -/
example : Laws2 bc ∧ (∀ nm ∈ m3.taxa, PH.Word nm.toList) ∧ m3.v.size = T2 m3.taxa.length ∧
    m3.taxa.length < 2 ^ 64 ∧ (∀ x ∈ m3.v.toList, bc.numEq x x = true) ∧
    (∀ nm ∈ mdup.taxa, PH.Word nm.toList) ∧ mdup.v.size = T2 mdup.taxa.length := by
  refine ⟨bc_laws2, ?_, by decide, by decide, ?_, ?_, by decide⟩
  · intro nm h
    simp only [m3, List.mem_cons, List.not_mem_nil, or_false] at h
    rcases h with rfl | rfl | rfl <;> exact ⟨by decide, by decide⟩
  · intro x _; cases x <;> rfl
  · intro nm h
    simp only [mdup, List.mem_cons, List.not_mem_nil, or_false] at h
    rcases h with rfl | rfl | rfl <;> exact ⟨by decide, by decide⟩

/-- ... and the model computes the conclusion on them (both layouts): repeated labels round-trip -/
example : view (fromPhylipStrict bc (toPhylip bc m3 true) true) = .inl (some (m3.taxa, m3.v.toList)) ∧
    view (fromPhylipStrict bc (toPhylip bc m3 false) false) = .inl (some (m3.taxa, m3.v.toList)) ∧
    view (fromPhylipStrict bc (toPhylip bc mdup true) true) = .inl (some (mdup.taxa, mdup.v.toList)) ∧
    view (fromPhylipStrict bc (toPhylip bc mdup false) false) = .inl (some (mdup.taxa, mdup.v.toList)) := by
  decide +kernel

/-- the two-taxon matrix with twice the same label, which a fill by name could not read back -/
def maa : Mat Bool := { taxa := ["a", "a"], v := #[true] }
example : view (fromPhylipStrict bc (toPhylip bc maa true) true) = .inl (some (["a", "a"], [true])) ∧
    view (fromPhylipStrict bc (toPhylip bc maa false) false) = .inl (some (["a", "a"], [true])) := by decide +kernel

/-- an accepted square text (hypothesis of `strict_square_symmetric`) -/
example : ∃ m, fromPhylipStrict bc "3\na 0 1 0\nb 1 0 1\nc 0 1 0\n".toList true = .ok m := by
  have hv : view (fromPhylipStrict bc "3\na 0 1 0\nb 1 0 1\nc 0 1 0\n".toList true)
      = .inl (some (["a", "b", "c"], [true, false, true])) := by
    conv in (occs := *) String.toList _ => all_goals rw [String.toList_ofList]
    decide +kernel
  cases hr : fromPhylipStrict bc "3\na 0 1 0\nb 1 0 1\nc 0 1 0\n".toList true with
  | ok m => exact ⟨m, rfl⟩
  | err k => rw [hr] at hv; simp [view] at hv
  | panic => rw [hr] at hv; simp [view] at hv

/-- the hypotheses of `strict_rejects_asymmetric` are satisfiable: `d(a,b) = 1` but `d(b,a) = 0` -/
example : PH.lines "2\na 0 1\nb 0 0\n".toList = "2".toList :: ["a 0 1".toList, "b 0 0".toList] ∧
    parseUsize "2".toList = some 2 ∧
    bc.numEq (entry (parsedRows bc 2 ["a 0 1".toList, "b 0 0".toList]) 0 1)
      (entry (parsedRows bc 2 ["a 0 1".toList, "b 0 0".toList]) 1 0) = false := by
  conv in (occs := *) String.toList _ => all_goals rw [String.toList_ofList]
  decide +kernel

example : view (fromPhylipStrict bc "2\na 0 1\nb 0 0\n".toList true) = .inr "NonSymmetric" := by
  conv in (occs := *) String.toList _ => all_goals rw [String.toList_ofList]
  decide +kernel

/-- the asymmetric text with the labels `a b a` that a fill by name would accept (entry (1,2) is 1, entry
    (2,1) is 0) is rejected; its symmetric variant is accepted -/
example : view (fromPhylipStrict bc "3\na 0 1 0\nb 1 0 1\na 0 0 0\n".toList true) = .inr "NonSymmetric" ∧
    view (fromPhylipStrict bc "3\na 0 1 0\nb 1 0 1\na 0 1 0\n".toList true)
      = .inl (some (["a", "b", "a"], [true, false, true])) := by
  conv in (occs := *) String.toList _ => all_goals rw [String.toList_ofList]
  decide +kernel

/-- direction of the symmetry test: the stored entry above the diagonal is the FIRST argument.  With the test
    `numEq a b := a || !b`, upper 1 / lower 0 is accepted and upper 0 / lower 1 is rejected -/
def bd : Codec Bool := { bc with numEq := fun a b => a || !b }
example : view (fromPhylipStrict bd "2\na 0 1\nb 0 0\n".toList true) = .inl (some (["a", "b"], [true])) ∧
    view (fromPhylipStrict bd "2\na 0 0\nb 1 0\n".toList true) = .inr "NonSymmetric" := by
  conv in (occs := *) String.toList _ => all_goals rw [String.toList_ofList]
  decide +kernel

/-- necessity of "every value equals itself" for the square layout: with a symmetry test that fails on equal
    values (NaN) the square round trip is rejected, the triangular one is not -/
def bn : Codec Bool := { bc with numEq := fun _ _ => false }
example : view (fromPhylipStrict bn (toPhylip bn m3 true) true) = .inr "NonSymmetric" ∧
    view (fromPhylipStrict bn (toPhylip bn m3 false) false) = .inl (some (m3.taxa, m3.v.toList)) := by decide +kernel

end C14
