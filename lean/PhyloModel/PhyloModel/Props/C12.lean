import PhyloModel.Arena.Traverse
import PhyloModel.Arena.PruneB
import PhyloModel.Misc.Sackin
import PhyloModel.Arena.QRLemmas
/-! # C12 — shape statistics equal their textbook definitions

The executable statistics (`AR.nLeaves`, `isRooted`, `isBinary`, `totalLength`, `treeHeight`, `diameter`,
`cherries`, `colless`, `sackin`) mirror the Rust code line by line and are compared with the crate and with
an independent recomputation from the topology on every run.  The theorems below settle the parts of the
property that are not definitional: the cached-depth Sackin computation equals the textbook sum over internal
nodes, the code's two-branch root test for binarity collapses to "root arity at most three", the maximum used
by height/diameter is a maximum, refusals on unrooted / non-binary trees.  The statistics against the abstract
tree are in `Props/C12Stats.lean`; the Yule/PDA normalisations (`f64` closed forms in the crate) are treated in
`Props/C12Norm.lean` through the exact rationals they approximate. -/
namespace C12
open AR

def shape : RTI → SK.T
  | .node _ ks => .node (shapeL ks)
where shapeL : List RTI → List SK.T
  | [] => []
  | k :: ks => shape k :: shapeL ks

mutual
/-- sum of the CACHED depths of the tips below a node (what `Tree::sackin` adds up) -/
def tipDepthSum (a : Arena) : RTI → Nat
  | .node i [] => (nd a i).depth
  | .node _ (k :: ks) => tipDepthSumL a (k :: ks)
def tipDepthSumL (a : Arena) : List RTI → Nat
  | [] => 0
  | k :: ks => tipDepthSum a k + tipDepthSumL a ks
end

mutual
theorem tipDepthSum_eq (a : Arena) (hinv : Inv a) : ∀ (t : RTI) (i : Nat), Rep a i t →
    tipDepthSum a t = SK.depthSum (nd a i).depth (shape t)
  | .node j [], i, h => by
    simp only [Rep] at h
    obtain ⟨rfl, _, _⟩ := h
    simp [tipDepthSum, shape, shape.shapeL, SK.depthSum]
  | .node j (k :: ks), i, h => by
    simp only [Rep] at h
    obtain ⟨rfl, hl, hk⟩ := h
    rw [tipDepthSum, shape, shape.shapeL, SK.depthSum]
    have := tipDepthSumL_eq a hinv (k :: ks) i (nd a i).children hl hk (fun c hc => hc)
    rw [this, shape.shapeL]
theorem tipDepthSumL_eq (a : Arena) (hinv : Inv a) : ∀ (ts : List RTI) (i : Nat) (cs : List Nat), live a i →
    RepL a cs ts → (∀ c ∈ cs, c ∈ (nd a i).children) →
    tipDepthSumL a ts = SK.depthSumL ((nd a i).depth + 1) (shape.shapeL ts)
  | [], i, cs, _, _, _ => by simp [tipDepthSumL, shape.shapeL, SK.depthSumL]
  | t :: ts, i, cs, hl, h, hsub => by
    obtain ⟨c, cs, rfl, h⟩ := h.cons_inv
    have hc : c ∈ (nd a i).children := hsub c (by simp)
    have hd := (hinv.child_ok i c hl hc).2.2.1
    rw [tipDepthSumL, shape.shapeL, SK.depthSumL, tipDepthSum_eq a hinv t c h.1, hd,
      tipDepthSumL_eq a hinv ts i cs hl h.2 (fun d hd' => hsub d (by simp [hd']))]
end

/-- **Sackin, two definitions**: for the tree below a root (cached depth 0) the sum of cached tip depths
    equals the sum over internal nodes of the number of leaves below them -/
theorem sackin_is_textbook (a : Arena) (hinv : Inv a) (t : RTI) (r : Nat) (h : Rep a r t)
    (hroot : (nd a r).parent = none) : tipDepthSum a t = SK.sackin (shape t) := by
  have hl : live a r := by cases t with | node j ks => simp only [Rep] at h; exact h.2.1
  rw [tipDepthSum_eq a hinv t r h, hinv.root_depth r hl hroot, SK.sackin_two_definitions]

/-- the root clause of `is_binary` (`rooted ∧ n > 2` or `¬rooted ∧ n > 3` is refused, where rooted means
    `n = 2`) accepts exactly root arities up to three -/
theorem root_binarity_test (n : Nat) :
    (!(((n == 2) && decide (n > 2)) || (!(n == 2) && decide (n > 3)))) = decide (n ≤ 3) := by
  by_cases h2 : n = 2
  · subst h2; decide
  · by_cases h3 : n ≤ 3
    · have : ¬ n > 3 := by omega
      simp [h2, h3, this]
    · have : n > 3 := by omega
      simp [h2, h3, this]

theorem maxOf_spec (l : List Int) (m : Int) (h : maxOf l = some m) : m ∈ l ∧ ∀ x ∈ l, x ≤ m :=
  List.max?_eq_some_iff.1 (maxOf_eq l ▸ h)

/-- `treeHeight` and `diameter` report `maxOf` of the list of leaf (pair) distances; this is `maxOf_spec` for such a
    list (`a` and `unit` are not used) -/
theorem height_is_max (a : Arena) (unit : Int) (m : Int) (ds : List Int) (h : maxOf ds = some m) :
    m ∈ ds ∧ ∀ x ∈ ds, x ≤ m := maxOf_spec ds m h

/-- the balance indices are refused on unrooted trees -/
theorem refused_on_unrooted (a : Arena) (h : isRooted a = .ok false) :
    colless a = .err "IsNotRooted" ∧ sackin a = .err "IsNotRooted" ∧ (∃ u, treeHeight a u = .err "IsNotRooted") := by
  have hc : checkRootedBinary a = .err "IsNotRooted" := by rw [checkRootedBinary, h]; rfl
  exact ⟨by rw [colless, hc]; rfl, by rw [sackin, hc]; rfl, 0, by rw [treeHeight, h]; rfl⟩

/-- ... and on rooted non-binary trees -/
theorem refused_on_nonbinary (a : Arena) (h : isRooted a = .ok true) (hb : isBinary a = .ok false) :
    colless a = .err "IsNotBinary" ∧ sackin a = .err "IsNotBinary" ∧ cherries a = .err "IsNotBinary" := by
  have hc : checkRootedBinary a = .err "IsNotBinary" := by rw [checkRootedBinary, h, hb]; rfl
  exact ⟨by rw [colless, hc]; rfl, by rw [sackin, hc]; rfl, by rw [cherries, hb]; rfl⟩

/-- `|L − R|` is symmetric (the Colless term) -/
theorem absDiff_symm (x y : Nat) : absDiff x y = absDiff y x := by
  unfold absDiff
  rcases Nat.lt_trichotomy x y with h | rfl | h
  · rw [if_pos (Nat.le_of_lt h), if_neg (Nat.not_le.2 h)]
  · rfl
  · rw [if_neg (Nat.not_le.2 h), if_pos (Nat.le_of_lt h)]

/-- non-vacuity: the caterpillar on four leaves has Sackin index 9 by both definitions -/
example : SK.sackin (.node [.node [], .node [.node [], .node [.node [], .node []]]]) = 9 ∧
    SK.depthSum 0 (.node [.node [], .node [.node [], .node [.node [], .node []]]]) = 9 := by decide

end C12
