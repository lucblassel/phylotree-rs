import PhyloModel.Props.C05Inv
import PhyloModel.Split.ArenaReorder
import PhyloModel.Split.ArenaRescale
import PhyloModel.Split.ArenaCompress
import PhyloModel.Split.ArenaRename
/-! # C05 (continued) — the invariances on the executable ARENA operations

The invariance theorems of `Props/C05Inv.lean` are about rose trees; these bridge them to the arena operations the
driver runs: `ladderize` only reorders children, `compress` only removes one-child nodes (and re-appends the spliced child),
`rescale` scales the abstract tree — so the reported bipartitions of the arena's tree are unchanged by each of them.
The bridge for a consistent renaming of the slots is `SPM.absRoot_nameMapped` / `SPM.rf_nameMapped`
(`Split/ArenaRename.lean`). -/
namespace C05
open AR SPM

/-- `ladderize` keeps the leaf index and the reported bipartitions (and RF / weighted RF / KF² to the tree before are 0) -/
theorem ladderize_keeps_bipartitions (a : Arena) (t : Rose) (ht : absRoot a = .ok t) :
    ∃ t', absRoot (ladderize a).1 = .ok t' ∧ leafIndex t' = leafIndex t ∧
      (∀ ps, partitions t = .ok ps → ∃ ps', partitions t' = .ok ps' ∧ PartEq ps ps' ∧
        rf t t' = .ok 0 ∧ (∀ ms, withLengths ps = .ok ms → wrf t t' = .ok 0 ∧ kf2 t t' = .ok 0)) := by
  obtain ⟨t', h1, h2⟩ := ladderize_reorder a t ht
  refine ⟨t', h1, leafIndex_reorder h2, ?_⟩
  intro ps hps
  obtain ⟨ps', h3, h4⟩ := partitions_reorder h2 ps hps
  refine ⟨ps', h3, h4, (rf_reorder_zero h2 ps hps).1, ?_⟩
  intro ms hms
  have := weighted_reorder_zero h2 ps ms hps hms
  exact ⟨this.1, this.2.1⟩

/-- `compress`, whatever its outcome, keeps the leaf index and the reported bipartitions -/
theorem compress_keeps_bipartitions {a : Arena} (g : Good a) (t : Rose) (ht : absRoot a = .ok t) :
    ∃ t', absRoot (compress a).1 = .ok t' ∧ leafIndex t' = leafIndex t ∧
      (∀ ps, partitions t = .ok ps → ∃ ps', partitions t' = .ok ps' ∧ (∀ x, x ∈ sides ps ↔ x ∈ sides ps') ∧
        rf t t' = .ok 0) := by
  obtain ⟨t', h1, h2⟩ := compress_shape g t ht
  have hr := sameUnrooted_report h2.sameUnrooted
  refine ⟨t', h1, hr.1, ?_⟩
  intro ps hps
  obtain ⟨ps', h3, h4⟩ := hr.2 ps hps
  exact ⟨ps', h3, h4, hr.rf_zero ps hps⟩

/-- `rescale k` scales the abstract tree (so RF is unchanged and the weighted distances scale, `C07.rescaling_executable`) -/
theorem rescale_scales_the_tree (a : Arena) (k : Int) (t : Rose) (ht : absRoot a = .ok t) :
    absRoot (rescale a k) = .ok (scaleR k t) :=
  SPM.absRoot_rescale a k t ht

end C05
