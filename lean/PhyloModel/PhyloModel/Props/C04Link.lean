import PhyloModel.Props.C04
import PhyloModel.Link.ParsedArena
import PhyloModel.Link.WrittenText
import PhyloModel.Link.IntCodec
import PhyloModel.Link.Labels
import PhyloModel.Link.FinishPass
import PhyloModel.Link.Example
/-! # C04, composed over the writer and the parser

"After any edit history … every read-only query returns the same answer as on a tree FRESHLY PARSED FROM THE
CURRENT NEWICK TEXT."  `Props/C04.lean` states this against a stand-in (`freshArena'`, built by `add` /
`add_child`).  Here the stand-in is replaced by the real thing: the text is what the modelled
`Tree::to_newick` (`NW.toNewickF`) prints for the actual arena (seen through `LK.toNW`), the fresh tree is what
the modelled `Tree::from_newick` (`NW.parse`) returns for that text (seen as a library arena through
`LK.toAR`, which mirrors the parser's finishing pass).

Branch lengths are `Int` (the arena model's lengths) with an arbitrary codec `(parseLen, showLen)` satisfying
the three laws of `NW.Codec` (`LK.codecD`: decimal digits with a leading `-`, is one).  The label-domain
hypothesis `NW.WFT (toRTc a ta)` is exactly C01's domain: names non-empty and metacharacter-free or quoted,
comments non-empty and `]`-free.  It is given in three forms: on the abstract tree
(`same_answers_as_freshly_parsed`), slot by slot (`…_slots`), and — since no operation invents a label — as a
condition on the names the edit history supplies (`history_…_names`, `parsed_edited_…_names`); for a parsed and
unedited tree it holds unconditionally (`parsed_same_answers_as_reparsed`).  `lkBad` shows it cannot be dropped.
`same_answers_as_freshly_parsed_pass` is the main theorem with the parser's finishing pass run literally. -/
namespace C04
open AR SPM DMF LK

/-- the conjunction of id-free answers compared by C04 (the same list as in `C04_history_vs_fresh`) -/
def SameAnswers (a b : Arena) (ta tb : Rose) : Prop :=
    -- shape statistics
    nLeaves a = nLeaves b ∧ isRooted a = isRooted b ∧ isBinary a = isBinary b ∧
    totalLength a = totalLength b ∧ cherries a = cherries b ∧ colless a = colless b ∧ sackin a = sackin b ∧
    (∀ u, treeHeight a u = treeHeight b u) ∧ (∀ u, diameter a u = diameter b u) ∧
    -- leaf names and name searches
    ((leaves a).map (fun i => (nd a i).name)).Perm ((leaves b).map (fun i => (nd b i).name)) ∧
    (∀ n, (searchName a n).length = (searchName b n).length) ∧
    -- traversals and listings from the root, read as names
    qnames a (subtree a ta.id) = qnames b (subtree b tb.id) ∧
    qnames a (postorder a ta.id) = qnames b (postorder b tb.id) ∧
    qnames a (inorder a ta.id) = qnames b (inorder b tb.id) ∧
    qnames a (levelorderQ a ta.id) = qnames b (levelorderQ b tb.id) ∧
    qnames a (subtreeLeaves a ta.id) = qnames b (subtreeLeaves b tb.id) ∧
    qnames a (descendants a ta.id) = qnames b (descendants b tb.id) ∧
    -- bipartitions
    partitionsArena a = partitionsArena b ∧
    -- distance matrices
    dmRecursive a = dmRecursive b ∧ (∀ u, dmRose a u = dmRose b u) ∧
    -- node-to-node distances, nodes addressed by pre-order position
    (∀ (i j xa ya xb yb : Nat), (idsR ta)[i]? = some xa → (idsR ta)[j]? = some ya → (idsR tb)[i]? = some xb →
      (idsR tb)[j]? = some yb → distance a xa ya = distance b xb yb)

/-- two well-formed one-rooted arenas holding the same tree give the same answers (all refinement results of
    the C04 package, collected) -/
theorem sameAnswers_of_erase {a b : Arena} (ga : Good a) (gb : Good b) (ha : AtMostOneRoot a)
    (hb : AtMostOneRoot b) {ta tb : Rose} (hta : absRoot a = .ok ta) (htb : absRoot b = .ok tb)
    (he : erase ta = erase tb) : SameAnswers a b ta tb := by
  obtain ⟨s1, s2, s3, s4, s5, s6, s7, s8, s9, s10, s11⟩ := answers_depend_only_on_tree ga gb ha hb hta htb he
  obtain ⟨_, _, t1, t2, t3, t4, t5, t6⟩ := traversals_depend_only_on_tree ga gb ha hb hta htb he
  exact ⟨s1, s2, s3, s4, s5, s6, s7, s8, s9, s10, s11, t1, t2, t3, t4, t5, t6,
    (partitions_depend_only_on_tree ga gb ha hb hta htb he).2.2,
    dmRecursive_depends_only_on_tree ga gb ha hb hta htb he,
    fun u => dmRose_depends_only_on_tree ga gb ha hb hta htb he u,
    fun i j xa ya xb yb k1 k2 k3 k4 => distances_depend_only_on_tree ga gb ha hb hta htb he i j xa ya xb yb k1 k2 k3 k4⟩

variable {parseLen : NW.Label → Option Int} {showLen : Int → NW.Label}

/-- **C04 over the modelled writer and parser.**  Let `a` be a well-formed arena with at most one root (any
    slot layout, any number of removed slots) whose abstract tree `ta` has labels in C01's domain.  Then

    * the modelled `Tree::to_newick` prints a text `txt` for `a` (root = the slot `get_root` returns; the fuel
      the driver supplies or any larger one),
    * the modelled `Tree::from_newick` accepts `txt;` and returns an arena `a'`,
    * `b := toAR a'` (the returned arena as a library arena) is well formed, has one root, no removed slot, its
      abstract tree `tb` is `ta` up to ids and cached depths, and
    * every id-free read-only query answers on `a` exactly as on `b`. -/
theorem same_answers_as_freshly_parsed (hc : NW.Codec parseLen showLen) {a : Arena} (ga : Good a)
    (ha : AtMostOneRoot a) {ta : Rose} (hta : absRoot a = .ok ta) (hwf : NW.WFT (toRTc a ta)) :
    ∃ r txt a', getRoot a = some r ∧
      (∀ fuel, a.size ≤ fuel → NW.toNewickF showLen fuel .allFields (toNW a) r = some txt) ∧
      NW.parse parseLen (txt ++ [';']) = .done a' ∧
      Good (toAR a') ∧ AtMostOneRoot (toAR a') ∧ (∀ i, i < (toAR a').size → live (toAR a') i) ∧
      ∃ tb, absRoot (toAR a') = .ok tb ∧ erase tb = erase ta ∧ SameAnswers a (toAR a') ta tb := by
  obtain ⟨r, hr, _, hw⟩ := written_text (showLen := showLen) ga ha hta
  obtain ⟨a', hp, hs, hrep⟩ := reparsed_rep hc hwf
  obtain ⟨gb, hb, tb, htb, he⟩ := parsed_good_represents hs hrep
  rw [eraseRT_toRTc] at he
  exact ⟨r, NW.write showLen (toRTc a ta), a', hr, hw, hp, gb, hb,
    fun i hi => (live_toAR a' i).2 (by simpa using hi), tb, htb, he,
    sameAnswers_of_erase ga gb ha hb hta htb he.symm⟩

/-- **C04 for edit histories**: the arena reached by any admissible edit history (started from the empty
    arena; `add` only on a rootless arena) answers every id-free query like the tree freshly parsed from its
    current Newick text -/
theorem history_same_answers_as_freshly_parsed (hc : NW.Codec parseLen showLen) (ops : List Op)
    (hadm : AdmissibleRun #[] ops) {ta : Rose} (hta : absRoot (runOps #[] ops) = .ok ta)
    (hwf : NW.WFT (toRTc (runOps #[] ops) ta)) :
    let a := runOps #[] ops
    ∃ r txt a', getRoot a = some r ∧
      (∀ fuel, a.size ≤ fuel → NW.toNewickF showLen fuel .allFields (toNW a) r = some txt) ∧
      NW.parse parseLen (txt ++ [';']) = .done a' ∧
      Good (toAR a') ∧ AtMostOneRoot (toAR a') ∧ (∀ i, i < (toAR a').size → live (toAR a') i) ∧
      ∃ tb, absRoot (toAR a') = .ok tb ∧ erase tb = erase ta ∧ SameAnswers a (toAR a') ta tb := by
  intro a
  obtain ⟨ga, ha⟩ := runOps_empty hadm
  exact same_answers_as_freshly_parsed hc ga ha hta hwf

/-- the same with the label domain stated slot by slot: every live slot of `a` carries a name / comment in
    C01's domain (removed slots are not constrained) -/
theorem same_answers_as_freshly_parsed_slots (hc : NW.Codec parseLen showLen) {a : Arena} (ga : Good a)
    (ha : AtMostOneRoot a) {ta : Rose} (hta : absRoot a = .ok ta) (hlab : SlotLabelsOK a) :
    ∃ r txt a', getRoot a = some r ∧
      (∀ fuel, a.size ≤ fuel → NW.toNewickF showLen fuel .allFields (toNW a) r = some txt) ∧
      NW.parse parseLen (txt ++ [';']) = .done a' ∧
      Good (toAR a') ∧ AtMostOneRoot (toAR a') ∧ (∀ i, i < (toAR a').size → live (toAR a') i) ∧
      ∃ tb, absRoot (toAR a') = .ok tb ∧ erase tb = erase ta ∧ SameAnswers a (toAR a') ta tb :=
  same_answers_as_freshly_parsed hc ga ha hta (wft_of_slots ga ha hta hlab)

/-- a name in C01's domain: absent, or non-empty and metacharacter-free outside double-quoted sections -/
def NameInDomain (n : Option String) : Prop := NW.nameWF (n.map String.toList)
/-- a comment in C01's domain: absent, or non-empty and without `]` -/
def CommentInDomain (c : Option String) : Prop := NW.commentWF (c.map String.toList)

theorem slotLabelsOK_of_pay {a : Arena} (h : Pay NameInDomain CommentInDomain a) : SlotLabelsOK a :=
  fun i _ => h i

/-- every slot of a parsed arena carries labels in the domain (whatever the text was) -/
theorem parsed_pay (cs : List Char) (p : PArena) (h : NW.parse parseLen cs = .done p) :
    Pay NameInDomain CommentInDomain (toAR p) := by
  intro i
  by_cases hi : i < p.size
  · have := C02.labels_ok_all parseLen cs p h i
    rw [nd_toAR_lt p i hi]
    simp only [NameInDomain, CommentInDomain, toARNode, map_toList_ofList]
    exact this
  · rw [nd_toAR_ge p i (by omega)]
    simp [NameInDomain, CommentInDomain, dead, NW.nameWF, NW.commentWF]

/-- every label the parser stores lies in the domain, so a parsed arena satisfies the slot-level domain
    hypothesis whatever the text was -/
theorem parsed_slotLabelsOK (cs : List Char) (p : PArena) (h : NW.parse parseLen cs = .done p) :
    SlotLabelsOK (toAR p) :=
  slotLabelsOK_of_pay (parsed_pay cs p h)

/-- **parse, edit, query**: the tree library's usual life cycle.  Parse ANY accepted text, apply any
    admissible edit history to the returned tree; provided the labels of the resulting tree are in C01's
    domain (true e.g. when no edit introduced a new name), every id-free query answers like the tree freshly
    parsed from the text the writer prints for the edited arena -/
theorem parsed_edited_same_answers_as_freshly_parsed (hc : NW.Codec parseLen showLen) (cs : List Char)
    (p : PArena) (hp : NW.parse parseLen cs = .done p) (ops : List Op) (hadm : AdmissibleRun (toAR p) ops)
    {ta : Rose} (hta : absRoot (runOps (toAR p) ops) = .ok ta) (hwf : NW.WFT (toRTc (runOps (toAR p) ops) ta)) :
    let a := runOps (toAR p) ops
    ∃ r txt a', getRoot a = some r ∧
      (∀ fuel, a.size ≤ fuel → NW.toNewickF showLen fuel .allFields (toNW a) r = some txt) ∧
      NW.parse parseLen (txt ++ [';']) = .done a' ∧
      Good (toAR a') ∧ AtMostOneRoot (toAR a') ∧ (∀ i, i < (toAR a').size → live (toAR a') i) ∧
      ∃ tb, absRoot (toAR a') = .ok tb ∧ erase tb = erase ta ∧ SameAnswers a (toAR a') ta tb := by
  intro a
  obtain ⟨g0, r0, _⟩ := parse_good parseLen cs p hp
  obtain ⟨ga, ha⟩ := runOps_oneRoot ops g0 r0 hadm
  exact same_answers_as_freshly_parsed hc ga ha hta hwf

/-- **re-parsing the written form of a parsed tree** needs no domain hypothesis at all: for ANY accepted text,
    the returned tree answers every id-free query like the tree parsed from its own written form -/
theorem parsed_same_answers_as_reparsed (hc : NW.Codec parseLen showLen) (cs : List Char)
    (p : PArena) (hp : NW.parse parseLen cs = .done p) :
    ∃ ta txt a', absRoot (toAR p) = .ok ta ∧
      (∀ fuel, p.size ≤ fuel → NW.toNewickF showLen fuel .allFields (toNW (toAR p)) 0 = some txt) ∧
      NW.parse parseLen (txt ++ [';']) = .done a' ∧
      Good (toAR a') ∧ AtMostOneRoot (toAR a') ∧
      ∃ tb, absRoot (toAR a') = .ok tb ∧ erase tb = erase ta ∧ SameAnswers (toAR p) (toAR a') ta tb := by
  obtain ⟨g0, r0, hroot, _, ta, hta⟩ := parse_good parseLen cs p hp
  obtain ⟨r, txt, a', hr, hw, hp', gb, hb, _, tb, htb, he, hs⟩ :=
    same_answers_as_freshly_parsed_slots hc g0 r0 hta (parsed_slotLabelsOK cs p hp)
  rw [hroot] at hr
  cases hr
  exact ⟨ta, txt, a', hta, fun fuel hf => hw fuel (by simpa using hf), hp', gb, hb, tb, htb, he, hs⟩

/-- **the printed text is a normal form**: writing the freshly parsed tree again (any sufficient fuel) reproduces
    the text it was parsed from — the text `txt` of `same_answers_as_freshly_parsed` is a fixed point of
    parse-then-write, and the writer's view of the parsed library arena is the parser's arena itself -/
theorem reparsed_writes_same_text (hc : NW.Codec parseLen showLen) {a : Arena} (ga : Good a)
    (ha : AtMostOneRoot a) {ta : Rose} (hta : absRoot a = .ok ta) (hwf : NW.WFT (toRTc a ta)) :
    ∃ r txt a', getRoot a = some r ∧
      NW.toNewickF showLen (a.size + 1) .allFields (toNW a) r = some txt ∧
      NW.parse parseLen (txt ++ [';']) = .done a' ∧ getRoot (toAR a') = some 0 ∧
      NW.toNewickF showLen ((toAR a').size + 1) .allFields (toNW (toAR a')) 0 = some txt := by
  obtain ⟨r, hr, _, hrep, hht⟩ := written_rep ga ha hta
  obtain ⟨txt, a', h1, h2, _, h4⟩ := C01.roundtrip_arena hc (toNW a) r _ hrep hwf (a.size + 1) (by omega)
  obtain ⟨_, _, hroot, _⟩ := parse_good parseLen _ a' h2
  exact ⟨r, txt, a', hr, h1, h2, hroot, by rw [toNW_toAR, size_toAR]; exact h4⟩

/-- **`get_by_name`** (which does not skip removed slots) finds a node on `a` iff it does on the freshly parsed
    tree, provided the removed slots of `a` carry no name (`BlankNames`, preserved by every history that
    renames live nodes only: `AR.runOps_blank`) -/
theorem getByName_as_freshly_parsed_partial (hc : NW.Codec parseLen showLen) {a : Arena} (ga : Good a)
    (ha : AtMostOneRoot a) (na : BlankNames a) {ta : Rose} (hta : absRoot a = .ok ta)
    (hwf : NW.WFT (toRTc a ta)) :
    ∃ a', NW.parse parseLen (NW.write showLen (toRTc a ta) ++ [';']) = .done a' ∧
      ∀ s, getByName a s = none ↔ getByName (toAR a') s = none := by
  obtain ⟨a', hp, hs, hrep⟩ := reparsed_rep hc hwf
  obtain ⟨gb, hb, tb, htb, he⟩ := parsed_good_represents hs hrep
  rw [eraseRT_toRTc] at he
  exact ⟨a', hp, fun s => getByName_depends_only_on_tree_partial ga gb ha hb na (toAR_blank a') hta htb he.symm s⟩

/-- the same with the freshly parsed arena computed by the LITERAL finishing pass of `from_newick`
    (`LK.finishPass`: start without child edges, copy every present `parent_edge` into the parent's map with the
    library's `set_child_edge`, ids in increasing order) instead of the closed form `toAR` -/
theorem same_answers_as_freshly_parsed_pass (hc : NW.Codec parseLen showLen) {a : Arena} (ga : Good a)
    (ha : AtMostOneRoot a) {ta : Rose} (hta : absRoot a = .ok ta) (hwf : NW.WFT (toRTc a ta)) :
    ∃ r txt a', getRoot a = some r ∧
      (∀ fuel, a.size ≤ fuel → NW.toNewickF showLen fuel .allFields (toNW a) r = some txt) ∧
      NW.parse parseLen (txt ++ [';']) = .done a' ∧
      Good (finishPass a') ∧ AtMostOneRoot (finishPass a') ∧
      ∃ tb, absRoot (finishPass a') = .ok tb ∧ erase tb = erase ta ∧ SameAnswers a (finishPass a') ta tb := by
  obtain ⟨r, hr, _, hw⟩ := written_text (showLen := showLen) ga ha hta
  obtain ⟨a', hp, hs, hrep⟩ := reparsed_rep hc hwf
  obtain ⟨gb, hb, tb, htb, he⟩ := finishPass_good_represents hs hrep
  rw [eraseRT_toRTc] at he
  exact ⟨r, NW.write showLen (toRTc a ta), a', hr, hw, hp, gb, hb, tb, htb, he,
    sameAnswers_of_erase ga gb ha hb hta htb he.symm⟩

/-! ### the label domain as a condition on the history

No operation of the model invents a label (`AR.runOps_pay`): the labels in the arena after a history are labels
of the start arena or names the history supplied.  So the semantic domain hypothesis `NW.WFT (toRTc a ta)` can
be replaced by a syntactic one: every name an operation of the history supplies is in C01's domain. -/

/-- **C04 for edit histories, domain stated on the history**: for ANY admissible edit history (from the empty
    arena) whose supplied names (`add`, `add_child`, `set_name`, `merge_children`) are in C01's domain, the
    reached arena answers every id-free query like the tree freshly parsed from its current Newick text -/
theorem history_same_answers_as_freshly_parsed_names (hc : NW.Codec parseLen showLen) (ops : List Op)
    (hadm : AdmissibleRun #[] ops) (hnames : ∀ op ∈ ops, NameInDomain op.givenName) {ta : Rose}
    (hta : absRoot (runOps #[] ops) = .ok ta) :
    let a := runOps #[] ops
    ∃ r txt a', getRoot a = some r ∧
      (∀ fuel, a.size ≤ fuel → NW.toNewickF showLen fuel .allFields (toNW a) r = some txt) ∧
      NW.parse parseLen (txt ++ [';']) = .done a' ∧
      Good (toAR a') ∧ AtMostOneRoot (toAR a') ∧ (∀ i, i < (toAR a').size → live (toAR a') i) ∧
      ∃ tb, absRoot (toAR a') = .ok tb ∧ erase tb = erase ta ∧ SameAnswers a (toAR a') ta tb := by
  intro a
  obtain ⟨ga, ha⟩ := runOps_empty hadm
  have hpay : Pay NameInDomain CommentInDomain a := runOps_pay True.intro True.intro ops (pay_empty True.intro True.intro) hnames
  exact same_answers_as_freshly_parsed_slots hc ga ha hta (slotLabelsOK_of_pay hpay)

/-- **parse, edit, query — no hypothesis on the text**: parse ANY accepted text, apply any admissible edit
    history whose supplied names are in C01's domain; the reached arena answers every id-free query like the
    tree freshly parsed from the text the writer prints for it -/
theorem parsed_edited_same_answers_as_freshly_parsed_names (hc : NW.Codec parseLen showLen) (cs : List Char)
    (p : PArena) (hp : NW.parse parseLen cs = .done p) (ops : List Op) (hadm : AdmissibleRun (toAR p) ops)
    (hnames : ∀ op ∈ ops, NameInDomain op.givenName) {ta : Rose} (hta : absRoot (runOps (toAR p) ops) = .ok ta) :
    let a := runOps (toAR p) ops
    ∃ r txt a', getRoot a = some r ∧
      (∀ fuel, a.size ≤ fuel → NW.toNewickF showLen fuel .allFields (toNW a) r = some txt) ∧
      NW.parse parseLen (txt ++ [';']) = .done a' ∧
      Good (toAR a') ∧ AtMostOneRoot (toAR a') ∧ (∀ i, i < (toAR a').size → live (toAR a') i) ∧
      ∃ tb, absRoot (toAR a') = .ok tb ∧ erase tb = erase ta ∧ SameAnswers a (toAR a') ta tb := by
  intro a
  obtain ⟨g0, r0, _⟩ := parse_good parseLen cs p hp
  obtain ⟨ga, ha⟩ := runOps_oneRoot ops g0 r0 hadm
  have hpay : Pay NameInDomain CommentInDomain a := runOps_pay True.intro True.intro ops (parsed_pay cs p hp) hnames
  exact same_answers_as_freshly_parsed_slots hc ga ha hta (slotLabelsOK_of_pay hpay)

/-! ### non-vacuity -/

/-- the codec hypothesis is satisfiable on `Int`: decimal digits with a leading `-` -/
example : NW.Codec parseD showD := codecD

/-- the history with a removal (`exB`: slot 1 is a removed slot) satisfies all hypotheses -/
theorem exB_wf : NW.WFT (toRTc exB exTb) := by decide +kernel

/-- … its current Newick text is `(x:3,y:4)` (the removed slot is not written) … -/
example : NW.toNewickF showD exB.size .allFields (toNW exB) 0 = some "(x:3,y:4)".toList := exB_eval.2

/-- … and e.g. its bipartitions and distance matrix are those of the tree parsed from that text -/
example : ∃ a', NW.parse parseD ("(x:3,y:4)".toList ++ [';']) = .done a' ∧
    partitionsArena exB = partitionsArena (toAR a') ∧ dmRecursive exB = dmRecursive (toAR a') := by
  have hadm : AdmissibleRun #[] [.add none, .addChild 0 (some 9) (some "z"), .prune 1,
      .addChild 0 (some 3) (some "x"), .addChild 0 (some 4) (some "y")] := by
    simp only [AdmissibleRun, Admissible, and_true]; exact no_root_empty
  obtain ⟨r, txt, a', hr, hw, hp, _, _, _, tb, _, _, hs⟩ :=
    history_same_answers_as_freshly_parsed codecD _ hadm (ta := exTb) exB_abs exB_wf
  have hr' : getRoot exB = some r := hr
  rw [exB_eval.1] at hr'
  cases hr'
  have hw' : NW.toNewickF showD exB.size .allFields (toNW exB) 0 = some txt := hw exB.size (Nat.le_refl _)
  rw [exB_eval.2] at hw'
  cases hw'
  exact ⟨a', hp, hs.2.2.2.2.2.2.2.2.2.2.2.2.2.2.2.2.2.1, hs.2.2.2.2.2.2.2.2.2.2.2.2.2.2.2.2.2.2.1⟩

theorem lkP_parse : NW.parse parseD lkText = .done lkP := by
  obtain ⟨p, hp⟩ := isDone_elim lk_eval.1
  rw [lkP, hp]
theorem lkE_abs : absRoot lkE = .ok lkT := absRoot_of_check _ _ lk_eval.2.1
theorem lkE_wf : NW.WFT (toRTc lkE lkT) := by
  -- the labels of `lkE` are those the parser stored and the one name the history supplies
  have hadm : AdmissibleRun (toAR lkP) lkOps := by simp [lkOps, AdmissibleRun, Admissible]
  obtain ⟨g0, r0, _⟩ := parse_good parseD lkText lkP lkP_parse
  obtain ⟨ga, ha⟩ := runOps_oneRoot lkOps g0 r0 hadm
  have hnames : ∀ op ∈ lkOps, NameInDomain op.givenName := by unfold NameInDomain; decide +kernel
  exact wft_of_slots ga ha lkE_abs (slotLabelsOK_of_pay
    (runOps_pay True.intro True.intro lkOps
      (parsed_pay lkText lkP lkP_parse) hnames))
example : lkE.size = 5 ∧ isLive lkE 3 = false ∧
    NW.toNewickF showD lkE.size .allFields (toNW lkE) 0 = some "((A2:1)C:3[hi],\"D e\")R:10".toList :=
  lk_eval.2.2
/-- the syntactic hypotheses on the history hold for `lkOps` (and for the history of `exB`) -/
example : (∀ op ∈ lkOps, NameInDomain op.givenName) ∧
    (∀ op ∈ [Op.add none, .addChild 0 (some 9) (some "z"), .prune 1, .addChild 0 (some 3) (some "x"),
      .addChild 0 (some 4) (some "y")], NameInDomain op.givenName) := by
  unfold NameInDomain; decide +kernel
example : ∃ a' tb, absRoot (toAR a') = .ok tb ∧ SameAnswers lkE (toAR a') lkT tb := by
  have hadm : AdmissibleRun (toAR lkP) lkOps := by simp [lkOps, AdmissibleRun, Admissible]
  obtain ⟨r, txt, a', _, _, _, _, _, _, tb, htb, _, hs⟩ :=
    parsed_edited_same_answers_as_freshly_parsed codecD lkText lkP lkP_parse lkOps hadm (ta := lkT) lkE_abs lkE_wf
  exact ⟨a', tb, htb, hs⟩

/-! ### boundary: the label-domain hypothesis cannot be dropped

A name containing an unquoted metacharacter is outside C01's domain, and for such a history the property is
false: the tip named `a,b` is written verbatim, the text `(a,b,c)` parses to three tips. -/

def lkBad : Arena := runOps #[] [.add none, .addChild 0 none (some "a,b"), .addChild 0 none (some "c")]

example : ¬ NameInDomain (some "a,b") := by unfold NameInDomain; decide +kernel

example : NW.toNewickF showD (lkBad.size + 1) .allFields (toNW lkBad) 0 = some "(a,b,c)".toList ∧
    (match NW.parse parseD ("(a,b,c)".toList ++ [';']) with | .done p => nLeaves (toAR p) | _ => 0) = 3 ∧
    nLeaves lkBad = 2 := by decide +kernel

end C04
