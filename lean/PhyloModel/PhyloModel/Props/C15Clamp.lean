import PhyloModel.Props.C15
import PhyloModel.Props.C15Det
import PhyloModel.Upgma.ClampAlways
/-! # C15 — the repaired `DistanceMatrix::upgma` (branch lengths clamped at zero)

The crate clamps at zero every branch length it computes as a difference of heights (`fn non_negative`),
in the loop and at the final join, and raises the height of the reused index by the CLAMPED length.
`UPG.stepC` / `UPG.loopC` / `UPG.upgmaC` (Matrix/UpgmaClamp.lean) transcribe the repaired code and are what the
driver runs against the crate; `UPG.step` / `UPG.loop` / `UPG.upgma` (Matrix/Upgma.lean) are the code before the repair.

* `upgmaC_eq_upgma` — on the domain of the C15 theorems (two or more taxa, triangular vector of the right size,
  non-negative entries) the repaired function returns exactly what the original returns: by the monotone-heights
  invariant every clamped difference is already non-negative.  `stepC_eq_step` is the same for one iteration.
* `upgmaC_tree`, `upgmaC_ok_nonneg`, `upgmaC_recovers_ultrametric`, `upgmaC_taxon_order`, `upgmaC_taxon_order_input`,
  `tie_flagC_certifies_unambiguous`, `upgmaC_taxon_order_tie_free` — the results of Props/C15.lean and Props/C15Det.lean,
  restated for the function the driver runs (`upgmaTr` is the instrumented run of the loop, the same for both on
  this domain).
* `upgmaC_lengths_nonneg_always` — what the clamp buys: with NO hypothesis on the matrix (size, signs) every branch
  length in a returned tree is present and non-negative.
* `clamp_changes_negative_input` — on a matrix with a negative entry the two functions differ, so the hypothesis of
  `upgmaC_eq_upgma` cannot be dropped. -/
namespace C15
open UP UPG MX Tri MXS

/-- **The clamp is the identity on the domain of C15.**  On two or more taxa, for a triangular vector of the right
    size with non-negative entries, the repaired `upgma` returns exactly what the original returns (tree, margin,
    tie flag, dyadic flag). -/
theorem upgmaC_eq_upgma (taxa : List String) (v : Array Rat) (h2 : 2 ≤ taxa.length) (hv : v.size = T taxa.length)
    (hpos : ∀ k, k < v.size → 0 ≤ v.getD k 0) : upgmaC taxa v = upgma taxa v :=
  UPG.upgmaC_eq_upgma taxa v h2 hv hpos

/-- non-vacuity of the common hypotheses: taxa `a, b, c`, distances `a-b 2, a-c 4, b-c 4` -/
example : 2 ≤ ["a", "b", "c"].length ∧ (#[2, 4, 4] : Array Rat).size = T ["a", "b", "c"].length ∧
    ∀ k, k < (#[2, 4, 4] : Array Rat).size → 0 ≤ (#[2, 4, 4] : Array Rat).getD k 0 := UPG.hyps_example

/-- one iteration: on a state satisfying the loop invariant (representation invariant, average linkage, monotone
    heights, partition) with more than two clusters left, the clamped iteration is the original iteration -/
theorem stepC_eq_step {d0 : Nat → Nat → Rat} (hd : ∀ x y, d0 x y = d0 y x) {n : Nat} {st : UPG.St}
    {mem : Nat → List Nat} (hI : LInv d0 n st mem) (hgt : 2 < st.nClusters) : stepC st = step st :=
  UPG.stepC_eq_step hd hI hgt

/-- non-vacuity of `stepC_eq_step`: the initial state of the run on `a, b, c` with `a-b 2, a-c 4, b-c 4` -/
example : LInv (d0of #[2, 4, 4]) 3 (initSt ["a", "b", "c"] #[2, 4, 4]) (fun i => [i]) ∧
    2 < (initSt ["a", "b", "c"] #[2, 4, 4]).nClusters :=
  ⟨init_linv ["a", "b", "c"] #[2, 4, 4] UPG.hyps_example.2.1 UPG.hyps_example.1 UPG.hyps_example.2.2, by decide⟩

/-- **C15 for the repaired function, combined.**  `UPG.upgmaC` succeeds, and the tree `t` it returns
    * is binary at every internal node, the root has exactly two children, every leaf is named, and the leaf
      names are a permutation of the taxa;
    * has all its leaves at one and the same distance from the root;
    * has a non-negative branch length on every non-root node;
    * has as internal nodes (leaf names below the node, height of the node above its leaves) exactly the
      merge events of a complete run of average-linkage clustering from its definition (`AvgRun`). -/
theorem upgmaC_tree (taxa : List String) (v : Array Rat) (h2 : 2 ≤ taxa.length) (hv : v.size = T taxa.length)
    (hpos : ∀ k, k < v.size → 0 ≤ v.getD k 0) :
    ∃ t m tie dy, upgmaC taxa v = .ok (t, m, tie, dy) ∧
      (isBin t = true ∧ t.kids.length = 2 ∧ (leafNames t).Perm (taxa.map some)) ∧
      (∃ h, ∀ d, d ∈ leafDepths t → d = h) ∧
      NonNegLens t ∧
      (∃ evs k cl, upgmaTr taxa v = .ok evs ∧
        AvgRun (d0of v) (List.range taxa.length) (fun i => [i]) evs [k] cl ∧
        (cl k).Perm (List.range taxa.length) ∧ evs.length = taxa.length - 1 ∧
        ∀ x, x ∈ nodeInfo t ↔ ∃ e, e ∈ evs ∧ x = evInfo taxa e) := by
  rw [upgmaC_eq_upgma taxa v h2 hv hpos]
  exact C15.upgma_tree taxa v h2 hv hpos

/-- success and non-negative lengths in the "whatever it returns" form: on the domain of C15 the repaired function
    returns neither an error nor a panic, and every branch length of whatever it returns is present and non-negative -/
theorem upgmaC_ok_nonneg (taxa : List String) (v : Array Rat) (h2 : 2 ≤ taxa.length) (hv : v.size = T taxa.length)
    (hpos : ∀ k, k < v.size → 0 ≤ v.getD k 0) :
    (∃ r, upgmaC taxa v = .ok r) ∧ ∀ t m tie dy, upgmaC taxa v = .ok (t, m, tie, dy) → NonNegLens t := by
  rw [upgmaC_eq_upgma taxa v h2 hv hpos]
  exact upgma_ok_nonneg taxa v h2 hv hpos

/-- **Ultrametric input.**  If moreover the input satisfies the three-point condition, the matrix of leaf-to-leaf
    path lengths of the tree the repaired function returns is the input matrix (`A` lists the taxon indices in
    leaf order). -/
theorem upgmaC_recovers_ultrametric (taxa : List String) (v : Array Rat) (h2 : 2 ≤ taxa.length)
    (hv : v.size = T taxa.length) (hpos : ∀ k, k < v.size → 0 ≤ v.getD k 0) (hu : Ultra (d0of v) taxa.length) :
    ∃ t m tie dy A, upgmaC taxa v = .ok (t, m, tie, dy) ∧ A.Perm (List.range taxa.length) ∧
      leafNames t = A.map (fun i => some (nameOf taxa i)) ∧ distM t = matOf (d0of v) A := by
  rw [upgmaC_eq_upgma taxa v h2 hv hpos]
  exact C15.upgma_recovers_ultrametric taxa v h2 hv hpos hu

/-- **Taxon order.**  The same labelled matrix in two taxon orders (`Reordered`), the run on one of the two
    presentations with an unambiguous minimum at every step: the repaired function succeeds on both, the merge
    events agree position by position, and the two trees have the same internal nodes (set of leaf names below
    the node, height of the node above its leaves). -/
theorem upgmaC_taxon_order (taxa taxa' : List String) (v v' : Array Rat) (σ : Nat → Nat)
    (h2 : 2 ≤ taxa.length) (hv : v.size = T taxa.length) (hpos : ∀ k, k < v.size → 0 ≤ v.getD k 0)
    (hv' : v'.size = T taxa'.length) (hpos' : ∀ k, k < v'.size → 0 ≤ v'.getD k 0)
    (hr : Reordered taxa v taxa' v' σ)
    (hu : (∀ evs, upgmaTr taxa v = .ok evs → Unamb (d0of v) (List.range taxa.length) (fun i => [i]) evs) ∨
      (∀ evs', upgmaTr taxa' v' = .ok evs' → Unamb (d0of v') (List.range taxa'.length) (fun i => [i]) evs')) :
    ∃ t m tie dy t' m' tie' dy' evs evs', upgmaC taxa v = .ok (t, m, tie, dy) ∧ upgmaC taxa' v' = .ok (t', m', tie', dy') ∧
      upgmaTr taxa v = .ok evs ∧ upgmaTr taxa' v' = .ok evs' ∧ All2 (EvSameVia σ) evs' evs ∧
      InfoSub (nodeInfo t') (nodeInfo t) ∧ InfoSub (nodeInfo t) (nodeInfo t') := by
  have h2' : 2 ≤ taxa'.length := by rw [hr.len]; exact h2
  rw [upgmaC_eq_upgma taxa v h2 hv hpos, upgmaC_eq_upgma taxa' v' h2' hv' hpos']
  exact C15.upgma_taxon_order taxa taxa' v v' σ h2 hv hpos hv' hpos' hr hu

/-- ... with the hypothesis on the input: some (equivalently: every) complete run of average-linkage clustering on
    `d0of v` has an unambiguous minimum at every step -/
theorem upgmaC_taxon_order_input (taxa taxa' : List String) (v v' : Array Rat) (σ : Nat → Nat)
    (h2 : 2 ≤ taxa.length) (hv : v.size = T taxa.length) (hpos : ∀ k, k < v.size → 0 ≤ v.getD k 0)
    (hv' : v'.size = T taxa'.length) (hpos' : ∀ k, k < v'.size → 0 ≤ v'.getD k 0)
    (hr : Reordered taxa v taxa' v' σ) (hu : UnambInput (d0of v) taxa.length) :
    ∃ t m tie dy t' m' tie' dy', upgmaC taxa v = .ok (t, m, tie, dy) ∧ upgmaC taxa' v' = .ok (t', m', tie', dy') ∧
      InfoSub (nodeInfo t') (nodeInfo t) ∧ InfoSub (nodeInfo t) (nodeInfo t') := by
  have h2' : 2 ≤ taxa'.length := by rw [hr.len]; exact h2
  rw [upgmaC_eq_upgma taxa v h2 hv hpos, upgmaC_eq_upgma taxa' v' h2' hv' hpos']
  exact C15.upgma_taxon_order_input taxa taxa' v v' σ h2 hv hpos hv' hpos' hr hu

/-- the `tie` flag of the repaired function certifies unambiguity: if it returns with `tie = false`, the run of
    average-linkage clustering it performed has an unambiguous minimum at every step -/
theorem tie_flagC_certifies_unambiguous (taxa : List String) (v : Array Rat) (h2 : 2 ≤ taxa.length)
    (hv : v.size = T taxa.length) (hpos : ∀ k, k < v.size → 0 ≤ v.getD k 0) {t : URose} {m : Option Rat} {dy : Bool}
    (hup : upgmaC taxa v = .ok (t, m, false, dy)) {evs : List Ev} (htr : upgmaTr taxa v = .ok evs) :
    Unamb (d0of v) (List.range taxa.length) (fun i => [i]) evs := by
  rw [upgmaC_eq_upgma taxa v h2 hv hpos] at hup
  exact C15.tie_flag_certifies_unambiguous taxa v h2 hv hpos hup htr

/-- ... hence: if the repaired function on `(taxa, v)` returns with `tie = false`, then on the same labelled matrix
    in any other taxon order it returns a tree with the same internal nodes, and the merge events agree position
    by position -/
theorem upgmaC_taxon_order_tie_free (taxa taxa' : List String) (v v' : Array Rat) (σ : Nat → Nat)
    (h2 : 2 ≤ taxa.length) (hv : v.size = T taxa.length) (hpos : ∀ k, k < v.size → 0 ≤ v.getD k 0)
    (hv' : v'.size = T taxa'.length) (hpos' : ∀ k, k < v'.size → 0 ≤ v'.getD k 0)
    (hr : Reordered taxa v taxa' v' σ) {t : URose} {m : Option Rat} {dy : Bool}
    (hup : upgmaC taxa v = .ok (t, m, false, dy)) :
    ∃ t' m' tie' dy' evs evs', upgmaC taxa' v' = .ok (t', m', tie', dy') ∧
      upgmaTr taxa v = .ok evs ∧ upgmaTr taxa' v' = .ok evs' ∧ All2 (EvSameVia σ) evs' evs ∧
      InfoSub (nodeInfo t') (nodeInfo t) ∧ InfoSub (nodeInfo t) (nodeInfo t') := by
  have h2' : 2 ≤ taxa'.length := by rw [hr.len]; exact h2
  rw [upgmaC_eq_upgma taxa v h2 hv hpos] at hup
  rw [upgmaC_eq_upgma taxa' v' h2' hv' hpos']
  exact C15.upgma_taxon_order_tie_free taxa taxa' v v' σ h2 hv hpos hv' hpos' hr hup

/-- **What the clamp buys.**  No hypothesis on the taxa or on the matrix — any size, any signs: whenever the
    repaired function returns a tree, every non-root node of it carries a branch length and that length is
    non-negative.  (For the original function this needs non-negative input; see `clamp_changes_negative_input`.) -/
theorem upgmaC_lengths_nonneg_always (taxa : List String) (v : Array Rat) (t : URose) (m : Option Rat)
    (ti dy : Bool) (h : upgmaC taxa v = .ok (t, m, ti, dy)) : NonNegLens t :=
  UPG.upgmaC_lengths_nonneg_always taxa v t m ti dy h

/-- **The hypothesis of `upgmaC_eq_upgma` is needed.**  Taxa `a, b, c` with `d(a,b) = -2`, `d(a,c) = d(b,c) = 4`:
    the branch lengths of the original tree are `2, 3, -1, -1` (pre-order), those of the repaired one `2, 2, 0, 0`;
    the two functions differ. -/
theorem clamp_changes_negative_input :
    lensOf (upgma ["a", "b", "c"] #[-2, 4, 4]) = [some 2, some 3, some (-1), some (-1)] ∧
    lensOf (upgmaC ["a", "b", "c"] #[-2, 4, 4]) = [some 2, some 2, some 0, some 0] ∧
    upgmaC ["a", "b", "c"] #[-2, 4, 4] ≠ upgma ["a", "b", "c"] #[-2, 4, 4] := by
  refine ⟨by decide +kernel, by decide +kernel, fun e => ?_⟩
  exact absurd (congrArg lensOf e) (by decide +kernel)

/-- non-vacuity of `upgmaC_lengths_nonneg_always` on an input outside the domain of C15: with `d(a,b) = -2` the
    repaired function does return a tree -/
example : ∃ t m ti dy, upgmaC ["a", "b", "c"] #[-2, 4, 4] = .ok (t, m, ti, dy) := by
  have h := clamp_changes_negative_input.2.1
  unfold lensOf at h
  split at h
  · next t m ti dy he => exact ⟨t, m, ti, dy, he⟩
  · cases h

end C15
