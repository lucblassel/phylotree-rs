import PhyloModel.Split.PartSpec
import PhyloModel.Split.Rooted
import PhyloModel.Arena.QRLemmas
/-! # C05 — bipartitions are exactly the non-trivial splits of the leaf set

`SPM.partitions` mirrors `init_partitions` (repaired code): one bit per entry of the sorted leaf index,
`get_partition` = canonical representative of `{S, ¬S}`, the trivial-split test `ones ≤ 1 ∨ ones + 1 ≥ len`,
and the map keyed by the canonical side.  The theorems characterise the reported set for every tree
(`partitions_exact`); by `partitions_congr` it depends on the tree only through the stored sides of its
non-root internal nodes.  The Spec-level invariances (child reordering, unary nodes, two- vs three-child root)
are stated on name-only rose trees (`SP`, `Split/Basic.lean` and `Split/Rooted.lean`), which no function links
to `Rose`; the same invariances of the executable model are in `Props/C05Inv.lean`. -/
namespace C05
open AR SPM

mutual
/-- the non-root internal nodes of a rose tree, pre-order -/
def inner : Rose → List Rose
  | .node _ _ _ _ ks => innerL ks
def innerL : List Rose → List Rose
  | [] => []
  | k :: ks =>
    (match k with
     | .node _ _ _ _ [] => []
     | .node _ _ _ _ (_ :: _) => [k]) ++ inner k ++ innerL ks
end

mutual
theorem branches_inner (all : List String) : ∀ t : Rose, (branches all t).map (·.1) = (inner t).map (sideOf all)
  | .node _ _ _ _ ks => by rw [branches, inner]; exact branchesL_inner all ks
theorem branchesL_inner (all : List String) : ∀ ks : List Rose, (branchesL all ks).map (·.1) = (innerL ks).map (sideOf all)
  | [] => by simp [branchesL, innerL]
  | k :: ks => by
    cases k with
    | node i n l d kk =>
      cases kk with
      | nil =>
        simp only [branchesL, innerL, List.nil_append, List.map_append]
        rw [branches_inner all (.node i n l d []), branchesL_inner all ks]
      | cons k1 kk =>
        simp only [branchesL, innerL, List.map_append, List.map_cons, List.map_nil]
        rw [branches_inner all (.node i n l d (k1 :: kk)), branchesL_inner all ks]
end

/-- **exactness**: the reported sides are exactly the canonical representatives of the splits induced by the
    non-root internal branches that have at least two leaves on each side -/
theorem partitions_exact (t : Rose) (all : List String) (ps : List Part) (hall : leafIndex t = .ok all)
    (hps : partitions t = .ok ps) (x : Side) :
    x ∈ sides ps ↔ ∃ v ∈ inner t, x = sideOf all v ∧ 2 ≤ ones x ∧ 2 ≤ ones (flip x) := by
  rw [(partitions_spec t all ps hall hps).mem, mem_nbranches, branches_inner, ← not_trivial_iff, List.mem_map]
  exact ⟨fun ⟨⟨v, hv, e⟩, h⟩ => ⟨v, hv, e.symm, h⟩, fun ⟨v, hv, e, h⟩ => ⟨⟨v, hv, e.symm⟩, h⟩⟩

/-- every split is reported once -/
theorem partitions_nodup (t : Rose) (ps : List Part) (hps : partitions t = .ok ps) : (sides ps).Nodup := by
  obtain ⟨all, hall⟩ := leafIndex_ok_of_partitions t ps hps
  exact (partitions_spec t all ps hall hps).nodup

/-- ... whichever side is listed: a side and its complement have the same stored representative, and the
    representative is the side without the first leaf of the sorted index -/
theorem reported_once_either_side (m : Side) : canon (flip m) = canon m ∧ (canon m).head? ≠ some true :=
  ⟨canon_flip m, canon_head m⟩

/-- the non-triviality test does not depend on which side is stored -/
theorem trivial_symmetric (m : Side) : trivial (flip m) = trivial m ∧ trivial (canon m) = trivial m :=
  ⟨trivial_flip m, trivial_canon m⟩

/-- the stored side of a branch depends only on the SET of leaf names below it -/
theorem side_of_name_set (all : List String) (v v' : Rose)
    (h : ∀ x, x ∈ (tipNames v).filterMap id ↔ x ∈ (tipNames v').filterMap id) : sideOf all v = sideOf all v' := by
  unfold sideOf
  rw [(maskOf_eq_iff all _ _).2 fun x _ => h x]

/-- transfer principle: two trees with the same leaf index whose non-root internal branches induce the same
    stored sides report the same set of bipartitions -/
theorem partitions_congr (t t' : Rose) (all : List String) (ps ps' : List Part)
    (h1 : leafIndex t = .ok all) (h2 : leafIndex t' = .ok all)
    (hp : partitions t = .ok ps) (hp' : partitions t' = .ok ps')
    (hs : ∀ x, (∃ v ∈ inner t, x = sideOf all v) ↔ (∃ v ∈ inner t', x = sideOf all v)) (x : Side) :
    x ∈ sides ps ↔ x ∈ sides ps' := by
  rw [partitions_exact t all ps h1 hp, partitions_exact t' all ps' h2 hp']
  constructor
  · rintro ⟨v, hv, hx, h⟩
    obtain ⟨v', hv', hx'⟩ := (hs x).mp ⟨v, hv, hx⟩
    exact ⟨v', hv', hx', h⟩
  · rintro ⟨v, hv, hx, h⟩
    obtain ⟨v', hv', hx'⟩ := (hs x).mpr ⟨v, hv, hx⟩
    exact ⟨v', hv', hx', h⟩

/-- Spec level (name-only rose trees): any reordering of children anywhere in the tree changes neither the
    leaf set nor the leaf sets below non-root nodes -/
theorem spec_reorder_invariant {t t' : SP.NT} (h : SP.Reorder t t') : SP.Equiv t t' := SP.reorder_equiv h

/-- Spec level: a unary node contributes exactly what its child contributes -/
theorem spec_unary_invariant (m : Option Nat) (k : SP.NT) (A : List Nat) :
    SP.Contrib (.node m [k]) A ↔ SP.Contrib k A := SP.contrib_unary m k A

/-- Spec level: the same unrooted tree drawn with a two-child root `[X, Y]` or with `X` dissolved into a
    three-or-more-child root induces the same splits (a split is a side or the complement of a side) -/
theorem spec_root_style_invariant (n m : Option Nat) (kx : List SP.NT) (Y : SP.NT) (hkx : kx ≠ [])
    (hnd : (SP.leaves (.node n [.node m kx, Y])).Nodup) (A : List Nat) :
    SP.Split (.node n [.node m kx, Y]) A ↔ SP.Split (.node n (kx ++ [Y])) A :=
  SP.rooted_unrooted n m kx Y hkx hnd A

/-- non-vacuity: on five leaves, the side {0,1} and its complement {2,3,4} have one representative, which is
    non-trivial; a single leaf against the rest is trivial from either side -/
example : canon [true, true, false, false, false] = canon [false, false, true, true, true] ∧
    trivial (canon [true, true, false, false, false]) = false ∧
    trivial [false, false, false, false, true] = true ∧ trivial [true, true, true, true, false] = true := by decide

end C05
