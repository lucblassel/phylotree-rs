import PhyloModel.Split.Rename
/-! Renaming a rose tree: the leaf index is the sorted image, every branch entry is transported by `phi`, and
    the partition map of the renamed tree is the entry-by-entry image of the partition map of the tree. -/
namespace SPM
open AR

mutual
/-- rename every tip by `f`; internal node names (never read by the split machinery) are changed by an
    arbitrary `g` -/
def renameR (f : String → String) (g : Option String → Option String) : Rose → Rose
  | .node i n l d [] => .node i (n.map f) l d []
  | .node i n l d (k :: ks) => .node i (g n) l d (renameL f g (k :: ks))
def renameL (f : String → String) (g : Option String → Option String) : List Rose → List Rose
  | [] => []
  | k :: ks => renameR f g k :: renameL f g ks
end

section
variable (f : String → String) (g : Option String → Option String)

theorem renameR_leaf (i : Nat) (n : Option String) (l : Option Int) (d : Nat) :
    renameR f g (.node i n l d []) = .node i (n.map f) l d [] := by rw [renameR]
theorem renameR_cons (i : Nat) (n : Option String) (l : Option Int) (d : Nat) (k : Rose) (ks : List Rose) :
    renameR f g (.node i n l d (k :: ks)) = .node i (g n) l d (renameL f g (k :: ks)) := by rw [renameR]
theorem renameL_nil : renameL f g [] = [] := by rw [renameL]
theorem renameL_cons (k : Rose) (ks : List Rose) : renameL f g (k :: ks) = renameR f g k :: renameL f g ks := by
  rw [renameL]

theorem renameL_eq_map : ∀ ks : List Rose, renameL f g ks = ks.map (renameR f g)
  | [] => by rw [renameL_nil]; rfl
  | k :: ks => by rw [renameL_cons, renameL_eq_map ks]; rfl

theorem renameR_node (i : Nat) (n : Option String) (l : Option Int) (d : Nat) (ks : List Rose) :
    renameR f g (.node i n l d ks) = .node i (if ks = [] then n.map f else g n) l d (ks.map (renameR f g)) := by
  cases ks with
  | nil => rw [renameR_leaf]; rfl
  | cons k ks => rw [renameR_cons, renameL_eq_map]; rfl

theorem kids_renameR (t : Rose) : (renameR f g t).kids = renameL f g t.kids := by
  cases t with
  | node i n l d ks => rw [renameR_node, renameL_eq_map]; rfl

theorem depth_renameR (t : Rose) : (renameR f g t).depth = t.depth := by
  cases t with
  | node i n l d ks => rw [renameR_node]; rfl

theorem len_renameR (t : Rose) : (renameR f g t).len = t.len := by
  cases t with
  | node i n l d ks => rw [renameR_node]; rfl

theorem kids_renameR_nil (t : Rose) : (renameR f g t).kids = [] ↔ t.kids = [] := by
  rw [kids_renameR, renameL_eq_map]
  simp

mutual
theorem tipNames_renameR : ∀ t : Rose, tipNames (renameR f g t) = (tipNames t).map (Option.map f)
  | .node i n l d [] => by rw [renameR_leaf, tipNames_leaf, tipNames_leaf]; rfl
  | .node i n l d (k :: ks) => by
    rw [renameR_cons, tipNames_cons, renameL_cons, tipNames_cons, tipNamesL_cons, tipNamesL_cons,
      tipNames_renameR k, tipNamesL_renameL ks, List.map_append]
theorem tipNamesL_renameL : ∀ ks : List Rose, tipNamesL (renameL f g ks) = (tipNamesL ks).map (Option.map f)
  | [] => by rw [renameL_nil, tipNamesL_nil]; rfl
  | k :: ks => by
    rw [renameL_cons, tipNamesL_cons, tipNamesL_cons, tipNames_renameR k, tipNamesL_renameL ks, List.map_append]
end

theorem filterMap_id_map (l : List (Option String)) :
    (l.map (Option.map f)).filterMap id = (l.filterMap id).map f := by
  induction l with
  | nil => rfl
  | cons a l ih => cases a <;> simp [ih]

theorem names_renameR (t : Rose) : names (renameR f g t) = (names t).map f := by
  unfold names
  rw [tipNames_renameR, filterMap_id_map]

end

section
variable {f : String → String} (hf : Function.Injective f) (g : Option String → Option String)
include hf

theorem sideOf_renameR (all : List String) (t : Rose) :
    sideOf (sigma f all) (renameR f g t) = phi f all (sideOf all t) := by
  rw [sideOf_eq, sideOf_eq, names_renameR, phi_canon_mask hf]

def mapB (f : String → String) (all : List String) (b : Side × Nat × Option Int) : Side × Nat × Option Int :=
  (phi f all b.1, b.2)

omit hf in
theorem mapB_fst (all : List String) (b : Side × Nat × Option Int) : (mapB f all b).1 = phi f all b.1 := rfl

theorem headB_renameR (all : List String) (t : Rose) :
    headB (sigma f all) (renameR f g t) = (headB all t).map (mapB f all) := by
  unfold headB
  by_cases hk : t.kids = []
  · rw [if_pos hk, if_pos ((kids_renameR_nil f g t).2 hk)]; rfl
  · rw [if_neg hk, if_neg (fun h => hk ((kids_renameR_nil f g t).1 h)), sideOf_renameR hf, depth_renameR,
      len_renameR]
    rfl

set_option linter.unusedSectionVars false in
mutual
theorem branches_renameR (all : List String) :
    ∀ t : Rose, branches (sigma f all) (renameR f g t) = (branches all t).map (mapB f all)
  | .node i n l d [] => by
    rw [renameR_leaf, branches_node, branches_node, branchesL_nil]; rfl
  | .node i n l d (k :: ks) => by
    rw [renameR_cons, branches_node, branches_node]
    exact branchesL_renameL all (k :: ks)
theorem branchesL_renameL (all : List String) :
    ∀ ks : List Rose, branchesL (sigma f all) (renameL f g ks) = (branchesL all ks).map (mapB f all)
  | [] => by rw [renameL_nil, branchesL_nil, branchesL_nil]; rfl
  | k :: ks => by
    rw [renameL_cons, branchesL_cons, branchesL_cons, headB_renameR hf g all k, branches_renameR all k,
      branchesL_renameL all ks, List.map_append, List.map_append]
end

omit hf in
theorem storedSide_of_mem_branches (all : List String) (t : Rose) (b : Side × Nat × Option Int)
    (hb : b ∈ branches all t) : StoredSide all b.1 := by
  have : b.1 ∈ (branches all t).map (·.1) := List.mem_map.mpr ⟨b, hb, rfl⟩
  rw [C05.branches_inner] at this
  obtain ⟨v, _, hv⟩ := List.mem_map.mp this
  rw [← hv]; exact storedSide_sideOf all v

theorem nbranches_renameR (all : List String) (t : Rose) :
    nbranches (sigma f all) (renameR f g t) = (nbranches all t).map (mapB f all) := by
  unfold nbranches
  rw [branches_renameR hf g all t, List.filter_map]
  congr 1
  apply List.filter_congr
  intro b hb
  simp only [Function.comp, mapB_fst]
  rw [trivial_phi hf all b.1 (storedSide_of_mem_branches all t b hb)]

def mapP (f : String → String) (all : List String) (p : Part) : Part :=
  { side := phi f all p.side, depth := p.depth, len := p.len }

omit hf in
theorem sides_mapP (all : List String) (m : List Part) : sides (m.map (mapP f all)) = (sides m).map (phi f all) := by
  simp [sides, mapP, List.map_map, Function.comp_def]

omit hf in
theorem sortS_sigma (l : List String) : sigma f (sortS l) = sortS (l.map f) := by
  unfold sigma
  exact sortS_congr _ _ ((sortS_perm l).map f)

omit hf in
theorem any_isNone_rename (l : List (Option String)) :
    (l.map (Option.map f)).any Option.isNone = l.any Option.isNone := by
  induction l with
  | nil => rfl
  | cons a l ih => cases a <;> simp [ih]

theorem nodup_map_inj (l : List String) : (l.map f).Nodup ↔ l.Nodup :=
  ⟨List.Pairwise.of_map f fun _ _ h e => h (congrArg f e),
    fun h => (List.nodup_map_iff_inj f l h).2 fun _ _ _ _ e => hf e⟩

theorem leafIndex_renameR (t : Rose) :
    leafIndex (renameR f g t) =
      (match leafIndex t with
       | .ok all => .ok (sigma f all)
       | .err e => .err e
       | .panic => .panic) := by
  rw [leafIndex_eq, leafIndex_eq, tipNames_renameR, any_isNone_rename, names_renameR, ← sortS_sigma]
  simp only [nodup_map_inj hf]
  split
  · rfl
  · split <;> rfl

theorem leafIndex_renameR_ok (t : Rose) (all : List String) (h : leafIndex t = .ok all) :
    leafIndex (renameR f g t) = .ok (sigma f all) := by
  rw [leafIndex_renameR hf g t, h]

theorem leafIndex_renameR_err (t : Rose) (e : String) (h : leafIndex t = .err e) :
    leafIndex (renameR f g t) = .err e := by
  rw [leafIndex_renameR hf g t, h]

theorem partitions_renameR (t : Rose) (all : List String) (ps : List Part)
    (hall : leafIndex t = .ok all) (hps : partitions t = .ok ps) :
    partitions (renameR f g t) = .ok (ps.map (mapP f all)) := by
  have hall' := leafIndex_renameR_ok hf g t all hall
  simp only [partitions, hall, QR.bind_ok, QR.pure_eq, QR.ok.injEq] at hps
  subst hps
  simp only [partitions, hall', QR.bind_ok, QR.pure_eq, QR.ok.injEq]
  have h1 := nbranches_renameR hf g all t
  unfold nbranches at h1
  rw [h1]
  -- `mapB f all` unfolds to `trB (phi f all) id`, `mapP f all` to `trP (phi f all) id`
  exact foldl_insertPart_tr (φ := phi f all) (ψ := id) (fun _ _ => rfl) (StoredSide all) (phi_beq hf all)
    ((branches all t).filter (fun b => !trivial b.1)) []
    (by simp) (fun b hb => storedSide_of_mem_branches all t b (List.mem_filter.1 hb).1)

theorem partitions_renameR_err (t : Rose) (e : String) (hps : partitions t = .err e) :
    partitions (renameR f g t) = .err e := by
  rw [partitions_err_iff] at hps ⊢
  exact leafIndex_renameR_err hf g t e hps

end

end SPM
