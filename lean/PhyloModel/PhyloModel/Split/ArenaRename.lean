import PhyloModel.Split.RenameDist
import PhyloModel.Split.ArenaRescale
/-! Bridge for renaming: two arenas that agree on everything but the names — tip names mapped by `f`, the names
    of nodes with children by `g` — abstract to `t` and `renameR f g t`. -/
namespace SPM
open AR

/-- `b` is `a` with every tip renamed by `f` and every other node's name changed by `g` -/
def NameMapped (f : String → String) (g : Option String → Option String) (a b : Arena) : Prop :=
  b.size = a.size ∧ ∀ i, (nd b i).children = (nd a i).children ∧ (nd b i).parent = (nd a i).parent ∧
    (nd b i).pedge = (nd a i).pedge ∧ (nd b i).deleted = (nd a i).deleted ∧ (nd b i).depth = (nd a i).depth ∧
    (nd b i).name = (if (nd a i).children = [] then (nd a i).name.map f else g (nd a i).name)

theorem absRoot_nameMapped {f : String → String} {g : Option String → Option String} {a b : Arena}
    (h : NameMapped f g a b) (t : Rose) (ht : absRoot a = .ok t) : absRoot b = .ok (renameR f g t) :=
  absRoot_map h.1 (fun x => by unfold isLive; rw [h.1, (h.2 x).2.2.2.1]) (fun x _ => (h.2 x).1)
    (fun x _ => (h.2 x).2.1)
    (fun x ks _ hnil => by
      obtain ⟨_, _, p2, _, p4, p5⟩ := h.2 x
      rw [renameR_node, p2, p4, p5]
      by_cases hk : (nd a x).children = []
      · rw [if_pos hk, if_pos (hnil.2 hk)]
      · rw [if_neg hk, if_neg fun e => hk (hnil.1 e)]) t ht

theorem rf_nameMapped {f : String → String} (hf : Function.Injective f) {g g' : Option String → Option String}
    {a a' b b' : Arena} (ha : NameMapped f g a a') (hb : NameMapped f g' b b') (s o : Rose)
    (hs : absRoot a = .ok s) (ho : absRoot b = .ok o) :
    ∃ s' o', absRoot a' = .ok s' ∧ absRoot b' = .ok o' ∧ rf s' o' = rf s o ∧
      compareTopologies s' o' = compareTopologies s o :=
  ⟨_, _, absRoot_nameMapped ha s hs, absRoot_nameMapped hb o ho, rf_renameR hf g g' s o,
    compareTopologies_renameR hf g g' s o⟩

end SPM
