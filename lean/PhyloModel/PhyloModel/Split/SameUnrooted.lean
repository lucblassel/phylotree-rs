import PhyloModel.Split.ReorderDist
import PhyloModel.Split.Unary
import PhyloModel.Split.RootStyle
/-! The three shape invariances composed: the closure of child reordering, unary-node insertion/removal (and
    changes of decoration) and re-drawing the root (two-child root versus its first child dissolved) — "the same
    unrooted leaf-labelled tree" — keeps the leaf index and the reported set. -/
namespace SPM
open AR

theorem SameReport.refl (t : Rose) : SameReport t t := ⟨rfl, fun ps h => ⟨ps, h, fun _ => Iff.rfl⟩⟩

theorem SameReport.symm {t t' : Rose} (h : SameReport t t') : SameReport t' t := by
  refine ⟨h.1.symm, ?_⟩
  intro ps' hps'
  obtain ⟨all, hall'⟩ := leafIndex_ok_of_partitions t' ps' hps'
  obtain ⟨ps, hps⟩ := partitions_ok_of_leafIndex t all (by rw [← h.1, hall'])
  obtain ⟨ps'', h1, h2⟩ := h.2 ps hps
  rw [hps'] at h1
  cases h1
  exact ⟨ps, hps, fun x => (h2 x).symm⟩

theorem SameReport.trans {a b c : Rose} (h1 : SameReport a b) (h2 : SameReport b c) : SameReport a c := by
  refine ⟨h2.1.trans h1.1, ?_⟩
  intro ps hps
  obtain ⟨ps1, hp1, hm1⟩ := h1.2 ps hps
  obtain ⟨ps2, hp2, hm2⟩ := h2.2 ps1 hp1
  exact ⟨ps2, hp2, fun x => (hm1 x).trans (hm2 x)⟩

/-- the same unrooted leaf-labelled tree, drawn differently -/
inductive SameUnrooted : Rose → Rose → Prop where
  | reorder {t t'} : ReorderR t t' → SameUnrooted t t'
  | unary {t t'} : UnaryEq t t' → SameUnrooted t t'
  | rootStyle {i n l d ix nx lx dx kx Y i' n' l' d'} : kx ≠ [] →
      SameUnrooted (.node i n l d [.node ix nx lx dx kx, Y]) (.node i' n' l' d' (kx ++ [Y]))
  | symm {t t'} : SameUnrooted t t' → SameUnrooted t' t
  | trans {a b c} : SameUnrooted a b → SameUnrooted b c → SameUnrooted a c

theorem sameUnrooted_report {t t' : Rose} (h : SameUnrooted t t') : SameReport t t' := by
  induction h with
  | reorder h => exact (rfSame_of_reorder h).sameReport
  | unary h => exact (rfSame_of_unary h).sameReport
  | rootStyle hkx => exact sameReport_root_style _ _ _ _ _ _ _ _ _ _ _ _ _ _ hkx
  | symm _ ih => exact ih.symm
  | trans _ _ ih1 ih2 => exact ih1.trans ih2

end SPM
