import PhyloModel.Split.RenameDist
/-! The reported set of a renamed tree, read as NAME SETS: the split `{A, rest}` is reported for the tree iff
    the split `{f A, rest}` is reported for the renamed tree; read back through `namesOf`, a reported side of the
    renamed tree lists the image of the names listed by the corresponding side of the tree, or the image of
    their complement (which of the two sides is stored depends on the sorted order, which `f` changes). -/
namespace SPM
open AR

section
variable {f : String → String} (hf : Function.Injective f) (g : Option String → Option String)
include hf

theorem sides_renameR (t : Rose) (all : List String) (ps : List Part)
    (hall : leafIndex t = .ok all) (hps : partitions t = .ok ps) :
    ∃ ps', partitions (renameR f g t) = .ok ps' ∧ sides ps' = (sides ps).map (phi f all) :=
  ⟨_, partitions_renameR hf g t all ps hall hps, sides_mapP all ps⟩

/-- reading a transported side back as names: the image of the names of the side, or of their complement
    (`phi` stores the image of the names listed by the side; which of the two sides of that split is the stored
    one decides the case) -/
theorem namesOf_phi (all : List String) (x : Side) :
    (∀ y, y ∈ namesOf (sigma f all) (phi f all x) ↔ ∃ z, z ∈ namesOf all x ∧ f z = y) ∨
    (∀ y, y ∈ namesOf (sigma f all) (phi f all x) ↔ ∃ z, z ∈ all ∧ z ∉ namesOf all x ∧ f z = y) := by
  unfold phi
  rcases namesOf_canon_mask (sigma f all) ((namesOf all x).map f) with h | h
  · left; intro y
    rw [h, mem_sigma, List.mem_map]
    exact ⟨fun h => h.2, fun ⟨z, hz, e⟩ => ⟨⟨z, mem_of_mem_namesOf hz, e⟩, z, hz, e⟩⟩
  · right; intro y
    rw [h, mem_sigma]
    constructor
    · rintro ⟨⟨z, hz, rfl⟩, hn⟩
      exact ⟨z, hz, fun h' => hn (List.mem_map_of_mem h'), rfl⟩
    · rintro ⟨z, hz, hn, rfl⟩
      exact ⟨⟨z, hz, rfl⟩, fun h' => hn ((mem_map_inj hf _ z).1 h')⟩

end

end SPM
