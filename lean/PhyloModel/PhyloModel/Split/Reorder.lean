import PhyloModel.Split.PartSpec
import PhyloModel.Props.C05
/-! Child reordering on the executable rose trees: the leaf index is unchanged and the partition map is the
    same set of sides with the same accumulated lengths. -/
namespace SPM
open AR

inductive ReorderR : Rose → Rose → Prop where
  | here {i n l d ks ks'} : List.Perm ks ks' → ReorderR (.node i n l d ks) (.node i n l d ks')
  | inside {i n l d l1 l2 k k'} : ReorderR k k' →
      ReorderR (.node i n l d (l1 ++ k :: l2)) (.node i n l d (l1 ++ k' :: l2))
  | refl {t} : ReorderR t t
  | trans {a b c} : ReorderR a b → ReorderR b c → ReorderR a c

/-- what a reordering preserves (everything the split machinery reads) -/
structure REqv (t t' : Rose) : Prop where
  tips : (tipNames t).Perm (tipNames t')
  br : ∀ all, (branches all t).Perm (branches all t')
  leafy : t.kids = [] ↔ t'.kids = []
  depth : t.depth = t'.depth
  len : t.len = t'.len
  rs : ∀ all, (t.kids.map (sideOf all)).Perm (t'.kids.map (sideOf all))

theorem REqv.side {t t' : Rose} (h : REqv t t') (all : List String) : sideOf all t = sideOf all t' :=
  C05.side_of_name_set all t t' fun _ => (h.tips.filterMap id).mem_iff

theorem REqv.headB {t t' : Rose} (h : REqv t t') (all : List String) : headB all t = headB all t' := by
  unfold SPM.headB
  by_cases hk : t.kids = []
  · rw [if_pos hk, if_pos (h.leafy.1 hk)]
  · rw [if_neg hk, if_neg (fun h' => hk (h.leafy.2 h')), h.side all, h.depth, h.len]

theorem REqv.refl (t : Rose) : REqv t t :=
  ⟨List.Perm.refl _, fun _ => List.Perm.refl _, Iff.rfl, rfl, rfl, fun _ => List.Perm.refl _⟩

theorem REqv.trans {a b c : Rose} (h1 : REqv a b) (h2 : REqv b c) : REqv a c :=
  ⟨h1.tips.trans h2.tips, fun all => (h1.br all).trans (h2.br all), h1.leafy.trans h2.leafy,
   h1.depth.trans h2.depth, h1.len.trans h2.len, fun all => (h1.rs all).trans (h2.rs all)⟩

theorem reorder_reqv {t t' : Rose} (h : ReorderR t t') : REqv t t' := by
  induction h with
  | @here i n l d ks ks' hp =>
    by_cases hne : ks = []
    · subst hne
      have : ks' = [] := List.Perm.eq_nil hp.symm
      subst this
      exact REqv.refl _
    · have hne' : ks' ≠ [] := by intro h; subst h; exact hne (List.Perm.eq_nil hp)
      refine ⟨?_, ?_, ?_, rfl, rfl, ?_⟩
      · rw [tipNames_node_ne _ _ _ _ _ hne, tipNames_node_ne _ _ _ _ _ hne']
        exact hp.flatMap_right _
      · intro all
        rw [branches_node, branches_node, branchesL_eq_flatMap, branchesL_eq_flatMap]
        exact hp.flatMap_right _
      · simp [Rose.kids, hne, hne']
      · intro all; exact hp.map _
  | @inside i n l d l1 l2 k k' _ ih =>
    have hne : l1 ++ k :: l2 ≠ [] := by simp
    have hne' : l1 ++ k' :: l2 ≠ [] := by simp
    refine ⟨?_, ?_, ?_, rfl, rfl, ?_⟩
    · rw [tipNames_node_ne _ _ _ _ _ hne, tipNames_node_ne _ _ _ _ _ hne']
      simp only [List.flatMap_append, List.flatMap_cons]
      exact (List.Perm.refl _).append (ih.tips.append (List.Perm.refl _))
    · intro all
      rw [branches_node, branches_node, branchesL_eq_flatMap, branchesL_eq_flatMap]
      simp only [List.flatMap_append, List.flatMap_cons]
      rw [ih.headB all]
      exact (List.Perm.refl _).append
        (((List.Perm.refl _).append (ih.br all)).append (List.Perm.refl _))
    · simp [Rose.kids]
    · intro all
      simp only [Rose.kids, List.map_append, List.map_cons, ih.side all]
      exact List.Perm.refl _
  | refl => exact REqv.refl _
  | trans _ _ ih1 ih2 => exact ih1.trans ih2

theorem leafIndex_reorder {t t' : Rose} (h : ReorderR t t') : leafIndex t' = leafIndex t :=
  leafIndex_perm t t' (reorder_reqv h).tips

theorem partitions_reorder {t t' : Rose} (h : ReorderR t t') (ps : List Part) (hps : partitions t = .ok ps) :
    ∃ ps', partitions t' = .ok ps' ∧ PartEq ps ps' := by
  obtain ⟨all, hall⟩ := leafIndex_ok_of_partitions t ps hps
  have hall' : leafIndex t' = .ok all := by rw [leafIndex_reorder h, hall]
  obtain ⟨ps', hps'⟩ := partitions_ok_of_leafIndex t' all hall'
  exact ⟨ps', hps', partEq_of_perm (partitions_spec t all ps hall hps) (partitions_spec t' all ps' hall' hps')
    (((reorder_reqv h).br all).filter _)⟩

theorem partitions_reorder_set {t t' : Rose} (h : ReorderR t t') (ps : List Part) (hps : partitions t = .ok ps) :
    ∃ ps', partitions t' = .ok ps' ∧ (∀ x, x ∈ sides ps ↔ x ∈ sides ps') ∧ (sides ps).Perm (sides ps') := by
  obtain ⟨ps', h1, h2⟩ := partitions_reorder h ps hps
  exact ⟨ps', h1, h2.mem, h2.perm⟩

theorem partitions_reorder_err {t t' : Rose} (h : ReorderR t t') (e : String) (hps : partitions t = .err e) :
    partitions t' = .err e := by
  rw [partitions_err_iff] at hps ⊢
  rw [leafIndex_reorder h, hps]

theorem ReorderR.symm {t t' : Rose} (h : ReorderR t t') : ReorderR t' t := by
  induction h with
  | here hp => exact .here hp.symm
  | inside _ ih => exact .inside ih
  | refl => exact .refl
  | trans _ _ ih1 ih2 => exact .trans ih2 ih1

end SPM
