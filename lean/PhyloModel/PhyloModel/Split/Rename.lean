import PhyloModel.Split.Unary
/-! Consistent renaming of the taxa by an injective `f : String → String` on the executable rose trees.
    The leaf index is re-sorted, so every bit position may change; the stored sides are transported by a map
    `phi` that is injective on the sides that can occur, and the partition map of the renamed tree is the
    image of the partition map of the tree, entry by entry. -/
namespace SPM
open AR

theorem namesOf_map (all : List String) (p : String → Bool) : namesOf all (all.map p) = all.filter p := by
  unfold namesOf
  induction all with
  | nil => rfl
  | cons a all ih =>
    simp only [List.map_cons, List.zip_cons_cons, List.filterMap_cons, List.filter_cons]
    cases h : p a <;> simp [ih]

theorem mem_of_mem_namesOf {all : List String} {m : Side} {z : String} (h : z ∈ namesOf all m) : z ∈ all := by
  obtain ⟨p, hp, e⟩ := List.mem_filterMap.1 h
  split at e
  · cases e; exact (List.of_mem_zip hp).1
  · cases e

theorem namesOf_maskOf (all A : List String) : namesOf all (maskOf all A) = all.filter (fun x => A.contains x) :=
  namesOf_map all _

theorem namesOf_flip_maskOf (all A : List String) :
    namesOf all (flip (maskOf all A)) = all.filter (fun x => !A.contains x) := by
  have : flip (maskOf all A) = all.map (fun x => !A.contains x) := by
    unfold flip maskOf; rw [List.map_map]; rfl
  rw [this]; exact namesOf_map all _

theorem namesOf_canon_mask (all A : List String) :
    (∀ z, z ∈ namesOf all (canon (maskOf all A)) ↔ (z ∈ all ∧ z ∈ A)) ∨
    (∀ z, z ∈ namesOf all (canon (maskOf all A)) ↔ (z ∈ all ∧ z ∉ A)) := by
  rcases canon_eq (maskOf all A) with h | h
  · left; intro z; rw [h, namesOf_maskOf]; simp
  · right; intro z; rw [h, namesOf_flip_maskOf]; simp

/-- the renamed leaf index -/
def sigma (f : String → String) (all : List String) : List String := sortS (all.map f)

theorem mem_sigma (f : String → String) (all : List String) (y : String) :
    y ∈ sigma f all ↔ ∃ x ∈ all, f x = y := by
  unfold sigma
  rw [(sortS_perm _).mem_iff, List.mem_map]

/-- transport of a stored side along the renaming: read the side back as names, rename, store again -/
def phi (f : String → String) (all : List String) (m : Side) : Side :=
  canon (maskOf (sigma f all) ((namesOf all m).map f))

theorem mem_map_inj {f : String → String} (hf : Function.Injective f) (A : List String) (x : String) :
    f x ∈ A.map f ↔ x ∈ A := by
  rw [List.mem_map]
  constructor
  · rintro ⟨a, ha, he⟩; rw [← hf he]; exact ha
  · intro h; exact ⟨x, h, rfl⟩

theorem forall_mem_sigma (f : String → String) (all : List String) (P : String → Prop) :
    (∀ y ∈ sigma f all, P y) ↔ ∀ x ∈ all, P (f x) := by
  simp only [mem_sigma]
  exact ⟨fun h x hx => h _ ⟨x, hx, rfl⟩, fun h y ⟨x, hx, e⟩ => e ▸ h x hx⟩

/-- the transported side of the split `{A, rest}` is the stored side of `{f A, rest}` -/
theorem phi_canon_mask {f : String → String} (hf : Function.Injective f) (all A : List String) :
    phi f all (canon (maskOf all A)) = canon (maskOf (sigma f all) (A.map f)) := by
  unfold phi
  rw [canon_mask_eq_iff]
  simp only [forall_mem_sigma, mem_map_inj hf]
  rcases namesOf_canon_mask all A with h | h
  · left; intro x hx; rw [h x]; exact and_iff_right hx
  · right; intro x hx; rw [h x]; exact and_iff_right hx

/-- the sides that can occur: stored sides of name lists -/
def StoredSide (all : List String) (m : Side) : Prop := ∃ A, m = canon (maskOf all A)

theorem storedSide_sideOf (all : List String) (t : Rose) : StoredSide all (sideOf all t) := ⟨names t, rfl⟩

theorem canon_mask_rename_iff {f : String → String} (hf : Function.Injective f) (all A B : List String) :
    canon (maskOf (sigma f all) (A.map f)) = canon (maskOf (sigma f all) (B.map f)) ↔
      canon (maskOf all A) = canon (maskOf all B) := by
  rw [canon_mask_eq_iff, canon_mask_eq_iff]
  simp only [forall_mem_sigma, mem_map_inj hf]

theorem phi_inj {f : String → String} (hf : Function.Injective f) (all : List String) (m m' : Side)
    (hm : StoredSide all m) (hm' : StoredSide all m') : phi f all m = phi f all m' ↔ m = m' := by
  obtain ⟨A, rfl⟩ := hm
  obtain ⟨B, rfl⟩ := hm'
  rw [phi_canon_mask hf, phi_canon_mask hf, canon_mask_rename_iff hf]

theorem phi_beq {f : String → String} (hf : Function.Injective f) (all : List String) (m m' : Side)
    (hm : StoredSide all m) (hm' : StoredSide all m') : (phi f all m == phi f all m') = (m == m') := by
  rw [Bool.eq_iff_iff]
  simp only [beq_iff_eq]
  exact phi_inj hf all m m' hm hm'

theorem ones_rename {f : String → String} (hf : Function.Injective f) (all A : List String) :
    ones (maskOf (sigma f all) (A.map f)) = ones (maskOf all A) := by
  rw [ones_eq_countP, ones_eq_countP]
  unfold sigma
  rw [(sortS_perm _).countP_eq, List.countP_map]
  apply List.countP_congr
  intro x _
  simp only [Function.comp, List.contains_eq_mem, decide_eq_true_eq]
  rw [mem_map_inj hf]

theorem length_sigma (f : String → String) (all : List String) : (sigma f all).length = all.length := by
  unfold sigma
  rw [(sortS_perm _).length_eq, List.length_map]

theorem trivial_phi {f : String → String} (hf : Function.Injective f) (all : List String) (m : Side)
    (hm : StoredSide all m) : trivial (phi f all m) = trivial m := by
  obtain ⟨A, rfl⟩ := hm
  rw [phi_canon_mask hf, trivial_canon, trivial_canon]
  unfold trivial
  rw [ones_rename hf]
  simp [maskOf, length_sigma]

end SPM
