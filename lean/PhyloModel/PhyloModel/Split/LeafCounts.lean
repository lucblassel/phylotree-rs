import PhyloModel.Split.Rename
/-! "At least two leaves on each side" in terms of LEAVES (not bits): for a tree with a leaf index, the number
    of set bits of the mask of a branch is the number of leaves below the branch, so a side is reported iff it
    is the stored side of a non-root internal node with at least two leaves below it and at least two leaves
    elsewhere (`C05.reported_iff_leaf_counts`). -/
namespace SPM
open AR C05

theorem ones_maskOf_eq_length (all A : List String) (hall : all.Nodup) (hA : A.Nodup) (hsub : ∀ x ∈ A, x ∈ all) :
    ones (maskOf all A) = A.length := by
  rw [ones_eq_countP, List.countP_eq_length_filter]
  apply List.Perm.length_eq
  rw [List.perm_ext_iff_of_nodup (hall.filter _) hA]
  intro x
  simp only [List.mem_filter, List.contains_eq_mem, decide_eq_true_eq]
  exact ⟨fun h => h.2, fun h => ⟨hsub x h, h⟩⟩

theorem inner_node (i : Nat) (n : Option String) (l : Option Int) (d : Nat) (ks : List Rose) :
    inner (.node i n l d ks) = innerL ks := by rw [inner]
theorem innerL_nil : innerL [] = [] := by rw [innerL]
theorem mem_innerL_cons (k : Rose) (ks : List Rose) (v : Rose) :
    v ∈ innerL (k :: ks) ↔ ((v = k ∧ k.kids ≠ []) ∨ v ∈ inner k ∨ v ∈ innerL ks) := by
  cases k with
  | node i n l d kk =>
    cases kk with
    | nil => rw [innerL]; simp [Rose.kids]
    | cons k1 kk => rw [innerL]; simp [Rose.kids]

mutual
theorem tipNames_sublist_inner : ∀ (t v : Rose), v ∈ inner t → (tipNames v).Sublist (tipNames t)
  | .node i n l d [], v, hv => by rw [inner_node, innerL_nil] at hv; cases hv
  | .node i n l d (k :: ks), v, hv => by
    rw [inner_node] at hv
    rw [tipNames_cons]
    exact tipNames_sublist_innerL (k :: ks) v hv
theorem tipNames_sublist_innerL : ∀ (ks : List Rose) (v : Rose), v ∈ innerL ks → (tipNames v).Sublist (tipNamesL ks)
  | [], v, hv => by rw [innerL_nil] at hv; cases hv
  | k :: ks, v, hv => by
    rw [tipNamesL_cons]
    rcases (mem_innerL_cons k ks v).1 hv with ⟨rfl, _⟩ | h | h
    · exact List.sublist_append_left _ _
    · exact (tipNames_sublist_inner k v h).trans (List.sublist_append_left _ _)
    · exact (tipNames_sublist_innerL ks v h).trans (List.sublist_append_right _ _)
end

theorem names_sublist_inner (t v : Rose) (hv : v ∈ inner t) : (names v).Sublist (names t) :=
  (tipNames_sublist_inner t v hv).filterMap id

theorem ones_sideOf_inner (t : Rose) (all : List String) (hall : leafIndex t = .ok all) (v : Rose) (hv : v ∈ inner t) :
    ones (maskOf all (names v)) = (names v).length ∧
    ones (flip (maskOf all (names v))) + (names v).length = all.length := by
  obtain ⟨_, hnd, _⟩ := (leafIndex_ok_iff t all).1 hall
  have hsub := names_sublist_inner t v hv
  have h1 := ones_maskOf_eq_length all (names v) (leafIndex_nodup t all hall) (hsub.nodup hnd)
    (fun x hx => (mem_leafIndex t all hall x).2 (hsub.subset hx))
  refine ⟨h1, ?_⟩
  have := ones_flip (maskOf all (names v))
  have hl : (maskOf all (names v)).length = all.length := by simp [maskOf]
  omega

end SPM
