import PhyloModel.Split.ShapeEq
import PhyloModel.Arena.OpsInv
/-! Bridge from the arena operation `compress` (every `compress_node` step: splice a one-child non-root node
    out, append its child to the END of the grandparent's child list, add the two lengths, repair depths) to
    the rose level: the abstraction of the result is `ShapeEq` (child reordering + unary nodes + decoration) to
    the abstraction of the input.  Hence `compress` changes neither the leaf index nor the reported set. -/
namespace SPM
open AR

theorem erase_mid (L1 L2 : List Nat) (v c : Nat) (h : v ∉ L1) :
    ((L1 ++ v :: L2) ++ [c]).erase v = L1 ++ (L2 ++ [c]) := by
  rw [List.append_assoc, List.erase_append_right _ h, List.cons_append, List.erase_cons_head]

/-- the abstraction below any node but the spliced one, before and after a successful `compress_node v` (`v` with
    parent `p` and only child `c`): the unary node `v` goes, `c` moves to the end of the children of `p` -/
theorem absF_spliced {a a' : Arena} {v p c : Nat} {e : Option Int} (hinv : Inv a) (hlv : live a v)
    (hpar : (nd a v).parent = some p) (hch : (nd a v).children = [c]) (s : SplicedFx a a' v p c e) :
    ∀ (f x : Nat) (t : Rose), x ≠ v → absF f a x = some t → ∃ t', absF f a' x = some t' ∧ ShapeEq t t' := by
  obtain ⟨_, _, _, hvc, hvp⟩ := splice_ne hinv hlv hpar hch
  have vmem := (hinv.parent_ok v p hlv hpar).2
  have liveo : ∀ i, i ≠ v → isLive a i = true → isLive a' i = true := fun i hi hl =>
    (isLive_iff a' i).2 ((s.live_iff i).2 ⟨(isLive_iff a i).1 hl, hi⟩)
  -- `v` is listed by its parent only
  have vonly : ∀ i, isLive a i = true → v ∈ (nd a i).children → i = p := fun i hli hvi => by
    have := (hinv.child_ok i v ((isLive_iff a i).1 hli) hvi).2.1
    rw [hpar] at this
    exact (Option.some.inj this).symm
  have name : ∀ i, i ≠ v → (nd a' i).name = (nd a i).name := fun i hi => by rw [s.name, if_neg hi]
  intro f
  induction f with
  | zero => intro x t _ h; simp [absF] at h
  | succ f ih =>
    intro x t hxv h
    obtain ⟨hl, ks, hm, rfl⟩ := (absF_some_iff a f x t).1 h
    have hl' : isLive a' x = true := liveo x hxv hl
    by_cases hxp : x = p
    · subst hxp
      obtain ⟨L1, L2, hcs⟩ := List.append_of_mem vmem
      have hnd := hinv.nodup x
      rw [hcs] at hnd hm
      have hv1 : v ∉ L1 := by
        intro hv
        have := (List.nodup_append.1 hnd).2.2 v hv v List.mem_cons_self
        exact this rfl
      have hv2 : v ∉ L2 := by
        have := (List.nodup_append.1 hnd).2.1
        exact (List.nodup_cons.1 this).1
      obtain ⟨r1, r2, hm1, hm2, rfl⟩ := (mapM_append_some _ L1 (v :: L2) ks).1 hm
      obtain ⟨tv, r2', hmv, hm3, rfl⟩ := (mapM_cons_some _ v L2 r2).1 hm2
      -- the spliced node: a unary node above the abstraction of `c`
      cases f with
      | zero => simp [absF] at hmv
      | succ f0 =>
        obtain ⟨_, kv, hkv, rfl⟩ := (absF_some_iff a f0 v tv).1 hmv
        rw [hch] at hkv
        obtain ⟨tc, htc, rfl⟩ := (mapM_single_some _ c kv).1 hkv
        have htc1 : absF (f0 + 1) a c = some tc := absF_mono a f0 c tc htc
        obtain ⟨tc', htc', hSc⟩ := ih c tc (Ne.symm hvc) htc1
        obtain ⟨r1', hm1', hF1⟩ := mapM_forall2 (fun c => absF (f0 + 1) a c) (fun c => absF (f0 + 1) a' c) ShapeEq L1 r1 hm1
          (fun ch hch y hy => ih ch y (fun e => hv1 (e ▸ hch)) hy)
        obtain ⟨r2'', hm3', hF2⟩ := mapM_forall2 (fun c => absF (f0 + 1) a c) (fun c => absF (f0 + 1) a' c) ShapeEq L2 r2' hm3
          (fun ch hch y hy => ih ch y (fun e => hv2 (e ▸ hch)) hy)
        have hk' : (nd a' x).children = L1 ++ (L2 ++ [c]) := by
          rw [s.children, if_neg hxv, if_pos rfl, hcs]; exact erase_mid L1 L2 v c hv1
        have hm' : (nd a' x).children.mapM (fun c => absF (f0 + 1) a' c) = some (r1' ++ (r2'' ++ [tc'])) := by
          rw [hk']
          exact (mapM_append_some _ L1 (L2 ++ [c]) _).2 ⟨r1', r2'' ++ [tc'], hm1',
            (mapM_append_some _ L2 [c] _).2 ⟨r2'', [tc'], hm3', (mapM_single_some _ c _).2 ⟨tc', htc', rfl⟩, rfl⟩, rfl⟩
        refine ⟨.node x (nd a' x).name (nd a' x).pedge (nd a' x).depth (r1' ++ (r2'' ++ [tc'])),
          (absF_some_iff a' (f0 + 1) x _).2 ⟨hl', _, hm', rfl⟩, ?_⟩
        rw [name x hxv]
        let N : List Rose → Rose := .node x (nd a x).name (nd a x).pedge (nd a x).depth
        let U : Rose → Rose := fun t => .node v (nd a v).name (nd a v).pedge (nd a v).depth [t]
        -- inside the children left of `v`, inside the unary node `v`, inside the children right of `v`
        have s1 : ShapeEq (N (r1 ++ U tc :: r2')) (N (r1' ++ U tc :: r2')) := by
          simpa using ShapeEq.kids_pointwise x _ _ _ r1 r1' hF1 [] (U tc :: r2')
        have s2 : ShapeEq (N (r1' ++ U tc :: r2')) (N (r1' ++ U tc' :: r2')) :=
          ShapeEq.inside (ShapeEq.inside (l1 := []) (l2 := []) hSc)
        have s3 : ShapeEq (N (r1' ++ U tc' :: r2')) (N (r1' ++ U tc' :: r2'')) := by
          simpa using ShapeEq.kids_pointwise x _ _ _ r2' r2'' hF2 (r1' ++ [U tc']) []
        -- remove the unary node, move its child to the end, change the decoration of the node itself
        have s4 : ShapeEq (N (r1' ++ U tc' :: r2'')) (N (r1' ++ tc' :: r2'')) := .unary (.symm (.step .here))
        have s5 : ShapeEq (N (r1' ++ tc' :: r2'')) (N (r1' ++ (r2'' ++ [tc']))) :=
          .reorder (.here ((List.perm_append_comm (l₁ := [tc']) (l₂ := r2'')).append_left r1'))
        exact s1.trans (s2.trans (s3.trans (s4.trans (s5.trans (ShapeEq.relabel _ _ _ _ _ _ _ _)))))
    · have hk : (nd a' x).children = (nd a x).children := by rw [s.children, if_neg hxv, if_neg hxp]
      have hvn : ∀ ch ∈ (nd a x).children, ch ≠ v := fun ch hch e => hxp (vonly x hl (e ▸ hch))
      obtain ⟨ks', hm', hF⟩ := mapM_forall2 (fun c => absF f a c) (fun c => absF f a' c) ShapeEq _ ks hm
        (fun ch hch y hy => ih ch y (hvn ch hch) hy)
      refine ⟨.node x (nd a' x).name (nd a' x).pedge (nd a' x).depth ks',
        (absF_some_iff a' f x _).2 ⟨hl', ks', by rw [hk]; exact hm', rfl⟩, ?_⟩
      rw [name x hxv]
      have h1 := ShapeEq.kids_pointwise x (nd a x).name (nd a x).pedge (nd a x).depth ks ks' hF [] []
      simp only [List.nil_append, List.append_nil] at h1
      exact .trans h1 (ShapeEq.relabel _ _ _ _ _ _ _ _)

theorem absRoot_spliced {a a' : Arena} {v p c : Nat} {e : Option Int} (hinv : Inv a) (hlv : live a v)
    (hpar : (nd a v).parent = some p) (hch : (nd a v).children = [c]) (s : SplicedFx a a' v p c e) (t : Rose)
    (ht : absRoot a = .ok t) : ∃ t', absRoot a' = .ok t' ∧ ShapeEq t t' := by
  have hcpar := (hinv.child_ok v c hlv (by rw [hch]; exact List.mem_singleton.2 rfl)).2.1
  have hlive : ∀ i, isLive a' i = (isLive a i && decide (i ≠ v)) := fun i => by
    rw [Bool.eq_iff_iff, Bool.and_eq_true, isLive_iff, isLive_iff, decide_eq_true_iff]; exact s.live_iff i
  -- the same root: `v` was none (it has a parent), `c` has a parent before and after
  have hr : getRoot a' = getRoot a := getRoot_congr s.size fun i => by
    rw [hlive, s.parent]
    by_cases hiv : i = v
    · rw [hiv, hpar]; simp
    · by_cases hic : i = c
      · rw [hic, hcpar]; simp
      · simp [hiv, hic]
  refine absRoot_lift s.size hr (fun r t0 hg => absF_spliced hinv hlv hpar hch s (fuelOf a) r t0 fun e => ?_) t ht
  have := List.find?_some hg
  rw [e, hpar] at this
  simp at this

theorem compressNode_shape {a : Arena} (v : Nat) (g : Good a) (t : Rose) (ht : absRoot a = .ok t) :
    ∃ t', absRoot (compressNode a v).1 = .ok t' ∧ ShapeEq t t' := by
  rcases compressNode_cases v g with ⟨h1, _⟩ | ⟨p, c, e, a2, hlv, hpar, hch, _, _, s, h⟩
  · rw [h1]; exact ⟨t, ht, .refl t⟩
  · rw [h]; exact absRoot_spliced g.1 hlv hpar hch s t ht

/-- **`compress` keeps the unrooted leaf-labelled tree**: whatever its outcome, the abstraction of the resulting
    arena is related to the abstraction of the input by child reordering and unary-node removal (plus
    decoration: the summed lengths, the repaired depths) -/
theorem compress_shape {a : Arena} (g : Good a) (t : Rose) (ht : absRoot a = .ok t) :
    ∃ t', absRoot (compress a).1 = .ok t' ∧ ShapeEq t t' :=
  (compressLoop_lift (I := Good)
    (R := fun a b => ∀ t, absRoot a = .ok t → ∃ t', absRoot b = .ok t' ∧ ShapeEq t t')
    (fun _ t ht => ⟨t, ht, .refl t⟩)
    (fun _ _ _ h1 h2 t ht =>
      let ⟨t1, ht1, s1⟩ := h1 t ht
      let ⟨t2, ht2, s2⟩ := h2 t1 ht1
      ⟨t2, ht2, s1.trans s2⟩)
    (fun _ v g => ⟨(compressNode_good v g).1, compressNode_shape v g⟩) _ g).2 t ht

end SPM
