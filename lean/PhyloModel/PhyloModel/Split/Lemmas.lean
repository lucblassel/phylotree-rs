import PhyloModel.Split.Model
/-! A few facts about lists, then the bitmask split model: complement symmetry of the canonical side and of the
    trivial-split test, the partition map as a duplicate-free set of canonical sides, counting. -/
namespace SPM

theorem find?_congr' {α : Type} (l : List α) (p q : α → Bool) (h : ∀ x ∈ l, p x = q x) : l.find? p = l.find? q := by
  induction l with
  | nil => rfl
  | cons a l ih =>
    simp only [List.find?_cons, h a List.mem_cons_self]
    rw [ih (fun x hx => h x (List.mem_cons_of_mem _ hx))]

theorem length_filter_split {α : Type} (p : α → Bool) (l : List α) :
    (l.filter p).length + (l.filter (fun x => !p x)).length = l.length := by
  induction l with
  | nil => simp
  | cons a l ih =>
    simp only [List.filter_cons]
    cases p a <;> simp <;> omega

theorem eraseDups_length_le {α : Type} [BEq α] : ∀ l : List α, l.eraseDups.length ≤ l.length
  | [] => by simp
  | a :: as => by
    rw [List.eraseDups_cons]
    have h1 := List.length_filter_le (fun b => !b == a) as
    have h2 := eraseDups_length_le (as.filter (fun b => !b == a))
    simp only [List.length_cons]
    omega
termination_by l => l.length
decreasing_by
  have := List.length_filter_le (fun b => !b == a) as
  simp only [List.length_cons]; omega

theorem nodup_of_eraseDups_length {α : Type} [BEq α] [LawfulBEq α] :
    ∀ l : List α, l.eraseDups.length = l.length → l.Nodup
  | [], _ => by simp
  | a :: as, he => by
    rw [List.eraseDups_cons] at he
    have h1 := List.length_filter_le (fun b => !b == a) as
    have h2 := eraseDups_length_le (as.filter (fun b => !b == a))
    simp only [List.length_cons] at he
    have hf : as.filter (fun b => !b == a) = as := List.filter_sublist.eq_of_length (by omega)
    rw [hf] at he
    have ih := nodup_of_eraseDups_length as (by omega)
    rw [List.nodup_cons]
    refine ⟨?_, ih⟩
    intro hmem
    have := (List.filter_eq_self.mp hf) a hmem
    simp at this

theorem eraseDups_of_nodup {α : Type} [BEq α] [LawfulBEq α] : ∀ l : List α, l.Nodup → l.eraseDups = l
  | [], _ => by simp
  | a :: as, hn => by
    rw [List.eraseDups_cons]
    rw [List.nodup_cons] at hn
    have hf : as.filter (fun b => !b == a) = as := List.filter_eq_self.mpr (by
      intro b hb
      have : b ≠ a := fun h => hn.1 (h ▸ hb)
      simpa using this)
    rw [hf, eraseDups_of_nodup as hn.2]

@[simp] theorem length_flip (m : Side) : (flip m).length = m.length := by simp [flip]

theorem flip_flip (m : Side) : flip (flip m) = m := by
  induction m with
  | nil => rfl
  | cons b m ih => simp only [flip, List.map_cons, Bool.not_not] at ih ⊢; rw [ih]

theorem ones_flip (m : Side) : ones (flip m) + ones m = m.length := by
  induction m with
  | nil => simp [ones, flip]
  | cons b m ih =>
    simp only [ones, flip] at ih ⊢
    cases b <;> simp <;> omega

theorem canon_head (m : Side) : (canon m).head? ≠ some true := by
  cases m with
  | nil => simp [canon]
  | cons b m => cases b <;> simp [canon, flip]

theorem canon_flip (m : Side) : canon (flip m) = canon m := by
  cases m with
  | nil => simp [canon, flip]
  | cons b m =>
    cases b
    · simp only [flip, List.map_cons, Bool.not_false, canon, Bool.not_true, List.map_map]
      congr 1
      induction m with
      | nil => rfl
      | cons c m ih => simp [ih]
    · simp [canon, flip]

theorem canon_eq (m : Side) : canon m = m ∨ canon m = flip m := by
  cases m with
  | nil => left; rfl
  | cons b m => cases b <;> simp [canon]

theorem canon_idem (m : Side) : canon (canon m) = canon m := by
  rcases canon_eq m with h | h
  · rw [h, h]
  · rw [h, canon_flip, h]

theorem trivial_flip (m : Side) : trivial (flip m) = trivial m := by
  have h := ones_flip m
  rw [Bool.eq_iff_iff]
  simp only [trivial, length_flip, Bool.or_eq_true, decide_eq_true_eq]
  omega

theorem trivial_canon (m : Side) : trivial (canon m) = trivial m := by
  rcases canon_eq m with h | h
  · rw [h]
  · rw [h, trivial_flip]

theorem not_trivial_iff (m : Side) : trivial m = false ↔ 2 ≤ ones m ∧ 2 ≤ ones (flip m) := by
  have h := ones_flip m
  rw [← Bool.not_eq_true]
  simp only [trivial, Bool.or_eq_true, decide_eq_true_eq]
  omega

theorem canon_inj (x y : Side) (h : canon x = canon y) : x = y ∨ x = flip y := by
  rcases canon_eq x with hx | hx <;> rcases canon_eq y with hy | hy
  · left; rw [← hx, ← hy, h]
  · right; rw [← hx, ← hy, h]
  · right; rw [← flip_flip x, ← hx, h, hy]
  · left; rw [← flip_flip x, ← flip_flip y, ← hx, ← hy, h]

@[simp] theorem length_maskOf (all A : List String) : (maskOf all A).length = all.length := by simp [maskOf]

theorem maskOf_eq_iff (all A B : List String) : maskOf all A = maskOf all B ↔ ∀ x ∈ all, (x ∈ A ↔ x ∈ B) := by
  unfold maskOf
  rw [List.map_inj_left]
  refine forall₂_congr fun x _ => ?_
  rw [List.contains_eq_mem, List.contains_eq_mem, decide_eq_decide]

theorem maskOf_eq_flip_iff (all A B : List String) :
    maskOf all A = flip (maskOf all B) ↔ ∀ x ∈ all, (x ∈ A ↔ x ∉ B) := by
  unfold maskOf flip
  rw [List.map_map, List.map_inj_left]
  refine forall₂_congr fun x _ => ?_
  by_cases ha : x ∈ A <;> by_cases hb : x ∈ B <;> simp [ha, hb]

theorem canon_mask_eq_iff (all A B : List String) :
    canon (maskOf all A) = canon (maskOf all B) ↔
      ((∀ x ∈ all, (x ∈ A ↔ x ∈ B)) ∨ (∀ x ∈ all, (x ∈ A ↔ x ∉ B))) := by
  rw [← maskOf_eq_iff, ← maskOf_eq_flip_iff]
  refine ⟨canon_inj _ _, fun h => ?_⟩
  rcases h with h | h
  · rw [h]
  · rw [h, canon_flip]

theorem ones_eq_countP (all A : List String) : ones (maskOf all A) = all.countP (fun x => A.contains x) := by
  unfold ones maskOf
  induction all with
  | nil => rfl
  | cons a all ih =>
    simp only [List.map_cons, List.countP_cons, List.count_cons, ih]
    cases A.contains a <;> simp

/-- the length a new entry for side `s` gets: accumulated onto the old one if `s` is in the map already -/
def newLen (m : List Part) (s : Side) (l : Option Int) : Option Int :=
  match m.find? (fun p => p.side == s) with
  | some p => accLen l p.len
  | none => l

theorem insertPart_eq (m : List Part) (s : Side) (d : Nat) (l : Option Int) :
    insertPart m s d l = m.filter (fun q => q.side != s) ++ [{ side := s, depth := d, len := newLen m s l }] := by
  unfold insertPart newLen
  cases h : m.find? (fun p => p.side == s) with
  | some p => rfl
  | none =>
    show _ = _ ++ _
    rw [List.filter_eq_self.2 fun q hq => by simpa using List.find?_eq_none.1 h q hq]

theorem sides_insertPart (m : List Part) (s : Side) (d : Nat) (l : Option Int) (x : Side) :
    x ∈ sides (insertPart m s d l) ↔ x ∈ sides m ∨ x = s := by
  simp only [insertPart_eq, sides, List.map_append, List.mem_append, List.mem_map, List.mem_filter, List.map_cons,
    List.map_nil, List.mem_singleton, bne_iff_ne]
  by_cases hx : x = s
  · simp [hx]
  · exact or_congr_left ⟨fun ⟨q, ⟨hq, _⟩, e⟩ => ⟨q, hq, e⟩, fun ⟨q, hq, e⟩ => ⟨q, ⟨hq, e ▸ hx⟩, e⟩⟩

theorem sides_nodup_insertPart (m : List Part) (s : Side) (d : Nat) (l : Option Int)
    (h : (sides m).Nodup) : (sides (insertPart m s d l)).Nodup := by
  rw [insertPart_eq, sides, List.map_append, List.nodup_append]
  refine ⟨(List.filter_sublist.map _).nodup h, by simp, ?_⟩
  rintro _ ha _ hb rfl
  obtain ⟨q, hq, rfl⟩ := List.mem_map.1 ha
  simp at hb
  simpa [hb] using (List.mem_filter.1 hq).2

/-- a partition map with its lengths -/
abbrev PM := List (Side × Nat × Int)

theorem length_eq_of_sides_perm {ps ps' : List Part} (h : (sides ps').Perm (sides ps)) : ps'.length = ps.length := by
  simpa [sides] using h.length_eq

theorem withLengths_keys (ps : List Part) (m : PM) (h : withLengths ps = .ok m) : m.map (·.1) = sides ps := by
  unfold withLengths at h
  split at h
  · cases h
  · cases h; simp [sides, List.map_map, Function.comp_def]

theorem inter_symm (a b : List Side) (ha : a.Nodup) (hb : b.Nodup) : inter a b = inter b a := by
  unfold inter
  apply List.Perm.length_eq
  rw [List.perm_ext_iff_of_nodup (ha.filter _) (hb.filter _)]
  intro x
  simp only [List.mem_filter, List.contains_eq_mem, decide_eq_true_eq]
  exact ⟨fun ⟨h1, h2⟩ => ⟨h2, h1⟩, fun ⟨h1, h2⟩ => ⟨h2, h1⟩⟩

theorem inter_le_left (a b : List Side) : inter a b ≤ a.length := by
  unfold inter; exact List.length_filter_le _ _

theorem delta_eq_symdiff (a b : List Side) (ha : a.Nodup) (hb : b.Nodup) :
    b.length + a.length - 2 * inter b a =
      (a.filter (fun s => !b.contains s)).length + (b.filter (fun s => !a.contains s)).length := by
  have h1 := length_filter_split (fun s => b.contains s) a
  have h2 := length_filter_split (fun s => a.contains s) b
  have h3 := inter_symm a b ha hb
  unfold inter at *
  omega

theorem sameSet_iff (a b : List Side) : sameSet a b = true ↔ ∀ x, x ∈ a ↔ x ∈ b := by
  unfold sameSet
  simp only [Bool.and_eq_true, List.all_eq_true, List.contains_eq_mem, decide_eq_true_eq]
  exact ⟨fun ⟨h1, h2⟩ x => ⟨h1 x, h2 x⟩, fun h => ⟨fun x => (h x).1, fun x => (h x).2⟩⟩

theorem mem_rootSides (all : List String) (t : AR.Rose) (x : Side) :
    x ∈ rootSides all t ↔ x ∈ t.kids.map (sideOf all) := by
  unfold rootSides; exact List.mem_eraseDups

theorem inter_congr (a a' b b' : List Side) (ha : a.Perm a') (hb : ∀ x, x ∈ b ↔ x ∈ b') :
    inter a b = inter a' b' := by
  unfold inter
  have : a.filter (fun s => b.contains s) = a.filter (fun s => b'.contains s) := by
    apply List.filter_congr
    intro x _
    simp only [List.contains_eq_mem]
    rw [decide_eq_decide]; exact hb x
  rw [this]
  exact (ha.filter _).length_eq

end SPM
