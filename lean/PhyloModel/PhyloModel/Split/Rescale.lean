import PhyloModel.Split.WeightedCongr
/-! Common rescaling of all branch lengths of a rose tree by an integer factor `k`: the partition map is the
    same with every accumulated length multiplied by `k`; weighted RF scales by `|k|`, the squared branch
    score by `k²` (executable functions, values and errors). -/
namespace SPM
open AR

mutual
def scaleR (k : Int) : Rose → Rose
  | .node i n l d ks => .node i n (l.map (fun x => k * x)) d (scaleL k ks)
def scaleL (k : Int) : List Rose → List Rose
  | [] => []
  | c :: cs => scaleR k c :: scaleL k cs
end

section
variable (k : Int)

theorem scaleR_node (i : Nat) (n : Option String) (l : Option Int) (d : Nat) (ks : List Rose) :
    scaleR k (.node i n l d ks) = .node i n (l.map (fun x => k * x)) d (scaleL k ks) := by rw [scaleR]
theorem scaleL_nil : scaleL k [] = [] := by rw [scaleL]
theorem scaleL_cons (c : Rose) (cs : List Rose) : scaleL k (c :: cs) = scaleR k c :: scaleL k cs := by rw [scaleL]

theorem scaleL_eq_nil (ks : List Rose) : scaleL k ks = [] ↔ ks = [] := by
  cases ks with
  | nil => rw [scaleL_nil]
  | cons c cs => rw [scaleL_cons]; simp

mutual
theorem tipNames_scaleR : ∀ t : Rose, tipNames (scaleR k t) = tipNames t
  | .node i n l d [] => by rw [scaleR_node, scaleL_nil, tipNames_leaf, tipNames_leaf]
  | .node i n l d (c :: cs) => by
    rw [scaleR_node, scaleL_cons, tipNames_cons, tipNames_cons, tipNamesL_cons, tipNamesL_cons,
      tipNames_scaleR c, tipNamesL_scaleL cs]
theorem tipNamesL_scaleL : ∀ ks : List Rose, tipNamesL (scaleL k ks) = tipNamesL ks
  | [] => by rw [scaleL_nil]
  | c :: cs => by rw [scaleL_cons, tipNamesL_cons, tipNamesL_cons, tipNames_scaleR c, tipNamesL_scaleL cs]
end

theorem leafIndex_scaleR (t : Rose) : leafIndex (scaleR k t) = leafIndex t :=
  leafIndex_perm t _ (.of_eq (tipNames_scaleR k t).symm)

theorem sideOf_scaleR (all : List String) (t : Rose) : sideOf all (scaleR k t) = sideOf all t :=
  sideOf_of_tips_eq all _ _ (tipNames_scaleR k t)

def scB (k : Int) (b : Side × Nat × Option Int) : Side × Nat × Option Int := (b.1, b.2.1, b.2.2.map (fun x => k * x))

theorem kids_scaleR (t : Rose) : (scaleR k t).kids = scaleL k t.kids := by
  cases t with
  | node i n l d ks => rw [scaleR_node]; rfl
theorem depth_scaleR (t : Rose) : (scaleR k t).depth = t.depth := by
  cases t with
  | node i n l d ks => rw [scaleR_node]; rfl
theorem len_scaleR (t : Rose) : (scaleR k t).len = t.len.map (fun x => k * x) := by
  cases t with
  | node i n l d ks => rw [scaleR_node]; rfl

theorem headB_scaleR (all : List String) (t : Rose) : headB all (scaleR k t) = (headB all t).map (scB k) := by
  unfold headB
  by_cases hk : t.kids = []
  · rw [if_pos hk, if_pos (by rw [kids_scaleR, scaleL_eq_nil]; exact hk)]; rfl
  · rw [if_neg hk, if_neg (by rw [kids_scaleR, scaleL_eq_nil]; exact hk), sideOf_scaleR, depth_scaleR, len_scaleR]
    rfl

mutual
theorem branches_scaleR (all : List String) : ∀ t : Rose, branches all (scaleR k t) = (branches all t).map (scB k)
  | .node i n l d ks => by
    rw [scaleR_node, branches_node, branches_node]
    exact branchesL_scaleL all ks
theorem branchesL_scaleL (all : List String) :
    ∀ ks : List Rose, branchesL all (scaleL k ks) = (branchesL all ks).map (scB k)
  | [] => by rw [scaleL_nil, branchesL_nil]; rfl
  | c :: cs => by
    rw [scaleL_cons, branchesL_cons, branchesL_cons, headB_scaleR, branches_scaleR all c, branchesL_scaleL all cs,
      List.map_append, List.map_append]
end

theorem nbranches_scaleR (all : List String) (t : Rose) :
    nbranches all (scaleR k t) = (nbranches all t).map (scB k) := by
  unfold nbranches
  rw [branches_scaleR, List.filter_map]
  rfl

def scP (k : Int) (p : Part) : Part := { side := p.side, depth := p.depth, len := p.len.map (fun x => k * x) }

theorem accLen_scale (a b : Option Int) :
    accLen (a.map (fun x => k * x)) (b.map (fun x => k * x)) = (accLen a b).map (fun x => k * x) := by
  cases a <;> cases b <;> simp [accLen, Int.mul_add]

theorem partitions_scaleR (t : Rose) :
    partitions (scaleR k t) =
      (match partitions t with
       | .ok ps => .ok (ps.map (scP k))
       | .err e => .err e
       | .panic => .panic) := by
  unfold partitions
  rw [leafIndex_scaleR]
  cases leafIndex t with
  | err e => rfl
  | panic => rfl
  | ok all =>
    simp only [QR.bind_ok, QR.pure_eq]
    have h1 := nbranches_scaleR k all t
    unfold nbranches at h1
    rw [h1]
    -- `scB k` unfolds to `trB id (·.map (k * ·))`, `scP k` to `trP id (·.map (k * ·))`
    exact congrArg QR.ok (foldl_insertPart_tr (φ := id) (accLen_scale k) (fun _ => True) (fun _ _ _ _ => rfl)
      ((branches all t).filter (fun b => !trivial b.1)) [] (by simp) (fun _ _ => True.intro))

theorem wmap_scaleR_rel (t : Rose) : QR.Rel (fun ms' ms => ms' = C07.scaleM k ms) (wmap (scaleR k t)) (wmap t) := by
  unfold wmap
  rw [partitions_scaleR]
  cases partitions t with
  | err e => rfl
  | panic => trivial
  -- `C07.scaleM k` unfolds to `List.map (trM id (k * ·))`
  | ok ps => exact withLengths_tr_rel id (k * ·) (fun _ => rfl) ps

theorem wsum_scaleR (F : Int → Int) (c : Int) (hF : ∀ x, F (k * x) = c * F x) (s o : Rose) :
    wsum F (scaleR k s) (scaleR k o) =
      (match wsum F s o with
       | .ok v => .ok (c * v)
       | .err e => .err e
       | .panic => .panic) := by
  have h : (match wsum F s o with
       | .ok v => .ok (c * v)
       | .err e => .err e
       | .panic => .panic) = wmap s >>= fun ms => wmap o >>= fun mo => pure (c * sumOver F ms mo) := by
    unfold wsum
    cases wmap s with
    | ok ms => cases wmap o <;> rfl
    | err e => rfl
    | panic => rfl
  rw [h]
  exact (wmap_scaleR_rel k s).bind_eq fun _ ms e1 => (wmap_scaleR_rel k o).bind_eq fun _ mo e2 => by
    rw [e1, e2, C07.sumOver_scale F k c hF]

theorem weighted_scaleR (s o : Rose) :
    wrf (scaleR k s) (scaleR k o) =
      (match wrf s o with
       | .ok v => .ok (iabs k * v)
       | .err e => .err e
       | .panic => .panic) ∧
    kf2 (scaleR k s) (scaleR k o) =
      (match kf2 s o with
       | .ok v => .ok (k * k * v)
       | .err e => .err e
       | .panic => .panic) := by
  simp only [wrf_eq_wsum, kf2_eq_wsum]
  exact ⟨wsum_scaleR k iabs (iabs k) (C07.iabs_mul k) s o,
    wsum_scaleR k _ (k * k) (fun x => by grind) s o⟩

theorem scaleL_eq_map : ∀ ks : List Rose, scaleL k ks = ks.map (scaleR k)
  | [] => by rw [scaleL_nil]; rfl
  | c :: cs => by rw [scaleL_cons, scaleL_eq_map cs]; rfl

theorem sides_scP (ps : List Part) : sides (ps.map (scP k)) = sides ps := by
  simp [sides, scP, List.map_map, Function.comp_def]

/-- RF does not read branch lengths -/
theorem rfSame_scaleR (t : Rose) : RFSame t (scaleR k t) := by
  refine ⟨leafIndex_scaleR k t, ?_, ?_, ?_⟩
  · unfold isRootedR; rw [kids_scaleR, scaleL_eq_map, List.length_map]
  · intro all x
    rw [mem_rootSides, mem_rootSides, kids_scaleR, scaleL_eq_map, List.map_map]
    have : (sideOf all ∘ scaleR k) = sideOf all := by
      funext c; exact sideOf_scaleR k all c
    rw [this]
  · intro ps hps
    refine ⟨ps.map (scP k), ?_, ?_⟩
    · rw [partitions_scaleR, hps]
    · intro x; rw [sides_scP]

theorem rf_scaleR (k' : Int) (s o : Rose) : rf (scaleR k s) (scaleR k' o) = rf s o :=
  rf_congr (rfSame_scaleR k s) (rfSame_scaleR k' o)

end

end SPM
