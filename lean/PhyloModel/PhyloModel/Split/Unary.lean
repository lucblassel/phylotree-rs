import PhyloModel.Split.RootStyle
/-! Unary nodes on the executable rose trees: inserting or removing a node with exactly one child (at any
    child position, any depth; also above the root) changes neither the leaf index nor the reported set. -/
namespace SPM
open AR

/-- one insertion of a unary node above the subtree `k` at some child position, anywhere in the tree, or one
    change of decoration (`relabel`) -/
inductive UnaryStep : Rose → Rose → Prop where
  | here {i n l d l1 l2 k iu nu lu du} :
      UnaryStep (.node i n l d (l1 ++ k :: l2)) (.node i n l d (l1 ++ (.node iu nu lu du [k]) :: l2))
  | inside {i n l d l1 l2 k k'} : UnaryStep k k' →
      UnaryStep (.node i n l d (l1 ++ k :: l2)) (.node i n l d (l1 ++ k' :: l2))
  /-- decoration the split machinery's SET result never reads: the id, length and depth of any node and the
      name of an internal node may change too (e.g. the crate's `compress` adds the removed node's length to
      its child) -/
  | relabel {i n l d ks i' n' l' d'} : (ks ≠ [] ∨ n = n') →
      UnaryStep (.node i n l d ks) (.node i' n' l' d' ks)

/-- insertions and removals of unary nodes, composed -/
inductive UnaryEq : Rose → Rose → Prop where
  | step {t t'} : UnaryStep t t' → UnaryEq t t'
  | refl {t} : UnaryEq t t
  | symm {t t'} : UnaryEq t t' → UnaryEq t' t
  | trans {a b c} : UnaryEq a b → UnaryEq b c → UnaryEq a c

/-- what unary insertions preserve -/
structure UEqv (t t' : Rose) : Prop where
  tips : tipNames t = tipNames t'
  leafy : t.kids = [] ↔ t'.kids = []
  rootLen : t.kids.length = t'.kids.length
  rs : ∀ all, t.kids.map (sideOf all) = t'.kids.map (sideOf all)
  sides : ∀ all : List String, all.Nodup → ∀ x, trivial x = false →
    (x ∈ (branches all t).map (·.1) ↔ x ∈ (branches all t').map (·.1))

theorem UEqv.headB {t t' : Rose} (h : UEqv t t') (all : List String) :
    (headB all t).map (·.1) = (headB all t').map (·.1) := by
  unfold SPM.headB
  by_cases hk : t.kids = []
  · rw [if_pos hk, if_pos (h.leafy.1 hk)]
  · rw [if_neg hk, if_neg (fun h' => hk (h.leafy.2 h')), sideOf_of_tips_eq all t t' h.tips]
    rfl

theorem UEqv.refl (t : Rose) : UEqv t t :=
  ⟨rfl, Iff.rfl, rfl, fun _ => rfl, fun _ _ _ _ => Iff.rfl⟩

theorem UEqv.symm {t t' : Rose} (h : UEqv t t') : UEqv t' t :=
  ⟨h.tips.symm, h.leafy.symm, h.rootLen.symm, fun all => (h.rs all).symm,
   fun all hnd x hx => (h.sides all hnd x hx).symm⟩

theorem UEqv.trans {a b c : Rose} (h1 : UEqv a b) (h2 : UEqv b c) : UEqv a c :=
  ⟨h1.tips.trans h2.tips, h1.leafy.trans h2.leafy,
   h1.rootLen.trans h2.rootLen, fun all => (h1.rs all).trans (h2.rs all),
   fun all hnd x hx => (h1.sides all hnd x hx).trans (h2.sides all hnd x hx)⟩

theorem tipNames_unary (iu : Nat) (nu : Option String) (lu : Option Int) (du : Nat) (k : Rose) :
    tipNames (.node iu nu lu du [k]) = tipNames k := by
  rw [tipNames_cons, tipNamesL_cons, tipNamesL_nil, List.append_nil]

theorem branches_mid (all : List String) (i : Nat) (n : Option String) (l : Option Int) (d : Nat)
    (l1 l2 : List Rose) (k : Rose) :
    branches all (.node i n l d (l1 ++ k :: l2)) =
      branchesL all l1 ++ (headB all k ++ branches all k ++ branchesL all l2) := by
  rw [branches_node, branchesL_append, branchesL_cons]

theorem tipNames_mid (i : Nat) (n : Option String) (l : Option Int) (d : Nat) (l1 l2 : List Rose) (k : Rose) :
    tipNames (.node i n l d (l1 ++ k :: l2)) = l1.flatMap tipNames ++ (tipNames k ++ l2.flatMap tipNames) := by
  rw [tipNames_node_ne _ _ _ _ _ (by simp)]
  simp only [List.flatMap_append, List.flatMap_cons]

theorem unaryStep_ueqv {t t' : Rose} (h : UnaryStep t t') : UEqv t t' := by
  induction h with
  | @here i n l d l1 l2 k iu nu lu du =>
    refine ⟨?_, by simp [Rose.kids], by simp [Rose.kids], ?_, ?_⟩
    · rw [tipNames_mid, tipNames_mid, tipNames_unary]
    · intro all
      simp only [Rose.kids, List.map_append, List.map_cons]
      rw [sideOf_of_tips_eq all _ k (tipNames_unary iu nu lu du k)]
    · intro all hnd x hx
      rw [branches_mid, branches_mid, branches_node, branchesL_cons, branchesL_nil]
      have hs : sideOf all (.node iu nu lu du [k]) = sideOf all k :=
        sideOf_of_tips_eq all _ k (tipNames_unary iu nu lu du k)
      have hh : headB all (.node iu nu lu du [k]) = [(sideOf all k, du, lu)] := by
        simp [headB, Rose.kids, Rose.depth, Rose.len, hs]
      rw [hh]
      simp only [List.map_append, List.mem_append, List.map_cons, List.map_nil,
        List.append_nil, List.mem_cons, List.not_mem_nil, or_false]
      refine or_congr_right (or_congr_left ⟨Or.inr, fun h => h.elim (fun e => Or.inl ?_) id⟩)
      -- the new entry: `k` is internal (else its side is trivial) and already contributes that side
      have hk : k.kids ≠ [] := fun hk => by
        rw [e, trivial_sideOf_tip all hnd k hk] at hx
        cases hx
      simp [headB, hk, e]
  | @inside i n l d l1 l2 k k' _ ih =>
    refine ⟨?_, by simp [Rose.kids], by simp [Rose.kids], ?_, ?_⟩
    · rw [tipNames_mid, tipNames_mid, ih.tips]
    · intro all
      simp only [Rose.kids, List.map_append, List.map_cons]
      rw [sideOf_of_tips_eq all k k' ih.tips]
    · intro all hnd x hx
      rw [branches_mid, branches_mid]
      have := ih.sides all hnd x hx
      simp only [List.map_append, List.mem_append, this, ih.headB all]
  | @relabel i n l d ks i' n' l' d' hn =>
    have ht : tipNames (.node i n l d ks) = tipNames (.node i' n' l' d' ks) := by
      cases ks with
      | nil =>
        rcases hn with h | h
        · exact absurd rfl h
        · rw [tipNames_leaf, tipNames_leaf, h]
      | cons k ks => rw [tipNames_cons, tipNames_cons]
    refine ⟨ht, by simp [Rose.kids], by simp [Rose.kids], fun _ => rfl, ?_⟩
    intro all _ x _
    rw [branches_node, branches_node]

theorem unaryEq_ueqv {t t' : Rose} (h : UnaryEq t t') : UEqv t t' := by
  induction h with
  | step h => exact unaryStep_ueqv h
  | refl => exact UEqv.refl _
  | symm _ ih => exact ih.symm
  | trans _ _ ih1 ih2 => exact ih1.trans ih2

theorem rfSame_of_unary {s s' : Rose} (h : UnaryEq s s') : RFSame s s' := by
  have he := unaryEq_ueqv h
  have hidx := leafIndex_perm s s' (.of_eq he.tips)
  refine ⟨hidx, ?_, ?_, (sameReport_of_branches hidx fun all hall =>
    he.sides all (leafIndex_nodup s all hall)).2⟩
  · unfold isRootedR; rw [he.rootLen]
  · intro all x
    rw [mem_rootSides, mem_rootSides, he.rs all]

/-- the branch above a subtree holding every leaf is never reported: every bit of its mask is set -/
theorem trivial_sideOf_full (all : List String) (t : Rose) (h : ∀ x ∈ all, x ∈ names t) :
    trivial (sideOf all t) = true := by
  have h1 : ones (maskOf all (names t)) = all.length := by
    rw [ones_eq_countP, List.countP_eq_length]
    exact fun x hx => by simpa using h x hx
  rw [sideOf_eq, trivial_canon]
  simp [trivial, h1]

/-- putting a unary node above the ROOT (the old root becomes a non-root internal node whose branch has every
    leaf on one side) does not change the reported set either -/
theorem sameReport_unary_root (iu : Nat) (nu : Option String) (lu : Option Int) (du : Nat) (t : Rose) :
    SameReport t (.node iu nu lu du [t]) := by
  refine sameReport_of_branches (leafIndex_perm _ _ (.of_eq (tipNames_unary iu nu lu du t).symm))
    fun all hall x hnt => ?_
  rw [branches_node, branchesL_cons, branchesL_nil, List.append_nil, List.map_append, List.mem_append]
  refine ⟨Or.inr, fun h => h.elim (fun h1 => ?_) id⟩
  unfold headB at h1
  split at h1
  · cases h1
  · rw [List.map_cons, List.map_nil, List.mem_singleton] at h1
    rw [h1, trivial_sideOf_full all t fun y hy => (mem_leafIndex t all hall y).1 hy] at hnt
    cases hnt

end SPM
