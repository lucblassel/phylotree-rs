import PhyloModel.Split.Reorder
import PhyloModel.Split.WeightedCongr
/-! The distances do not see child order: a reordering is `RFSame` and `WSame` to the tree, so every distance is
    unchanged when either argument is reordered (`rf_congr`, `weighted_congr`, `compareTopologies_congr`); in
    particular a tree is as far from a reordering of itself as from itself. -/
namespace SPM
open AR

theorem rfSame_of_reorder {s s' : Rose} (h : ReorderR s s') : RFSame s s' := by
  have he := reorder_reqv h
  refine ⟨leafIndex_reorder h, ?_, ?_, ?_⟩
  · unfold isRootedR
    have := (he.rs []).length_eq
    simp only [List.length_map] at this
    rw [this]
  · intro all x
    rw [mem_rootSides, mem_rootSides]
    exact (he.rs all).mem_iff
  · intro ps hps
    obtain ⟨ps', h1, h2⟩ := partitions_reorder h ps hps
    exact ⟨ps', h1, h2.mem⟩

theorem wSame_of_reorder {s s' : Rose} (h : ReorderR s s') : WSame s s' :=
  ⟨partitions_reorder h, partitions_reorder_err h⟩

theorem rf_reorder_zero {t t' : Rose} (h : ReorderR t t') (ps : List Part) (hps : partitions t = .ok ps) :
    rf t t' = .ok 0 ∧ rf t' t = .ok 0 := by
  have hr := (rfSame_of_reorder h).sameReport
  obtain ⟨ps', hps', _⟩ := hr.2 ps hps
  exact ⟨hr.rf_zero ps hps, (rfSame_of_reorder h.symm).sameReport.rf_zero ps' hps'⟩

/-- weighted RF, squared branch score and the combined report between a tree and any child-reordering of
    itself, all lengths present: what they are between the tree and itself, all zero -/
theorem weighted_reorder_zero {t t' : Rose} (h : ReorderR t t') (ps : List Part) (ms : PM)
    (hps : partitions t = .ok ps) (hms : withLengths ps = .ok ms) :
    wrf t t' = .ok 0 ∧ kf2 t t' = .ok 0 ∧ wrf t' t = .ok 0 ∧ kf2 t' t = .ok 0 ∧
    compareTopologies t t' = .ok (0, ps.length + ps.length, 0, 0) := by
  have w := wSame_of_reorder h
  simp only [wrf_eq_wsum, kf2_eq_wsum]
  have z : ∀ F : Int → Int, F 0 = 0 → wsum F t t' = .ok 0 ∧ wsum F t' t = .ok 0 := fun F hF =>
    ⟨(wsum_congr F (.refl t) w).trans (wsum_self t ps ms hps hms F hF),
     (wsum_congr F w (.refl t)).trans (wsum_self t ps ms hps hms F hF)⟩
  exact ⟨(z iabs (by decide)).1, (z _ (by decide)).1, (z iabs (by decide)).2, (z _ (by decide)).2,
    (compareTopologies_congr (.refl t) (.refl t) (rfSame_of_reorder h) w).trans
      (compareTopologies_self t ps ms hps hms)⟩

end SPM
