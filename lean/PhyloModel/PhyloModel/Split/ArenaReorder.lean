import PhyloModel.Split.ReorderDist
import PhyloModel.Split.ArenaBridge
import PhyloModel.Arena.LadderKey
/-! Bridge from the arena to the rose-level reordering relation: two arenas that differ only in the order
    inside child lists (`AR.PermKids`, the proved frame of `ladderize`) abstract to rose trees related by
    `SPM.ReorderR`.  Hence `ladderize` changes neither the leaf index nor the reported bipartition set, and the
    ladderized tree is at RF / weighted RF / branch-score distance zero from the original. -/
namespace SPM
open AR

theorem ReorderR.kids_pointwise (i : Nat) (n : Option String) (l : Option Int) (d : Nat) :
    ∀ (ks ks' : List Rose), List.Forall₂ ReorderR ks ks' → ∀ pre : List Rose,
      ReorderR (.node i n l d (pre ++ ks)) (.node i n l d (pre ++ ks')) := by
  intro ks ks' h
  induction h with
  | nil => intro pre; exact .refl
  | @cons k k' ks ks' hk _ ih =>
    intro pre
    refine .trans (.inside (l1 := pre) (l2 := ks) hk) ?_
    have := ih (pre ++ [k'])
    simpa [List.append_assoc] using this

theorem isLive_permKids {a b : Arena} (h : PermKids a b) (x : Nat) : isLive b x = isLive a x := by
  rw [Bool.eq_iff_iff, isLive_iff, isLive_iff]; exact h.live_iff x

theorem absF_permKids {a b : Arena} (h : PermKids a b) :
    ∀ (f x : Nat) (t : Rose), absF f a x = some t → ∃ t', absF f b x = some t' ∧ ReorderR t t'
  | 0, x, t, ht => by simp [absF] at ht
  | f + 1, x, t, ht => by
    obtain ⟨p0, _, p2, _, _, p5, p6, _⟩ := h.2 x
    obtain ⟨hl, ks, hm, rfl⟩ := (absF_some_iff a f x t).1 ht
    obtain ⟨ks', hk', hF⟩ := mapM_forall2 (fun c => absF f a c) (fun c => absF f b c) ReorderR _ ks hm
      (fun c _ y hy => absF_permKids h f c y hy)
    obtain ⟨ks'', hk'', hP⟩ := mapM_perm (fun c => absF f b c) p0.symm ks' hk'
    refine ⟨_, (absF_some_iff b f x _).2 ⟨by rw [isLive_permKids h x]; exact hl, ks'', hk'', rfl⟩, ?_⟩
    rw [p2, p5, p6]
    exact .trans (by simpa using ReorderR.kids_pointwise x _ _ _ ks ks' hF []) (.here hP)

theorem absRoot_permKids {a b : Arena} (h : PermKids a b) (t : Rose) (ht : absRoot a = .ok t) :
    ∃ t', absRoot b = .ok t' ∧ ReorderR t t' :=
  absRoot_lift h.1 (getRoot_congr h.1 fun i => by rw [isLive_permKids h i, (h.2 i).2.1])
    (fun r t _ => absF_permKids h _ r t) t ht

theorem ladderize_reorder (a : Arena) (t : Rose) (ht : absRoot a = .ok t) :
    ∃ t', absRoot (ladderize a).1 = .ok t' ∧ ReorderR t t' :=
  absRoot_permKids (ladderize_frame a) t ht

end SPM
