import PhyloModel.Split.RFCongr
/-! Weighted RF and the squared branch score as functions of the partition maps up to `PartEq` (same sides,
    same accumulated lengths; order and depths free), and their value on a tree against itself.  Key lists and the
    length under each key, all that `sumOver` reads (`sumOver_keys`), are what the maps made of `PartEq` partition
    maps share (`PMSame`). -/
namespace SPM
open AR

/-- the entry `withLengths` makes of a part -/
def gLen (p : Part) : Side × Nat × Int := (p.side, p.depth, p.len.getD 0)

theorem keys_map_gLen (ps : List Part) : (ps.map gLen).map (·.1) = sides ps := by
  simp [sides, gLen, List.map_map, Function.comp_def]

theorem withLengths_tr_rel (φ : Side → Side) (χ : Int → Int) {ψ : Option Int → Option Int}
    (hψ : ∀ l, ψ l = l.map χ) (ps : List Part) :
    QR.Rel (fun ms' ms => ms' = ms.map (trM φ χ)) (withLengths (ps.map (trP φ ψ))) (withLengths ps) := by
  have hany : (ps.map (trP φ ψ)).any (fun p => p.len.isNone) = ps.any (fun p => p.len.isNone) := by
    rw [List.any_map]
    exact congrArg (List.any ps) (funext fun p => by simp [trP, hψ])
  unfold withLengths
  rw [hany]
  split
  · rfl
  next h =>
    show _ = _
    rw [List.map_map, List.map_map]
    refine List.map_congr_left fun p hp => ?_
    simp only [Function.comp, trP, trM, hψ]
    cases hl : p.len with
    | none => exact absurd (List.any_eq_true.2 ⟨p, hp, by rw [hl]; rfl⟩) h
    | some x => rfl

/-- what both weighted distances (and the combined report) start from: the partition map with its lengths,
    or the missing-length error -/
def wmap (t : Rose) : QR PM := partitions t >>= withLengths

/-- the common shape of `wrf` (`F = |·|`) and `kf2` (`F = (·)²`) -/
def wsum (F : Int → Int) (s o : Rose) : QR Int := do
  let ms ← wmap s
  let mo ← wmap o
  pure (sumOver F ms mo)

theorem wrf_eq_wsum (s o : Rose) : wrf s o = wsum iabs s o := rfl
theorem kf2_eq_wsum (s o : Rose) : kf2 s o = wsum (fun x => x * x) s o := rfl

/-- two duplicate-free length-carrying maps with the same keys up to order and the same length under every key -/
structure PMSame (ms' ms : PM) : Prop where
  nodup : (ms.map (·.1)).Nodup
  nodup' : (ms'.map (·.1)).Nodup
  keys : (ms'.map (·.1)).Perm (ms.map (·.1))
  len : ∀ s, llen ms' s = llen ms s

theorem sumOver_congr (F : Int → Int) {ms ms' mo mo' : PM} (h1 : PMSame ms' ms) (h2 : PMSame mo' mo) :
    sumOver F ms' mo' = sumOver F ms mo := by
  rw [sumOver_keys F ms' mo' h1.nodup' h2.nodup', sumOver_keys F ms mo h1.nodup h2.nodup, funext h1.len, funext h2.len]
  congr 1
  · exact (h1.keys.map _).sum_int
  · exact ((h2.keys.filter _).map _).sum_int

theorem PartEq.llen_eq {ps ps' : List Part} (h : PartEq ps ps') (s : Side) :
    llen (ps'.map gLen) s = llen (ps.map gLen) s := by
  have nd : ((ps.map gLen).map (·.1)).Nodup := by rw [keys_map_gLen]; exact h.nodup
  have nd' : ((ps'.map gLen).map (·.1)).Nodup := by rw [keys_map_gLen]; exact h.nodup'
  by_cases hs : s ∈ sides ps
  · obtain ⟨p, hp, rfl⟩ := List.mem_map.1 hs
    obtain ⟨p', hp', e⟩ := List.mem_map.1 ((h.mem _).1 hs)
    have e1 : llen (ps'.map gLen) p'.side = some (p'.len.getD 0) := llen_of_mem nd' (List.mem_map_of_mem hp')
    have e2 : llen (ps.map gLen) p.side = some (p.len.getD 0) := llen_of_mem nd (List.mem_map_of_mem hp)
    rw [e2, ← e, e1, h.len p hp p' hp' e.symm]
  · rw [llen_none (by rw [keys_map_gLen]; exact fun h' => hs ((h.mem s).2 h')),
      llen_none (by rw [keys_map_gLen]; exact hs)]

theorem PartEq.any_missing {ps ps' : List Part} (h : PartEq ps ps') :
    ps'.any (fun p => p.len.isNone) = ps.any (fun p => p.len.isNone) := by
  have key : ∀ {a b : List Part}, PartEq a b → a.any (fun p => p.len.isNone) = true →
      b.any (fun p => p.len.isNone) = true := by
    intro a b hab ha
    obtain ⟨p, hp, hl⟩ := List.any_eq_true.1 ha
    obtain ⟨p', hp', hs⟩ := List.mem_map.mp ((hab.mem _).1 (List.mem_map.mpr ⟨p, hp, rfl⟩))
    exact List.any_eq_true.2 ⟨p', hp', by rw [← hab.len p hp p' hp' hs.symm]; exact hl⟩
  rw [Bool.eq_iff_iff]
  exact ⟨key h.symm, key h⟩

theorem PartEq.pmSame {ps ps' : List Part} (h : PartEq ps ps') : PMSame (ps'.map gLen) (ps.map gLen) :=
  ⟨by rw [keys_map_gLen]; exact h.nodup, by rw [keys_map_gLen]; exact h.nodup',
    by rw [keys_map_gLen, keys_map_gLen]; exact h.perm.symm, h.llen_eq⟩

theorem PartEq.withLengths_rel {ps ps' : List Part} (h : PartEq ps ps') :
    QR.Rel PMSame (withLengths ps') (withLengths ps) := by
  unfold withLengths
  rw [h.any_missing]
  split
  · rfl
  · exact h.pmSame

/-- `s'` is indistinguishable from `s` for the weighted distances -/
structure WSame (s s' : Rose) : Prop where
  parts : ∀ ps, partitions s = .ok ps → ∃ ps', partitions s' = .ok ps' ∧ PartEq ps ps'
  errs : ∀ e, partitions s = .err e → partitions s' = .err e

theorem WSame.refl (s : Rose) : WSame s s :=
  ⟨fun ps h => ⟨ps, h, partEq_self s ps h⟩, fun _ h => h⟩

theorem WSame.wrel {s s' : Rose} (h : WSame s s') : QR.Rel PMSame (wmap s') (wmap s) :=
  (partitions_rel (R := fun ps' ps => PartEq ps ps') h.parts h.errs).bind fun _ _ he => he.withLengths_rel

theorem wsum_congr (F : Int → Int) {s s' o o' : Rose} (h1 : WSame s s') (h2 : WSame o o') :
    wsum F s' o' = wsum F s o :=
  h1.wrel.bind_eq fun _ _ e1 => h2.wrel.bind_eq fun _ _ e2 => by rw [sumOver_congr F e1 e2]

theorem weighted_congr {s s' o o' : Rose} (h1 : WSame s s') (h2 : WSame o o') :
    wrf s' o' = wrf s o ∧ kf2 s' o' = kf2 s o := by
  simp only [wrf_eq_wsum, kf2_eq_wsum]
  exact ⟨wsum_congr _ h1 h2, wsum_congr _ h1 h2⟩

theorem compareTopologies_congr {s s' o o' : Rose} (h1 : RFSame s s') (w1 : WSame s s')
    (h2 : RFSame o o') (w2 : WSame o o') : compareTopologies s' o' = compareTopologies s o := by
  rw [compareTopologies_eq, compareTopologies_eq, rfNorm_congr h1 h2, (weighted_congr w1 w2).1, (weighted_congr w1 w2).2]
  exact w1.wrel.bind_eq fun _ _ _ => w2.wrel.bind_eq fun _ _ _ => rfl

/-- every split is common and has the same length on both sides -/
theorem sumOver_self (F : Int → Int) (hF : F 0 = 0) (m : PM) (hnd : (m.map (·.1)).Nodup) : sumOver F m m = 0 := by
  unfold sumOver
  have h2 : m.filter (fun p => (lookup m p.1).isNone) = [] :=
    List.filter_eq_nil_iff.2 fun p hp => by rw [lookup_of_mem m hnd p hp]; simp
  rw [h2, sum_map_eq_zero m _ fun p hp => by rw [lookup_of_mem m hnd p hp]; simp [hF]]
  rfl

theorem inter_self (a : List Side) : inter a a = a.length := by
  unfold inter
  rw [List.filter_eq_self.2 fun x hx => by simpa using hx]

section
variable (t : Rose) (ps : List Part) (ms : PM) (hps : partitions t = .ok ps) (hms : withLengths ps = .ok ms)
include hps hms

theorem wmap_ok : wmap t = .ok ms := by rw [wmap, hps]; exact hms

theorem wmap_keys_nodup : (ms.map (·.1)).Nodup := by
  rw [withLengths_keys ps ms hms]; exact C05.partitions_nodup t ps hps

theorem wsum_self (F : Int → Int) (hF : F 0 = 0) : wsum F t t = .ok 0 := by
  rw [wsum, wmap_ok t ps ms hps hms]
  exact congrArg QR.ok (sumOver_self F hF ms (wmap_keys_nodup t ps ms hps hms))

theorem compareTopologies_self : compareTopologies t t = .ok (0, ps.length + ps.length, 0, 0) := by
  obtain ⟨all, hall⟩ := leafIndex_ok_of_partitions t ps hps
  rw [compareTopologies_eq, ← wmap, wmap_ok t ps ms hps hms, wrf_eq_wsum, kf2_eq_wsum,
    wsum_self t ps ms hps hms _ (by decide), wsum_self t ps ms hps hms _ (by decide), rfNorm,
    C06.rf_zero_of_same_splits t t ps ps all hps hps hall hall fun _ => Iff.rfl, hps]
  rfl

end

end SPM
