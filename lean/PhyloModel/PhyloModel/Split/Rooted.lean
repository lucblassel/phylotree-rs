import PhyloModel.Split.Basic
/-! The root-style invariance on name-only rose trees: a split is a side or the complement of a side, and the
    two-child drawing `[X, Y]` induces the same splits as the drawing with `X` dissolved into the root. -/
namespace SP

theorem leaves_pair (n : Option Nat) (X Y : NT) : leaves (.node n [X, Y]) = leaves X ++ leaves Y := by
  rw [leaves, leavesL, leavesL, leavesL, List.append_nil]

def IsCompl (t : NT) (A B : List Nat) : Prop := ∀ x, x ∈ A ↔ (x ∈ leaves t ∧ x ∉ B)

/-- `A | rest` is a split induced by some branch, whichever side the branch hangs on -/
def Split (t : NT) (A : List Nat) : Prop := IsSide t A ∨ ∃ B, IsSide t B ∧ IsCompl t A B

theorem rooted_unrooted (n m : Option Nat) (kx : List NT) (Y : NT) (hkx : kx ≠ [])
    (hnd : (leaves (.node n [.node m kx, Y])).Nodup) (A : List Nat) :
    Split (.node n [.node m kx, Y]) A ↔ Split (.node n (kx ++ [Y])) A := by
  have hne2 : kx ++ [Y] ≠ [] := by simp
  have hlX : ∀ x, x ∈ leaves (.node m kx) ↔ ∃ k, k ∈ kx ∧ x ∈ leaves k := leaves_nonempty_kids m kx hkx
  have hl1 : ∀ x, x ∈ leaves (.node n [.node m kx, Y]) ↔ (x ∈ leaves (.node m kx) ∨ x ∈ leaves Y) := by
    intro x; rw [leaves_pair]; simp
  have hl2 : ∀ x, x ∈ leaves (.node n (kx ++ [Y])) ↔ (x ∈ leaves (.node m kx) ∨ x ∈ leaves Y) := by
    intro x
    rw [leaves_nonempty_kids n _ hne2, hlX]
    simp only [List.mem_append, List.mem_singleton, or_and_right, exists_or, exists_eq_left]
  have hsame : ∀ x, x ∈ leaves (.node n [.node m kx, Y]) ↔ x ∈ leaves (.node n (kx ++ [Y])) :=
    fun x => (hl1 x).trans (hl2 x).symm
  have hdisj : ∀ x, x ∈ leaves (.node m kx) → x ∉ leaves Y := by
    have : leaves (.node n [.node m kx, Y]) = leaves (.node m kx) ++ leaves Y := leaves_pair n _ Y
    rw [this, List.nodup_append] at hnd
    intro x hx hy; exact hnd.2.2 x hx x hy rfl
  have hs1 : ∀ B, IsSide (.node n [.node m kx, Y]) B ↔
      (SameSet B (leaves (.node m kx)) ∨ (∃ k, k ∈ kx ∧ Contrib k B) ∨ Contrib Y B) := by
    intro B
    rw [isSide_node, ← isSide_node m kx B]
    simp only [List.mem_cons, List.not_mem_nil, or_false, or_and_right, exists_or, exists_eq_left, Contrib, or_assoc]
  have hs2 : ∀ B, IsSide (.node n (kx ++ [Y])) B ↔ ((∃ k, k ∈ kx ∧ Contrib k B) ∨ Contrib Y B) := by
    intro B
    rw [isSide_node]
    simp only [List.mem_append, List.mem_singleton, or_and_right, exists_or, exists_eq_left]
  have hcompl : ∀ A B, IsCompl (.node n [.node m kx, Y]) A B ↔ IsCompl (.node n (kx ++ [Y])) A B := by
    intro A B; simp only [IsCompl]
    constructor <;> intro h x
    · rw [h x, hsame x]
    · rw [h x, hsame x]
  simp only [Split]
  constructor
  · rintro (h | ⟨B, hB, hc⟩)
    · rcases (hs1 A).1 h with h | h | h
      · -- A = leaves X: it is the complement of leaves Y, and Y is a child in the unrooted drawing
        refine Or.inr ⟨leaves Y, (hs2 _).2 (Or.inr (Or.inl (fun _ => Iff.rfl))), ?_⟩
        intro x
        rw [h x, hl2 x]
        constructor
        · intro hx; exact ⟨Or.inl hx, hdisj x hx⟩
        · rintro ⟨hx | hx, hn⟩
          · exact hx
          · exact absurd hx hn
      · exact Or.inl ((hs2 A).2 (Or.inl h))
      · exact Or.inl ((hs2 A).2 (Or.inr h))
    · rcases (hs1 B).1 hB with h | h | h
      · -- B = leaves X, so A = leaves Y (as a set): a side of the unrooted drawing
        refine Or.inl ((hs2 A).2 (Or.inr (Or.inl ?_)))
        intro x
        rw [hc x, hl1 x]
        constructor
        · rintro ⟨hx | hx, hn⟩
          · exact absurd ((h x).2 hx) hn
          · exact hx
        · intro hx
          exact ⟨Or.inr hx, fun hb => hdisj x ((h x).1 hb) hx⟩
      · exact Or.inr ⟨B, (hs2 B).2 (Or.inl h), (hcompl A B).1 hc⟩
      · exact Or.inr ⟨B, (hs2 B).2 (Or.inr h), (hcompl A B).1 hc⟩
  · rintro (h | ⟨B, hB, hc⟩)
    · rcases (hs2 A).1 h with h | h
      · exact Or.inl ((hs1 A).2 (Or.inr (Or.inl h)))
      · exact Or.inl ((hs1 A).2 (Or.inr (Or.inr h)))
    · rcases (hs2 B).1 hB with h | h
      · exact Or.inr ⟨B, (hs1 B).2 (Or.inr (Or.inl h)), (hcompl A B).2 hc⟩
      · exact Or.inr ⟨B, (hs1 B).2 (Or.inr (Or.inr h)), (hcompl A B).2 hc⟩

end SP
