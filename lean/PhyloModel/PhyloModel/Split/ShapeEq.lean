import PhyloModel.Split.SameUnrooted
import PhyloModel.Split.ArenaBridge
/-! `ShapeEq`: the closure of child reordering and unary-node insertion/removal (with decoration changes).  Unlike
    `SameUnrooted` it does not re-draw the root, so it is a congruence: it can be applied inside any child. -/
namespace SPM
open AR

inductive ShapeEq : Rose → Rose → Prop where
  | reorder {t t'} : ReorderR t t' → ShapeEq t t'
  | unary {t t'} : UnaryEq t t' → ShapeEq t t'
  | trans {a b c} : ShapeEq a b → ShapeEq b c → ShapeEq a c

theorem ShapeEq.refl (t : Rose) : ShapeEq t t := .reorder .refl

theorem UnaryEq.inside {i : Nat} {n : Option String} {l : Option Int} {d : Nat} {l1 l2 : List Rose} {k k' : Rose}
    (h : UnaryEq k k') : UnaryEq (.node i n l d (l1 ++ k :: l2)) (.node i n l d (l1 ++ k' :: l2)) := by
  induction h with
  | step h => exact .step (.inside h)
  | refl => exact .refl
  | symm _ ih => exact .symm ih
  | trans _ _ ih1 ih2 => exact .trans ih1 ih2

theorem ShapeEq.inside {i : Nat} {n : Option String} {l : Option Int} {d : Nat} {l1 l2 : List Rose} {k k' : Rose}
    (h : ShapeEq k k') : ShapeEq (.node i n l d (l1 ++ k :: l2)) (.node i n l d (l1 ++ k' :: l2)) := by
  induction h with
  | reorder h => exact .reorder (.inside h)
  | unary h => exact .unary h.inside
  | trans _ _ ih1 ih2 => exact .trans ih1 ih2

theorem ShapeEq.kids_pointwise (i : Nat) (n : Option String) (l : Option Int) (d : Nat) :
    ∀ (ks ks' : List Rose), List.Forall₂ ShapeEq ks ks' → ∀ pre post : List Rose,
      ShapeEq (.node i n l d (pre ++ ks ++ post)) (.node i n l d (pre ++ ks' ++ post)) := by
  intro ks ks' h
  induction h with
  | nil => intro pre post; exact ShapeEq.refl _
  | @cons k k' ks ks' hk _ ih =>
    intro pre post
    have h1 : ShapeEq (.node i n l d (pre ++ k :: (ks ++ post))) (.node i n l d (pre ++ k' :: (ks ++ post))) :=
      hk.inside
    have h2 := ih (pre ++ [k']) post
    have e1 : pre ++ (k :: ks) ++ post = pre ++ k :: (ks ++ post) := by simp
    have e2 : pre ++ [k'] ++ ks ++ post = pre ++ k' :: (ks ++ post) := by simp
    have e3 : pre ++ [k'] ++ ks' ++ post = pre ++ (k' :: ks') ++ post := by simp
    rw [e1]
    rw [e2, e3] at h2
    exact .trans h1 h2

/-- change of the id, length and depth of the root node of a subtree; the name is kept -/
theorem ShapeEq.relabel (i : Nat) (n : Option String) (l : Option Int) (d : Nat) (ks : List Rose)
    (i' : Nat) (l' : Option Int) (d' : Nat) : ShapeEq (.node i n l d ks) (.node i' n l' d' ks) :=
  .unary (.step (.relabel (Or.inr rfl)))

theorem ShapeEq.sameUnrooted {t t' : Rose} (h : ShapeEq t t') : SameUnrooted t t' := by
  induction h with
  | reorder h => exact .reorder h
  | unary h => exact .unary h
  | trans _ _ ih1 ih2 => exact .trans ih1 ih2

end SPM
