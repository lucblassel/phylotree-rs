import PhyloModel.Split.Lemmas
/-! The weighted sum `sumOver` of two maps in which no split occurs twice reads them only through their key lists
    and the length under each key (`sumOver_keys`); hence its symmetry for an even `f` (`sumOver_symm`).  And
    `sumOver_trM`, the weighted sum of two maps whose sides are relabelled and whose lengths are mapped. -/
namespace SPM

theorem lookup_cons (k : Side) (d : Nat) (l : Int) (ms : PM) (s : Side) :
    lookup ((k, d, l) :: ms) s = if k = s then some (d, l) else lookup ms s := by
  unfold lookup
  simp only [List.find?_cons]
  by_cases h : k = s
  · simp [h]
  · have hb : (k == s) = false := by simpa using h
    simp [h, hb]

theorem lookup_none_of_not_mem (m : PM) (k : Side) (h : k ∉ m.map (·.1)) : lookup m k = none := by
  induction m with
  | nil => simp [lookup]
  | cons p m ih =>
    obtain ⟨k', d, l⟩ := p
    simp only [List.map_cons, List.mem_cons, not_or] at h
    rw [lookup_cons, if_neg (Ne.symm h.1)]
    exact ih h.2

theorem sum_map_eq_zero {α : Type} (l : List α) (g : α → Int) (h : ∀ x ∈ l, g x = 0) : (l.map g).sum = 0 := by
  induction l with
  | nil => rfl
  | cons a l ih =>
    rw [List.map_cons, List.sum_cons, h a List.mem_cons_self, ih fun x hx => h x (List.mem_cons_of_mem _ hx)]
    rfl

theorem lookup_of_mem (m : PM) (hnd : (m.map (·.1)).Nodup) (p : Side × Nat × Int) (hp : p ∈ m) :
    lookup m p.1 = some p.2 := by
  rw [lookup, List.find?_fst_of_mem hnd hp]; rfl

/-- the length stored under a side -/
def llen (m : PM) (s : Side) : Option Int := (lookup m s).map (·.2)

theorem llen_of_mem {m : PM} (hnd : (m.map (·.1)).Nodup) {p : Side × Nat × Int} (hp : p ∈ m) :
    llen m p.1 = some p.2.2 := by
  rw [llen, lookup_of_mem m hnd p hp]; rfl

theorem llen_none {m : PM} {k : Side} (h : k ∉ m.map (·.1)) : llen m k = none := by
  rw [llen, lookup_none_of_not_mem m k h]; rfl

/-- the summand of a split with length `a` in the first map and `b` in the second -/
def tK (F : Int → Int) (a b : Option Int) : Int :=
  match b with
  | some lo => F (a.getD 0 - lo)
  | none => F (a.getD 0)

/-- **`sumOver` reads two duplicate-free maps only through their key lists and `llen`** (depths and the order
    of the entries apart from that of the keys are not seen) -/
theorem sumOver_keys (F : Int → Int) (ms mo : PM) (hs : (ms.map (·.1)).Nodup) (ho : (mo.map (·.1)).Nodup) :
    sumOver F ms mo = ((ms.map (·.1)).map fun k => tK F (llen ms k) (llen mo k)).sum +
      (((mo.map (·.1)).filter fun k => (llen ms k).isNone).map fun k => F ((llen mo k).getD 0)).sum := by
  unfold sumOver
  rw [List.filter_map, List.map_map, List.map_map]
  congr 2
  · refine List.map_congr_left fun p hp => ?_
    show _ = tK F (llen ms p.1) (llen mo p.1)
    rw [llen_of_mem hs hp]
    unfold tK llen
    cases lookup mo p.1 <;> rfl
  · have : mo.filter ((fun k => (llen ms k).isNone) ∘ (·.1)) = mo.filter (fun p => (lookup ms p.1).isNone) :=
      List.filter_congr fun p _ => by simp [llen]
    rw [this]
    refine List.map_congr_left fun p hp => ?_
    simp only [Function.comp, llen_of_mem ho (List.mem_filter.1 hp).1, Option.getD_some]

theorem llen_isNone {m : PM} (hnd : (m.map (·.1)).Nodup) (k : Side) :
    (llen m k).isNone = false ↔ k ∈ m.map (·.1) := by
  refine ⟨fun h => Classical.byContradiction fun hk => ?_, fun hk => ?_⟩
  · rw [llen_none hk] at h; cases h
  · obtain ⟨p, hp, rfl⟩ := List.mem_map.1 hk
    rw [llen_of_mem hnd hp]; rfl

theorem sum_map_filter_split {α : Type} (p : α → Bool) (g : α → Int) (l : List α) :
    (l.map g).sum = ((l.filter p).map g).sum + ((l.filter fun x => !p x).map g).sum := by
  induction l with
  | nil => rfl
  | cons a l ih =>
    simp only [List.map_cons, List.sum_cons, List.filter_cons, ih]
    cases p a <;> simp <;> omega

/-- for an even `f` the sum does not depend on the order of the two maps: the keys only in one map contribute the
    same on both sides, the common keys are the same set and each contributes `f (ℓ − ℓ') = f (ℓ' − ℓ)` -/
theorem sumOver_symm (f : Int → Int) (hf : ∀ x, f (-x) = f x) (ms mo : PM)
    (hs : (ms.map (·.1)).Nodup) (ho : (mo.map (·.1)).Nodup) : sumOver f ms mo = sumOver f mo ms := by
  have only : ∀ m m' : PM, ((m.map (·.1)).filter fun k => (llen m' k).isNone).map (fun k => tK f (llen m k) (llen m' k)) =
      ((m.map (·.1)).filter fun k => (llen m' k).isNone).map fun k => f ((llen m k).getD 0) := fun m m' =>
    List.map_congr_left fun k hk => by rw [Option.isNone_iff_eq_none.1 (List.mem_filter.1 hk).2]; rfl
  have hp : ((ms.map (·.1)).filter fun k => !(llen mo k).isNone).Perm
      ((mo.map (·.1)).filter fun k => !(llen ms k).isNone) :=
    (List.perm_ext_iff_of_nodup (hs.filter _) (ho.filter _)).2 fun k => by
      simp only [List.mem_filter, Bool.not_eq_true', llen_isNone hs, llen_isNone ho, and_comm]
  have common : (((ms.map (·.1)).filter fun k => !(llen mo k).isNone).map fun k => tK f (llen ms k) (llen mo k)).sum =
      (((mo.map (·.1)).filter fun k => !(llen ms k).isNone).map fun k => tK f (llen mo k) (llen ms k)).sum := by
    rw [(hp.map _).sum_int]
    refine congrArg _ (List.map_congr_left fun k hk => ?_)
    obtain ⟨hk1, hk2⟩ := List.mem_filter.1 hk
    obtain ⟨a, ha⟩ := Option.isSome_iff_exists.1 (show (llen ms k).isSome = true by simpa using hk2)
    obtain ⟨b, hb⟩ := Option.isSome_iff_exists.1 (show (llen mo k).isSome = true by simpa using (llen_isNone ho k).2 hk1)
    rw [ha, hb]
    show f (a - b) = f (b - a)
    rw [← hf]; congr 1; omega
  rw [sumOver_keys f ms mo hs ho, sumOver_keys f mo ms ho hs,
    sum_map_filter_split (fun k => (llen mo k).isNone) _ (ms.map (·.1)),
    sum_map_filter_split (fun k => (llen ms k).isNone) _ (mo.map (·.1)), only ms mo, only mo ms, common]
  omega

def trM (φ : Side → Side) (χ : Int → Int) (p : Side × Nat × Int) : Side × Nat × Int := (φ p.1, p.2.1, χ p.2.2)

theorem lookup_trM (φ : Side → Side) (χ : Int → Int) (m : PM) (k : Side)
    (hφ : ∀ p ∈ m, (φ p.1 == φ k) = (p.1 == k)) :
    lookup (m.map (trM φ χ)) (φ k) = (lookup m k).map (fun q => (q.1, χ q.2)) := by
  unfold lookup
  rw [List.find?_map, Option.map_map, Option.map_map]
  exact congrArg _ (find?_congr' m _ _ hφ)

theorem sum_map_mul (k : Int) (l : List Int) : (l.map (fun x => k * x)).sum = k * l.sum := by
  induction l with
  | nil => simp
  | cons a l ih => simp [ih, Int.mul_add]

/-- relabelling the sides of both maps by a `φ` that is injective on them and mapping every length by `χ`
    multiplies the weighted sum by `c`, when `F (χ x − χ y) = c · F (x − y)`: a renaming of the taxa has
    `χ = id`, `c = 1`; a rescaling of the lengths has `φ = id` -/
theorem sumOver_trM (F : Int → Int) (c : Int) (φ : Side → Side) (χ : Int → Int)
    (hF : ∀ x y, F (χ x - χ y) = c * F (x - y)) (hF0 : ∀ x, F (χ x) = c * F x) (ms mo : PM)
    (hφ : ∀ p ∈ ms ++ mo, ∀ q ∈ ms ++ mo, (φ p.1 == φ q.1) = (p.1 == q.1)) :
    sumOver F (ms.map (trM φ χ)) (mo.map (trM φ χ)) = c * sumOver F ms mo := by
  have hl : ∀ m : PM, (∀ q ∈ m, q ∈ ms ++ mo) → ∀ p ∈ ms ++ mo,
      lookup (m.map (trM φ χ)) (trM φ χ p).1 = (lookup m p.1).map (fun q => (q.1, χ q.2)) :=
    fun m hm p hp => lookup_trM φ χ m p.1 fun q hq => hφ q (hm q hq) p hp
  unfold sumOver
  rw [Int.mul_add, ← sum_map_mul, ← sum_map_mul, List.filter_map]
  simp only [List.map_map]
  congr 1
  · refine congrArg _ (List.map_congr_left fun p hp => ?_)
    simp only [Function.comp]
    rw [hl mo (fun _ => List.mem_append_right _) p (List.mem_append_left _ hp)]
    cases lookup mo p.1 with
    | none => exact hF0 _
    | some q => exact hF _ _
  · have hfil : mo.filter ((fun p => (lookup (ms.map (trM φ χ)) p.1).isNone) ∘ trM φ χ) =
        mo.filter (fun p => (lookup ms p.1).isNone) :=
      List.filter_congr fun p hp => by
        simp only [Function.comp]
        rw [hl ms (fun _ => List.mem_append_left _) p (List.mem_append_right _ hp), Option.isNone_map]
    rw [hfil]
    exact congrArg _ (List.map_congr_left fun p _ => hF0 _)

theorem iabs_eq (x : Int) : iabs x = x.natAbs := by
  unfold iabs; split <;> omega

theorem iabs_neg (x : Int) : iabs (-x) = iabs x := by
  rw [iabs_eq, iabs_eq, Int.natAbs_neg]

end SPM
