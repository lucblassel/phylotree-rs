import PhyloModel.Split.PartSpec
import PhyloModel.Props.C07
/-! RF as a function of the reported SETS: replacing either tree by one with the same leaf index, the same
    reported set and the same root splits does not change `rf` (value, correction, errors).

    The distance functions are chains of `>>=` over the partition maps and leaf indices of the two trees; two
    such chains are compared stage by stage through `QR.Rel`, so that the error outcomes never have to be
    enumerated. -/
namespace SPM
open AR

theorem partitions_cases (t : Rose) :
    (∃ e, leafIndex t = .err e ∧ partitions t = .err e) ∨
    (∃ all ps, leafIndex t = .ok all ∧ partitions t = .ok ps) := by
  cases h : leafIndex t with
  | ok all => exact .inr ⟨all, _, rfl, by rw [partitions, h]; rfl⟩
  | err e => exact .inl ⟨e, rfl, (partitions_err_iff t e).2 h⟩
  | panic =>
    rw [leafIndex_eq] at h
    split at h
    · cases h
    · split at h <;> cases h

theorem partitions_rel {t t' : Rose} {R : List Part → List Part → Prop}
    (hp : ∀ ps, partitions t = .ok ps → ∃ ps', partitions t' = .ok ps' ∧ R ps' ps)
    (he : ∀ e, partitions t = .err e → partitions t' = .err e) : QR.Rel R (partitions t') (partitions t) := by
  rcases partitions_cases t with ⟨e, _, h⟩ | ⟨_, ps, _, h⟩
  · rw [h, he e h]; rfl
  · obtain ⟨ps', h', r⟩ := hp ps h
    rw [h, h']; exact r

def SameReport (t t' : Rose) : Prop :=
  leafIndex t' = leafIndex t ∧
  ∀ ps, partitions t = .ok ps → ∃ ps', partitions t' = .ok ps' ∧ ∀ x, x ∈ sides ps ↔ x ∈ sides ps'

theorem SameReport.err {t t' : Rose} (h : SameReport t t') (e : String) (he : partitions t = .err e) :
    partitions t' = .err e := by
  rw [partitions_err_iff] at he ⊢
  rw [h.1, he]

theorem SameReport.rel {t t' : Rose} (h : SameReport t t') :
    QR.Rel (fun ps' ps => (sides ps').Perm (sides ps)) (partitions t') (partitions t) :=
  partitions_rel (fun ps hp => by
    obtain ⟨ps', hp', hm⟩ := h.2 ps hp
    exact ⟨ps', hp', (List.perm_ext_iff_of_nodup (C05.partitions_nodup t' ps' hp')
      (C05.partitions_nodup t ps hp)).2 fun x => (hm x).symm⟩) h.err

theorem SameReport.rf_zero {t t' : Rose} (h : SameReport t t') (ps : List Part) (hps : partitions t = .ok ps) :
    rf t t' = .ok 0 := by
  obtain ⟨all, hall⟩ := leafIndex_ok_of_partitions t ps hps
  obtain ⟨ps', hps', he⟩ := h.2 ps hps
  exact C06.rf_zero_of_same_splits t t' ps ps' all hps hps' hall (by rw [h.1, hall]) he

/-- the way every shape invariance is proved: same leaf index and, over it, the same non-trivial branch sides -/
theorem sameReport_of_branches {t t' : Rose} (hidx : leafIndex t' = leafIndex t)
    (hs : ∀ all, leafIndex t = .ok all → ∀ x, trivial x = false →
      (x ∈ (branches all t).map (·.1) ↔ x ∈ (branches all t').map (·.1))) : SameReport t t' := by
  refine ⟨hidx, fun ps hps => ?_⟩
  obtain ⟨all, hall⟩ := leafIndex_ok_of_partitions t ps hps
  have hall' : leafIndex t' = .ok all := by rw [hidx, hall]
  obtain ⟨ps', hps'⟩ := partitions_ok_of_leafIndex t' all hall'
  refine ⟨ps', hps', fun x => ?_⟩
  rw [(partitions_spec t all ps hall hps).mem, (partitions_spec t' all ps' hall' hps').mem,
    mem_nbranches, mem_nbranches]
  exact and_congr_left fun h2 => hs all hall x h2

/-- `s'` is indistinguishable from `s` for `rf` -/
structure RFSame (s s' : Rose) : Prop where
  idx : leafIndex s' = leafIndex s
  rooted : isRootedR s' = isRootedR s
  roots : ∀ all x, x ∈ rootSides all s ↔ x ∈ rootSides all s'
  parts : ∀ ps, partitions s = .ok ps → ∃ ps', partitions s' = .ok ps' ∧ ∀ x, x ∈ sides ps ↔ x ∈ sides ps'

theorem RFSame.sameReport {s s' : Rose} (h : RFSame s s') : SameReport s s' := ⟨h.idx, h.parts⟩

theorem RFSame.sameSet {s s' o o' : Rose} (h1 : RFSame s s') (h2 : RFSame o o') (ls lo : List String) :
    sameSet (rootSides ls s') (rootSides lo o') = sameSet (rootSides ls s) (rootSides lo o) := by
  rw [Bool.eq_iff_iff, sameSet_iff, sameSet_iff]
  exact forall_congr' fun x => iff_congr (h1.roots ls x).symm (h2.roots lo x).symm

theorem rf_congr {s s' o o' : Rose} (h1 : RFSame s s') (h2 : RFSame o o') : rf s' o' = rf s o := by
  unfold rf
  rw [h1.idx, h2.idx, h1.rooted, h2.rooted]
  refine h1.sameReport.rel.bind_eq fun ps' ps p1 => h2.sameReport.rel.bind_eq fun po' po p2 => ?_
  -- the uncorrected value and the correction read the two partition maps only as sets of sides
  rw [length_eq_of_sides_perm p1, length_eq_of_sides_perm p2, inter_congr _ _ _ _ p2 fun _ => p1.mem_iff]
  simp only [h1.sameSet h2]

theorem rfNorm_congr {s s' o o' : Rose} (h1 : RFSame s s') (h2 : RFSame o o') : rfNorm s' o' = rfNorm s o := by
  unfold rfNorm
  rw [rf_congr h1 h2]
  congr 1; funext d
  refine h1.sameReport.rel.bind_eq fun ps' ps p1 => h2.sameReport.rel.bind_eq fun po' po p2 => ?_
  rw [length_eq_of_sides_perm p1, length_eq_of_sides_perm p2]

theorem RFSame.refl (s : Rose) : RFSame s s :=
  ⟨rfl, rfl, fun _ _ => Iff.rfl, fun ps h => ⟨ps, h, fun _ => Iff.rfl⟩⟩

end SPM
