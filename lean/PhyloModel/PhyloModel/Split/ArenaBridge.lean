import Batteries.Data.List.Perm
import PhyloModel.Split.PartSpec
import PhyloModel.Arena.PathFacts
/-! What the arena bridges share: `mapM` in `Option`, the unfolding of `absF`, and the step from a relation between
    the abstractions below the root slot of two arenas to `absRoot`. -/
namespace SPM
open AR

theorem mapM_cons_some {α β : Type} (g : α → Option β) (x : α) (l : List α) (r : List β) :
    (x :: l).mapM g = some r ↔ ∃ y ys, g x = some y ∧ l.mapM g = some ys ∧ r = y :: ys := by
  rw [List.mapM_cons]
  cases g x <;> cases l.mapM g <;> simp [eq_comm]

theorem mapM_nil_some {α β : Type} (g : α → Option β) (r : List β) : ([] : List α).mapM g = some r ↔ r = [] := by
  simp only [List.mapM_nil, Option.pure_def, Option.some.injEq]
  exact eq_comm

theorem mapM_forall2 {α β : Type} (g g' : α → Option β) (R : β → β → Prop) :
    ∀ (l : List α) (r : List β), l.mapM g = some r →
      (∀ x ∈ l, ∀ y, g x = some y → ∃ y', g' x = some y' ∧ R y y') →
      ∃ r', l.mapM g' = some r' ∧ List.Forall₂ R r r'
  | [], r, h, _ => by
    rw [mapM_nil_some] at h; subst h
    exact ⟨[], (mapM_nil_some g' []).2 rfl, .nil⟩
  | x :: l, r, h, hp => by
    obtain ⟨y, ys, h1, h2, rfl⟩ := (mapM_cons_some g x l r).1 h
    obtain ⟨y', hy', hR⟩ := hp x List.mem_cons_self y h1
    obtain ⟨ys', hys', hF⟩ := mapM_forall2 g g' R l ys h2 (fun z hz => hp z (List.mem_cons_of_mem _ hz))
    exact ⟨y' :: ys', (mapM_cons_some g' x l _).2 ⟨y', ys', hy', hys', rfl⟩, .cons hR hF⟩

theorem mapM_perm {α β : Type} (g : α → Option β) {l l' : List α} (hp : l.Perm l') :
    ∀ r, l.mapM g = some r → ∃ r', l'.mapM g = some r' ∧ r.Perm r' := by
  induction hp with
  | nil => intro r h; exact ⟨r, h, List.Perm.refl _⟩
  | @cons x l l' _ ih =>
    intro r h
    obtain ⟨y, ys, h1, h2, rfl⟩ := (mapM_cons_some g x l r).1 h
    obtain ⟨ys', h3, h4⟩ := ih ys h2
    exact ⟨y :: ys', (mapM_cons_some g x l' _).2 ⟨y, ys', h1, h3, rfl⟩, h4.cons y⟩
  | swap x y l =>
    intro r h
    obtain ⟨b, r1, h1, h2, rfl⟩ := (mapM_cons_some g y (x :: l) r).1 h
    obtain ⟨a, rs, h3, h4, rfl⟩ := (mapM_cons_some g x l r1).1 h2
    refine ⟨a :: b :: rs, ?_, List.Perm.swap a b rs⟩
    exact (mapM_cons_some g x (y :: l) _).2 ⟨a, b :: rs, h3, (mapM_cons_some g y l _).2 ⟨b, rs, h1, h4, rfl⟩, rfl⟩
  | trans _ _ ih1 ih2 =>
    intro r h
    obtain ⟨r1, h1, p1⟩ := ih1 r h
    obtain ⟨r2, h2, p2⟩ := ih2 r1 h1
    exact ⟨r2, h2, p1.trans p2⟩

theorem mapM_append_some {α β : Type} (g : α → Option β) (l1 l2 : List α) (r : List β) :
    (l1 ++ l2).mapM g = some r ↔ ∃ r1 r2, l1.mapM g = some r1 ∧ l2.mapM g = some r2 ∧ r = r1 ++ r2 := by
  rw [List.mapM_append]
  cases l1.mapM g <;> cases l2.mapM g <;> simp [eq_comm]

theorem mapM_single_some {α β : Type} (g : α → Option β) (x : α) (r : List β) :
    [x].mapM g = some r ↔ ∃ y, g x = some y ∧ r = [y] := by
  rw [mapM_cons_some]
  constructor
  · rintro ⟨y, ys, h1, h2, rfl⟩
    rw [mapM_nil_some] at h2; subst h2; exact ⟨y, h1, rfl⟩
  · rintro ⟨y, h1, rfl⟩; exact ⟨y, [], h1, (mapM_nil_some g []).2 rfl, rfl⟩

theorem forall2_eq {α : Type} : ∀ (l l' : List α), List.Forall₂ Eq l l' → l = l' := by
  intro l l' h
  induction h with
  | nil => rfl
  | cons h _ ih => rw [h, ih]

theorem mapM_map_option {α β γ : Type} (g : α → Option β) (h : β → γ) :
    ∀ l : List α, l.mapM (fun c => (g c).map h) = (l.mapM g).map (List.map h)
  | [] => by simp
  | x :: l => by
    simp only [List.mapM_cons, mapM_map_option g h l]
    cases g x with
    | none => rfl
    | some y =>
      cases l.mapM g with
      | none => rfl
      | some ys => rfl

theorem mapM_eq_nil_iff {α β : Type} (h : α → Option β) (l : List α) (r : List β) (hm : l.mapM h = some r) :
    r = [] ↔ l = [] := by
  cases l with
  | nil => simp [(mapM_nil_some h r).1 hm]
  | cons x l =>
    obtain ⟨y, ys, _, _, rfl⟩ := (mapM_cons_some h x l r).1 hm
    simp

theorem absF_some_iff (a : Arena) (f x : Nat) (t : Rose) :
    absF (f + 1) a x = some t ↔ (isLive a x = true ∧ ∃ ks, (nd a x).children.mapM (fun c => absF f a c) = some ks ∧
      t = .node x (nd a x).name (nd a x).pedge (nd a x).depth ks) := by
  rw [absF]
  by_cases hl : isLive a x = true
  · rw [if_pos hl]
    cases hm : (nd a x).children.mapM (fun c => absF f a c) with
    | none => simp [hl]
    | some ks =>
      simp only [Option.map_some, Option.some.injEq, hl, true_and]
      constructor
      · intro h; exact ⟨ks, rfl, h.symm⟩
      · rintro ⟨ks', h1, h2⟩; cases h1; exact h2.symm
  · rw [if_neg hl]; simp [hl]

theorem absF_mono (a : Arena) : ∀ (f x : Nat) (t : Rose), absF f a x = some t → absF (f + 1) a x = some t
  | 0, x, t, h => by simp [absF] at h
  | f + 1, x, t, h => by
    obtain ⟨hl, ks, hm, rfl⟩ := (absF_some_iff a f x t).1 h
    obtain ⟨ks', h1, h2⟩ := mapM_forall2 (fun c => absF f a c) (fun c => absF (f + 1) a c) Eq _ ks hm
      (fun c _ y hy => ⟨y, absF_mono a f c y hy, rfl⟩)
    exact (absF_some_iff a (f + 1) x _).2 ⟨hl, ks, forall2_eq _ _ h2 ▸ h1, rfl⟩

theorem getRoot_congr {a b : Arena} (hs : b.size = a.size)
    (h : ∀ i, (isLive b i && (nd b i).parent.isNone) = (isLive a i && (nd a i).parent.isNone)) :
    getRoot b = getRoot a := by
  unfold getRoot
  rw [hs]
  exact find?_congr' _ _ _ fun i _ => h i

theorem absRoot_lift {a b : Arena} {R : Rose → Rose → Prop} (hs : b.size = a.size) (hr : getRoot b = getRoot a)
    (h : ∀ r t, getRoot a = some r → absF (fuelOf a) a r = some t → ∃ t', absF (fuelOf a) b r = some t' ∧ R t t')
    (t : Rose) (ht : absRoot a = .ok t) : ∃ t', absRoot b = .ok t' ∧ R t t' := by
  have hfuel : fuelOf b = fuelOf a := by unfold fuelOf; rw [hs]
  unfold absRoot root at ht ⊢
  rw [hr, hfuel]
  cases hg : getRoot a with
  | none => simp [hg, QR.ofOpt] at ht
  | some r =>
    rw [hg] at ht
    simp only [QR.ofOpt, QR.bind_ok] at ht ⊢
    cases hf : absF (fuelOf a) a r with
    | none => rw [hf] at ht; cases ht
    | some t0 =>
      rw [hf] at ht
      cases ht
      obtain ⟨t', h1, h2⟩ := h r _ hg hf
      exact ⟨t', by rw [h1], h2⟩

/-- an arena `b` whose slots are those of `a` with the payload changed the way `T` changes a node of the tree
    (links, liveness and child lists kept) abstracts to the `T`-image of the abstraction of `a` -/
theorem absRoot_map {a b : Arena} {T : Rose → Rose} (hs : b.size = a.size) (hl : ∀ x, isLive b x = isLive a x)
    (hk : ∀ x, isLive a x = true → (nd b x).children = (nd a x).children)
    (hp : ∀ x, isLive a x = true → (nd b x).parent = (nd a x).parent)
    (hT : ∀ x ks, isLive a x = true → (ks = [] ↔ (nd a x).children = []) →
      T (.node x (nd a x).name (nd a x).pedge (nd a x).depth ks) =
        .node x (nd b x).name (nd b x).pedge (nd b x).depth (ks.map T))
    (t : Rose) (ht : absRoot a = .ok t) : absRoot b = .ok (T t) := by
  have habs : ∀ f x, absF f b x = (absF f a x).map T := by
    intro f
    induction f with
    | zero => intro x; simp [absF]
    | succ f ih =>
      intro x
      unfold absF
      rw [hl]
      by_cases hx : isLive a x = true
      · rw [if_pos hx, if_pos hx, hk x hx, funext ih, mapM_map_option]
        cases hm : (nd a x).children.mapM (fun c => absF f a c) with
        | none => rfl
        | some ks => simp only [Option.map_some, hT x ks hx (mapM_eq_nil_iff _ _ _ hm)]
      · rw [if_neg hx, if_neg hx]; rfl
  have hr : getRoot b = getRoot a := getRoot_congr hs fun i => by
    rw [hl]
    cases hi : isLive a i with
    | false => rfl
    | true => rw [hp i hi]
  obtain ⟨_, h1, rfl⟩ := absRoot_lift (R := fun t t' => t' = T t) hs hr
    (fun r t _ hf => ⟨_, by rw [habs, hf]; rfl, rfl⟩) t ht
  exact h1

end SPM
