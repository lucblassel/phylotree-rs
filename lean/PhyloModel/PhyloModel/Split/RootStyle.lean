import PhyloModel.Split.RFCongr
/-! The same unrooted tree drawn with a two-child root `[X, Y]` (X internal) or with `X` dissolved into the
    root (`kx ++ [Y]`): same leaf index, same reported set of bipartitions (executable model). -/
namespace SPM
open AR

/-- the branch above a tip is never reported: its mask has at most one bit -/
theorem trivial_sideOf_tip (all : List String) (hnd : all.Nodup) (k : Rose) (hk : k.kids = []) :
    trivial (sideOf all k) = true := by
  obtain ⟨i, n, l, d, kk⟩ := k
  cases hk
  have h1 : ones (maskOf all (names (.node i n l d []))) ≤ 1 := by
    rw [ones_eq_countP, names, tipNames_leaf]
    cases n with
    | none => simp
    | some y =>
      refine Nat.le_trans (Nat.le_of_eq ?_) (List.nodup_iff_count.1 hnd y)
      exact List.countP_congr fun x _ => by simp
  rw [sideOf_eq, trivial_canon]
  simp [trivial, h1]

theorem names_node_ne (i : Nat) (n : Option String) (l : Option Int) (d : Nat) (ks : List Rose) (h : ks ≠ []) :
    names (.node i n l d ks) = ks.flatMap names := by
  unfold names
  rw [tipNames_node_ne _ _ _ _ _ h, List.filterMap_flatMap]

section
variable (i : Nat) (n : Option String) (l : Option Int) (d : Nat)
variable (ix : Nat) (nx : Option String) (lx : Option Int) (dx : Nat) (kx : List Rose) (Y : Rose)
variable (i' : Nat) (n' : Option String) (l' : Option Int) (d' : Nat)

theorem tipNames_root_style (hkx : kx ≠ []) :
    tipNames (.node i' n' l' d' (kx ++ [Y])) = tipNames (.node i n l d [.node ix nx lx dx kx, Y]) := by
  rw [tipNames_node_ne _ _ _ _ _ (by simp), tipNames_node_ne _ _ _ _ _ (by simp)]
  simp only [List.flatMap_append, List.flatMap_cons, List.flatMap_nil, List.append_nil]
  rw [tipNames_node_ne _ _ _ _ _ hkx]

/-- the two-child drawing has exactly one more branch entry: the one above `X` -/
theorem branches_root_style (all : List String) (hkx : kx ≠ []) :
    branches all (.node i n l d [.node ix nx lx dx kx, Y]) =
      (sideOf all (.node ix nx lx dx kx), dx, lx) :: branches all (.node i' n' l' d' (kx ++ [Y])) := by
  rw [branches_node, branches_node, branchesL_append, branchesL_cons, branchesL_cons, branchesL_nil,
    branches_node]
  simp [headB, Rose.kids, hkx, Rose.depth, Rose.len]

/-- in the two-child drawing the two root branches induce the same split -/
theorem sideOf_root_children (all : List String)
    (hall : leafIndex (.node i n l d [.node ix nx lx dx kx, Y]) = .ok all) :
    sideOf all (.node ix nx lx dx kx) = sideOf all Y := by
  obtain ⟨_, hnd, _⟩ := (leafIndex_ok_iff _ all).1 hall
  have hmem := mem_leafIndex _ all hall
  rw [names_node_ne _ _ _ _ _ (by simp)] at hnd hmem
  simp only [List.flatMap_cons, List.flatMap_nil, List.append_nil] at hnd hmem
  rw [sideOf_eq, sideOf_eq, canon_mask_eq_iff]
  right
  intro x hx
  have hx' := (hmem x).1 hx
  rw [List.nodup_append] at hnd
  rw [List.mem_append] at hx'
  constructor
  · intro h1 h2; exact hnd.2.2 x h1 x h2 rfl
  · intro h2
    rcases hx' with h | h
    · exact h
    · exact absurd h h2

theorem sameReport_root_style (hkx : kx ≠ []) :
    SameReport (.node i n l d [.node ix nx lx dx kx, Y]) (.node i' n' l' d' (kx ++ [Y])) := by
  refine sameReport_of_branches
    (leafIndex_perm _ _ (.of_eq (tipNames_root_style i n l d ix nx lx dx kx Y i' n' l' d' hkx).symm))
    fun all hall x hnt => ?_
  rw [branches_root_style i n l d ix nx lx dx kx Y i' n' l' d' all hkx, List.map_cons, List.mem_cons]
  refine ⟨fun h => h.elim (fun hx => ?_) id, Or.inr⟩
  -- the branch above X: the same side as the branch above Y, which is internal (else trivial)
  rw [hx, sideOf_root_children i n l d ix nx lx dx kx Y all hall] at hnt ⊢
  have hY : Y.kids ≠ [] := fun hk => by
    rw [trivial_sideOf_tip all (leafIndex_nodup _ all hall) Y hk] at hnt; cases hnt
  refine List.mem_map.mpr ⟨(sideOf all Y, Y.depth, Y.len), ?_, rfl⟩
  rw [branches_node, branchesL_append, branchesL_cons, List.mem_append, List.mem_append, List.mem_append]
  right; left; left
  simp [headB, hY]

end

end SPM
