/-! Splits of a name-only rose tree as sets of leaf names, the specification level of C05: the sides of a node are
    what its children contribute (`isSide_node`), so neither the order of children nor a unary node is seen. -/
namespace SP

inductive NT where | node (name : Option Nat) (kids : List NT)

mutual
def leaves : NT → List Nat
  | .node n [] => n.toList
  | .node _ (k :: ks) => leavesL (k :: ks)
def leavesL : List NT → List Nat
  | [] => []
  | k :: ks => leaves k ++ leavesL ks
end

mutual
/-- subtrees of all non-root nodes -/
def subs : NT → List NT
  | .node _ ks => subsL ks
def subsL : List NT → List NT
  | [] => []
  | k :: ks => k :: (subs k ++ subsL ks)
end

def SameSet (A B : List Nat) : Prop := ∀ x, x ∈ A ↔ x ∈ B

def IsSide (t : NT) (A : List Nat) : Prop := ∃ s, s ∈ subs t ∧ SameSet A (leaves s)

/-- what a child contributes to its parent's sides -/
def Contrib (k : NT) (A : List Nat) : Prop := SameSet A (leaves k) ∨ IsSide k A

theorem mem_leavesL (ks : List NT) (x : Nat) : x ∈ leavesL ks ↔ ∃ k, k ∈ ks ∧ x ∈ leaves k := by
  induction ks with
  | nil => simp [leavesL]
  | cons k ks ih => simp [leavesL, ih]

theorem mem_subsL (ks : List NT) (s : NT) : s ∈ subsL ks ↔ ∃ k, k ∈ ks ∧ (s = k ∨ s ∈ subs k) := by
  induction ks with
  | nil => simp [subsL]
  | cons k ks ih =>
    simp only [subsL, List.mem_cons, List.mem_append, ih]
    constructor
    · rintro (h | h | ⟨k', hk', h⟩)
      · exact ⟨k, Or.inl rfl, Or.inl h⟩
      · exact ⟨k, Or.inl rfl, Or.inr h⟩
      · exact ⟨k', Or.inr hk', h⟩
    · rintro ⟨k', (rfl | hk'), h⟩
      · rcases h with h | h
        · exact Or.inl h
        · exact Or.inr (Or.inl h)
      · exact Or.inr (Or.inr ⟨k', hk', h⟩)

theorem isSide_node (n : Option Nat) (ks : List NT) (A : List Nat) :
    IsSide (.node n ks) A ↔ ∃ k, k ∈ ks ∧ Contrib k A := by
  simp only [IsSide, subs, mem_subsL, Contrib]
  constructor
  · rintro ⟨s, ⟨k, hk, (rfl | hs)⟩, hA⟩
    · exact ⟨s, hk, Or.inl hA⟩
    · exact ⟨k, hk, Or.inr ⟨s, hs, hA⟩⟩
  · rintro ⟨k, hk, (hA | ⟨s, hs, hA⟩)⟩
    · exact ⟨k, ⟨k, hk, Or.inl rfl⟩, hA⟩
    · exact ⟨s, ⟨k, hk, Or.inr hs⟩, hA⟩

/-- two trees are interchangeable as children -/
def Equiv (t t' : NT) : Prop := SameSet (leaves t) (leaves t') ∧ ∀ A, IsSide t A ↔ IsSide t' A

theorem Equiv.contrib {k k' : NT} (h : Equiv k k') (A : List Nat) : Contrib k A ↔ Contrib k' A := by
  simp only [Contrib, SameSet]
  constructor
  · rintro (hA | hA)
    · exact Or.inl (fun x => (hA x).trans (h.1 x))
    · exact Or.inr ((h.2 A).1 hA)
  · rintro (hA | hA)
    · exact Or.inl (fun x => (hA x).trans (h.1 x).symm)
    · exact Or.inr ((h.2 A).2 hA)

inductive Reorder : NT → NT → Prop where
  | here {n ks ks'} : List.Perm ks ks' → ks ≠ [] → Reorder (.node n ks) (.node n ks')
  | inside {n l1 l2 k k'} : Reorder k k' → Reorder (.node n (l1 ++ k :: l2)) (.node n (l1 ++ k' :: l2))
  | refl {t} : Reorder t t
  | trans {a b c} : Reorder a b → Reorder b c → Reorder a c

theorem equiv_refl (t : NT) : Equiv t t := ⟨fun _ => Iff.rfl, fun _ => Iff.rfl⟩
theorem equiv_trans {a b c : NT} (h1 : Equiv a b) (h2 : Equiv b c) : Equiv a c :=
  ⟨fun x => (h1.1 x).trans (h2.1 x), fun A => (h1.2 A).trans (h2.2 A)⟩

theorem leaves_nonempty_kids (n : Option Nat) (ks : List NT) (hne : ks ≠ []) (x : Nat) :
    x ∈ leaves (.node n ks) ↔ ∃ k, k ∈ ks ∧ x ∈ leaves k := by
  cases ks with
  | nil => exact absurd rfl hne
  | cons k ks => simp only [leaves]; exact mem_leavesL (k :: ks) x

theorem exists_mem_mid {α : Type} (P : α → Prop) (l1 l2 : List α) (k : α) :
    (∃ c, c ∈ l1 ++ k :: l2 ∧ P c) ↔ ((∃ c, c ∈ l1 ∧ P c) ∨ P k ∨ ∃ c, c ∈ l2 ∧ P c) := by
  simp only [List.mem_append, List.mem_cons, or_and_right, exists_or, exists_eq_left]

/-- the reported sides (hence the bipartitions) do not depend on the order of children anywhere in the tree:
    leaves and sides of a node are both of the form `∃ child, …`, which sees the child list as a set -/
theorem reorder_equiv {t t' : NT} (h : Reorder t t') : Equiv t t' := by
  induction h with
  | @here n ks ks' hp hne =>
    have hne' : ks' ≠ [] := fun h => hne (List.Perm.eq_nil (h ▸ hp))
    refine ⟨fun x => ?_, fun A => ?_⟩
    · rw [leaves_nonempty_kids n ks hne, leaves_nonempty_kids n ks' hne']
      exact exists_congr fun k => and_congr_left fun _ => hp.mem_iff
    · rw [isSide_node, isSide_node]
      exact exists_congr fun k => and_congr_left fun _ => hp.mem_iff
  | @inside n l1 l2 k k' _ ih =>
    refine ⟨fun x => ?_, fun A => ?_⟩
    · rw [leaves_nonempty_kids n _ (by simp), leaves_nonempty_kids n _ (by simp), exists_mem_mid, exists_mem_mid,
        ih.1 x]
    · rw [isSide_node, isSide_node, exists_mem_mid, exists_mem_mid, ih.contrib A]
  | refl => exact equiv_refl _
  | trans _ _ ih1 ih2 => exact equiv_trans ih1 ih2

theorem contrib_unary (m : Option Nat) (k : NT) (A : List Nat) : Contrib (.node m [k]) A ↔ Contrib k A := by
  have hl : SameSet (leaves (.node m [k])) (leaves k) := by
    intro x; simp [leaves, leavesL]
  simp only [Contrib, isSide_node, List.mem_singleton, exists_eq_left]
  constructor
  · rintro (hA | hA | hA)
    · exact Or.inl (fun x => (hA x).trans (hl x))
    · exact Or.inl hA
    · exact Or.inr hA
  · rintro (hA | hA)
    · exact Or.inr (Or.inl hA)
    · exact Or.inr (Or.inr hA)

end SP
