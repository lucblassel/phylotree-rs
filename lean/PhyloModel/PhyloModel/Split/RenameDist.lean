import PhyloModel.Split.RenameTree
import PhyloModel.Split.ReorderDist
/-! Distances under a consistent injective renaming of the taxa of both trees: RF (value, root correction and
    the different-leaf-set rejection), the normalised pair, weighted RF, the squared branch score and the
    combined report are unchanged. -/
namespace SPM
open AR

theorem storedSide_of_mem_sides (t : Rose) (all : List String) (ps : List Part)
    (hall : leafIndex t = .ok all) (hps : partitions t = .ok ps) : ∀ x ∈ sides ps, StoredSide all x := by
  intro x hx
  rw [(partitions_spec t all ps hall hps).mem] at hx
  obtain ⟨b, hb, rfl⟩ := List.mem_map.mp hx
  exact storedSide_of_mem_branches all t b (List.mem_filter.1 hb).1

section
variable {f : String → String} (hf : Function.Injective f)
include hf

theorem mem_map_phi (all : List String) (B : List Side) (hB : ∀ b ∈ B, StoredSide all b) (s : Side)
    (hs : StoredSide all s) : phi f all s ∈ B.map (phi f all) ↔ s ∈ B := by
  rw [List.mem_map]
  constructor
  · rintro ⟨b, hb, he⟩
    rw [← (phi_inj hf all b s (hB b hb) hs).1 he]; exact hb
  · intro h; exact ⟨s, h, rfl⟩

theorem inter_map_phi (all : List String) (A B : List Side) (hA : ∀ a ∈ A, StoredSide all a)
    (hB : ∀ b ∈ B, StoredSide all b) : inter (A.map (phi f all)) (B.map (phi f all)) = inter A B := by
  unfold inter
  rw [List.filter_map, List.length_map]
  congr 1
  apply List.filter_congr
  intro a ha
  simp only [Function.comp, List.contains_eq_mem]
  rw [decide_eq_decide]
  exact mem_map_phi hf all B hB a (hA a ha)

theorem kids_sides_renameR (g : Option String → Option String) (all : List String) (t : Rose) :
    (renameR f g t).kids.map (sideOf (sigma f all)) = (t.kids.map (sideOf all)).map (phi f all) := by
  rw [kids_renameR, renameL_eq_map, List.map_map, List.map_map]
  apply List.map_congr_left
  intro k _
  exact sideOf_renameR hf g all k

theorem sameSet_rootSides_renameR (g g' : Option String → Option String) (all : List String) (s o : Rose) :
    sameSet (rootSides (sigma f all) (renameR f g s)) (rootSides (sigma f all) (renameR f g' o)) =
      sameSet (rootSides all s) (rootSides all o) := by
  rw [Bool.eq_iff_iff, sameSet_iff, sameSet_iff]
  simp only [mem_rootSides, kids_sides_renameR hf]
  have hS : ∀ t : Rose, ∀ x ∈ t.kids.map (sideOf all), StoredSide all x := fun t x hx => by
    obtain ⟨k, _, rfl⟩ := List.mem_map.mp hx
    exact storedSide_sideOf all k
  -- `phi` is injective on the root sides of the two trees
  constructor
  · intro h x
    exact ⟨fun hx => (mem_map_phi hf all _ (hS o) x (hS s x hx)).1 ((h _).1 (List.mem_map_of_mem hx)),
      fun hx => (mem_map_phi hf all _ (hS s) x (hS o x hx)).1 ((h _).2 (List.mem_map_of_mem hx))⟩
  · intro h y
    rw [List.mem_map (f := phi f all), List.mem_map (f := phi f all)]
    exact exists_congr fun x => and_congr_left fun _ => h x

omit hf in
theorem isRootedR_renameR (g : Option String → Option String) (t : Rose) :
    isRootedR (renameR f g t) = isRootedR t := by
  unfold isRootedR
  rw [kids_renameR, renameL_eq_map, List.length_map]

omit hf in
theorem leafIndex_sorted (t : Rose) (all : List String) (h : leafIndex t = .ok all) :
    all.Pairwise (fun x y => x ≤ y) := by
  obtain ⟨_, _, h3⟩ := (leafIndex_ok_iff t all).1 h
  rw [h3]; exact sortS_sorted _

theorem sigma_eq_iff (s o : Rose) (ls lo : List String) (hls : leafIndex s = .ok ls) (hlo : leafIndex o = .ok lo) :
    sigma f ls = sigma f lo ↔ ls = lo := by
  constructor
  · intro h
    apply sorted_perm_eq _ _ (leafIndex_sorted s ls hls) (leafIndex_sorted o lo hlo)
    rw [List.perm_ext_iff_of_nodup (leafIndex_nodup s ls hls) (leafIndex_nodup o lo hlo)]
    intro x
    have h1 := mem_sigma f ls (f x)
    have h2 := mem_sigma f lo (f x)
    rw [h] at h1
    constructor
    · intro hx
      obtain ⟨y, hy, he⟩ := h2.1 (h1.2 ⟨x, hx, rfl⟩)
      rw [← hf he]; exact hy
    · intro hx
      obtain ⟨y, hy, he⟩ := h1.1 (h2.2 ⟨x, hx, rfl⟩)
      rw [← hf he]; exact hy
  · intro h; rw [h]

theorem partitions_renameR_rel (g : Option String → Option String) (t : Rose) :
    QR.Rel (fun ps' ps => ∃ all, leafIndex t = .ok all ∧ partitions t = .ok ps ∧ ps' = ps.map (mapP f all))
      (partitions (renameR f g t)) (partitions t) :=
  partitions_rel (fun ps hp => by
    obtain ⟨all, hall⟩ := leafIndex_ok_of_partitions t ps hp
    exact ⟨_, partitions_renameR hf g t all ps hall hp, all, hall, hp, rfl⟩) (partitions_renameR_err hf g t)

theorem rf_renameR (g g' : Option String → Option String) (s o : Rose) :
    rf (renameR f g s) (renameR f g' o) = rf s o := by
  unfold rf
  refine (partitions_renameR_rel hf g s).bind_eq fun _ ps ⟨ls, hls, hps, e1⟩ =>
    (partitions_renameR_rel hf g' o).bind_eq fun _ po ⟨lo, hlo, hpo, e2⟩ => ?_
  subst e1 e2
  rw [leafIndex_renameR_ok hf g s ls hls, leafIndex_renameR_ok hf g' o lo hlo, hls, hlo]
  by_cases hne : ls = lo
  · subst hne
    -- unchanged one by one: the two lengths, the number of common sides, the root flags, the root-side comparison
    simp only [QR.bind_ok, bne_self_eq_false, Bool.false_eq_true, ↓reduceIte, sides_mapP, List.length_map,
      isRootedR_renameR, sameSet_rootSides_renameR hf,
      inter_map_phi hf ls _ _ (storedSide_of_mem_sides o ls po hlo hpo) (storedSide_of_mem_sides s ls ps hls hps)]
  · have h1 : (ls != lo) = true := bne_iff_ne.2 hne
    have h2 : (sigma f ls != sigma f lo) = true :=
      bne_iff_ne.2 fun h => hne ((sigma_eq_iff hf s o ls lo hls hlo).1 h)
    simp only [QR.bind_ok, h1, h2, ↓reduceIte]

theorem rfNorm_renameR (g g' : Option String → Option String) (s o : Rose) :
    rfNorm (renameR f g s) (renameR f g' o) = rfNorm s o := by
  unfold rfNorm
  rw [rf_renameR hf]
  congr 1; funext d
  refine (partitions_renameR_rel hf g s).bind_eq fun _ ps ⟨_, _, _, e1⟩ =>
    (partitions_renameR_rel hf g' o).bind_eq fun _ po ⟨_, _, _, e2⟩ => ?_
  rw [e1, e2, List.length_map, List.length_map]

theorem sumOver_rename (F : Int → Int) (all : List String) (ms mo : PM)
    (hms : ∀ p ∈ ms, StoredSide all p.1) (hmo : ∀ p ∈ mo, StoredSide all p.1) :
    sumOver F (ms.map (trM (phi f all) id)) (mo.map (trM (phi f all) id)) = sumOver F ms mo := by
  have hs : ∀ p ∈ ms ++ mo, StoredSide all p.1 := fun p hp => (List.mem_append.1 hp).elim (hms p) (hmo p)
  rw [sumOver_trM F 1 _ id (fun _ _ => (Int.one_mul _).symm) (fun _ => (Int.one_mul _).symm) ms mo
    fun p hp q hq => phi_beq hf all _ _ (hs p hp) (hs q hq), Int.one_mul]

/-- the renamed tree's length-carrying map is the transport of the tree's, key by key -/
theorem wmap_renameR_rel (g : Option String → Option String) (t : Rose) :
    QR.Rel (fun ms' ms => ∃ all, leafIndex t = .ok all ∧ (∀ p ∈ ms, StoredSide all p.1) ∧
        ms' = ms.map (trM (phi f all) id))
      (wmap (renameR f g t)) (wmap t) :=
  (partitions_renameR_rel hf g t).bind fun _ ps ⟨all, hall, hps, e⟩ => by
    rw [e]
    refine (withLengths_tr_rel (phi f all) id (ψ := id) (fun _ => Option.map_id'.symm) ps).imp
      fun _ ms _ hw e' => ⟨all, hall, fun p hp => ?_, e'⟩
    refine storedSide_of_mem_sides t all ps hall hps _ ?_
    rw [← withLengths_keys ps ms hw]
    exact List.mem_map_of_mem hp

/-- **the weighted sums (weighted RF, squared branch score) are unchanged by a consistent renaming** of two trees
    over the same leaf set (or with the same leaf-index error) -/
theorem wsum_renameR (F : Int → Int) (g g' : Option String → Option String) (s o : Rose)
    (hidx : leafIndex s = leafIndex o) : wsum F (renameR f g s) (renameR f g' o) = wsum F s o :=
  (wmap_renameR_rel hf g s).bind_eq fun _ ms ⟨ls, hls, i1, e1⟩ =>
    (wmap_renameR_rel hf g' o).bind_eq fun _ mo ⟨lo, hlo, i2, e2⟩ => by
      obtain rfl : ls = lo := QR.ok.inj (hls.symm.trans (hidx.trans hlo))
      rw [e1, e2, sumOver_rename hf F ls ms mo i1 i2]

/-- the combined report is unchanged by a consistent renaming (no hypothesis: different leaf sets are rejected
    before and after) -/
theorem compareTopologies_renameR (g g' : Option String → Option String) (s o : Rose) :
    compareTopologies (renameR f g s) (renameR f g' o) = compareTopologies s o := by
  rw [compareTopologies_eq, compareTopologies_eq, rfNorm_renameR hf]
  refine (wmap_renameR_rel hf g s).bind_eq fun _ _ _ => (wmap_renameR_rel hf g' o).bind_eq fun _ _ _ => ?_
  -- the weighted sums are read only once `rfNorm` has accepted the pair, i.e. over one leaf index
  cases hr : rfNorm s o with
  | ok r =>
    have hidx := leafIndex_eq_of_rfNorm hr
    rw [wrf_eq_wsum, kf2_eq_wsum, wrf_eq_wsum, kf2_eq_wsum, wsum_renameR hf _ g g' s o hidx, wsum_renameR hf _ g g' s o hidx]
  | err e => rfl
  | panic => rfl

end

end SPM
