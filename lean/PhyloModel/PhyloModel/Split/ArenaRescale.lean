import PhyloModel.Split.Rescale
import PhyloModel.Split.ArenaBridge
import PhyloModel.Arena.OpsInv
/-! Bridge from the arena operation `rescale` to the rose-level `scaleR`: the abstraction of the rescaled arena
    is the rescaled abstraction; hence `rescale k` on both trees multiplies weighted RF by `|k|`, the squared
    branch score by `k²`, and leaves RF and the bipartition set unchanged. -/
namespace SPM
open AR

theorem isLive_rescale (a : Arena) (k : Int) (i : Nat) : isLive (rescale a k) i = isLive a i := by
  unfold isLive
  rw [rescale_nd, show (rescale a k).size = a.size by simp [rescale]]
  rfl

theorem absRoot_rescale (a : Arena) (k : Int) (t : Rose) (ht : absRoot a = .ok t) :
    absRoot (rescale a k) = .ok (scaleR k t) :=
  absRoot_map (by simp [rescale]) (isLive_rescale a k) (fun x _ => by rw [rescale_nd]; rfl)
    (fun x _ => by rw [rescale_nd]; rfl)
    (fun x ks _ _ => by
      rw [scaleR_node, scaleL_eq_map, rescale_nd]
      simp only [scaleNode, Int.mul_comm]) t ht

theorem rescale_distances (a b : Arena) (k : Int) (s o : Rose) (hs : absRoot a = .ok s) (ho : absRoot b = .ok o) :
    ∃ s' o', absRoot (rescale a k) = .ok s' ∧ absRoot (rescale b k) = .ok o' ∧
      rf s' o' = rf s o ∧
      (∀ v, wrf s o = .ok v → wrf s' o' = .ok (iabs k * v)) ∧
      (∀ v, kf2 s o = .ok v → kf2 s' o' = .ok (k * k * v)) := by
  refine ⟨scaleR k s, scaleR k o, absRoot_rescale a k s hs, absRoot_rescale b k o ho, rf_scaleR k k s o, ?_, ?_⟩
  · intro v hv
    have := (weighted_scaleR k s o).1
    rw [hv] at this; exact this
  · intro v hv
    have := (weighted_scaleR k s o).2
    rw [hv] at this; exact this

end SPM
