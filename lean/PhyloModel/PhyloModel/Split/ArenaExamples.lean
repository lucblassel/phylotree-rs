import PhyloModel.Split.ArenaCompress
import PhyloModel.Split.ArenaRescale
import PhyloModel.Arena.AbsRose
/-! Non-vacuity of the arena bridges: an arena built with the model's own constructors,
    `((x:5)u:2, y:3, (z:1,t:4)w:6)` — slot 1 is a one-child non-root node, so `compress` has work to do — is good,
    has one root and an abstraction. -/
namespace SPM
open AR

def exA0 : Arena := (add #[] none).1
def exA1 : Arena := (addChildNamed exA0 0 (some 2) (some "u")).1
def exA2 : Arena := (addChildNamed exA1 1 (some 5) (some "x")).1
def exA3 : Arena := (addChildNamed exA2 0 (some 3) (some "y")).1
def exA4 : Arena := (addChildNamed exA3 0 (some 6) (some "w")).1
def exA5 : Arena := (addChildNamed exA4 4 (some 1) (some "z")).1
def exA6 : Arena := (addChildNamed exA5 4 (some 4) (some "t")).1

theorem exA6_good : Good exA6 :=
  addChildNamed_good _ _ _ (addChildNamed_good _ _ _ (addChildNamed_good _ _ _ (addChildNamed_good _ _ _
    (addChildNamed_good _ _ _ (addChildNamed_good _ _ _ (add_good none empty_good))))))

theorem exA6_oneRoot : AtMostOneRoot exA6 :=
  addChildNamed_oneRoot _ _ _ (addChildNamed_oneRoot _ _ _ (addChildNamed_oneRoot _ _ _ (addChildNamed_oneRoot _ _ _
    (addChildNamed_oneRoot _ _ _ (addChildNamed_oneRoot _ _ _ (add_empty_oneRoot none))))))

/-- the hypotheses of `compress_shape` / `C05.compress_keeps_bipartitions` / `C05.ladderize_keeps_bipartitions` / `absRoot_rescale`
    hold for an arena on which `compress` has a node to remove -/
example : ∃ t, Good exA6 ∧ absRoot exA6 = .ok t ∧ toCompress exA6 = [1] := by
  obtain ⟨t, ht⟩ := absRoot_total exA6_good.1 exA6_oneRoot 0 ((isLive_iff exA6 0).1 (by decide))
  exact ⟨t, exA6_good, ht, by decide⟩

end SPM
