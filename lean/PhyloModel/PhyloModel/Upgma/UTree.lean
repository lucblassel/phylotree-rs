import PhyloModel.Matrix.Upgma
/-! # C15 — observations on the rose trees built by the executable UPGMA model

Branch lengths, leaf names, leaf depths and binary shape of a `UPG.URose`, with the equations for the two
constructors the model uses (`URose.setLen`, `mergeTrees`). -/
namespace UPG

def URose.name : URose → Option String | .node n _ _ => n
def URose.len : URose → Option Rat | .node _ l _ => l
def URose.kids : URose → List URose | .node _ _ ks => ks

@[simp] theorem URose.name_node (n : Option String) (l : Option Rat) (ks : List URose) : (URose.node n l ks).name = n := rfl
@[simp] theorem URose.len_node (n : Option String) (l : Option Rat) (ks : List URose) : (URose.node n l ks).len = l := rfl
@[simp] theorem URose.kids_node (n : Option String) (l : Option Rat) (ks : List URose) : (URose.node n l ks).kids = ks := rfl
@[simp] theorem URose.setLen_name (t : URose) (l : Option Rat) : (t.setLen l).name = t.name := by cases t; rfl
@[simp] theorem URose.setLen_len (t : URose) (l : Option Rat) : (t.setLen l).len = l := by cases t; rfl
@[simp] theorem URose.setLen_kids (t : URose) (l : Option Rat) : (t.setLen l).kids = t.kids := by cases t; rfl

mutual
/-- branch lengths of all proper descendants (the node's own length is not included) -/
def brLens : URose → List (Option Rat)
  | .node _ _ ks => brLensL ks
def brLensL : List URose → List (Option Rat)
  | [] => []
  | k :: ks => k.len :: (brLens k ++ brLensL ks)
end

mutual
def leafNames : URose → List (Option String)
  | .node n _ ks => if ks.isEmpty then [n] else leafNamesL ks
def leafNamesL : List URose → List (Option String)
  | [] => []
  | k :: ks => leafNames k ++ leafNamesL ks
end

mutual
/-- distance from the node down to each leaf, left to right (a missing length counts as `0`) -/
def leafDepths : URose → List Rat
  | .node _ _ ks => if ks.isEmpty then [0] else leafDepthsL ks
def leafDepthsL : List URose → List Rat
  | [] => []
  | k :: ks => (leafDepths k).map (fun d => k.len.getD 0 + d) ++ leafDepthsL ks
end

mutual
/-- every node has no child and a name, or exactly two children -/
def isBin : URose → Bool
  | .node n _ ks => (ks.isEmpty && n.isSome) || (ks.length == 2 && isBinL ks)
def isBinL : List URose → Bool
  | [] => true
  | k :: ks => isBin k && isBinL ks
end

theorem brLens_eq (t : URose) : brLens t = brLensL t.kids := by cases t; rw [brLens]; rfl
theorem brLensL_nil : brLensL [] = [] := by rw [brLensL]
theorem brLensL_cons (k : URose) (ks : List URose) : brLensL (k :: ks) = k.len :: (brLens k ++ brLensL ks) := by
  rw [brLensL]

theorem leafNames_eq (t : URose) : leafNames t = if t.kids.isEmpty then [t.name] else leafNamesL t.kids := by
  cases t; rw [leafNames]; rfl
theorem leafNamesL_nil : leafNamesL [] = [] := by rw [leafNamesL]
theorem leafNamesL_cons (k : URose) (ks : List URose) : leafNamesL (k :: ks) = leafNames k ++ leafNamesL ks := by
  rw [leafNamesL]

theorem leafDepths_eq (t : URose) : leafDepths t = if t.kids.isEmpty then [0] else leafDepthsL t.kids := by
  cases t; rw [leafDepths]; rfl
theorem leafDepthsL_nil : leafDepthsL [] = [] := by rw [leafDepthsL]
theorem leafDepthsL_cons (k : URose) (ks : List URose) :
    leafDepthsL (k :: ks) = (leafDepths k).map (fun d => k.len.getD 0 + d) ++ leafDepthsL ks := by
  rw [leafDepthsL]

theorem isBin_eq (t : URose) : isBin t = ((t.kids.isEmpty && t.name.isSome) || (t.kids.length == 2 && isBinL t.kids)) := by
  cases t; rw [isBin]; rfl
theorem isBinL_nil : isBinL [] = true := by rw [isBinL]
theorem isBinL_cons (k : URose) (ks : List URose) : isBinL (k :: ks) = (isBin k && isBinL ks) := by rw [isBinL]

@[simp] theorem brLens_setLen (t : URose) (l : Option Rat) : brLens (t.setLen l) = brLens t := by
  rw [brLens_eq, brLens_eq, URose.setLen_kids]
@[simp] theorem leafNames_setLen (t : URose) (l : Option Rat) : leafNames (t.setLen l) = leafNames t := by
  rw [leafNames_eq, leafNames_eq, URose.setLen_kids, URose.setLen_name]
@[simp] theorem leafDepths_setLen (t : URose) (l : Option Rat) : leafDepths (t.setLen l) = leafDepths t := by
  rw [leafDepths_eq, leafDepths_eq, URose.setLen_kids]
@[simp] theorem isBin_setLen (t : URose) (l : Option Rat) : isBin (t.setLen l) = isBin t := by
  rw [isBin_eq, isBin_eq, URose.setLen_kids, URose.setLen_name]

theorem brLens_merge (a b : URose) (la lb : Rat) :
    brLens (mergeTrees a b la lb) = some la :: (brLens a ++ (some lb :: brLens b)) := by
  simp [mergeTrees, brLens_eq, brLensL_cons, brLensL_nil]

theorem leafNames_merge (a b : URose) (la lb : Rat) :
    leafNames (mergeTrees a b la lb) = leafNames a ++ leafNames b := by
  simp [mergeTrees, leafNames_eq (.node _ _ _), leafNamesL_cons, leafNamesL_nil]

theorem leafDepths_merge (a b : URose) (la lb : Rat) :
    leafDepths (mergeTrees a b la lb) =
      (leafDepths a).map (fun d => la + d) ++ (leafDepths b).map (fun d => lb + d) := by
  simp [mergeTrees, leafDepths_eq (.node _ _ _), leafDepthsL_cons, leafDepthsL_nil]

theorem isBin_merge (a b : URose) (la lb : Rat) : isBin (mergeTrees a b la lb) = (isBin a && isBin b) := by
  simp [mergeTrees, isBin_eq (.node _ _ _), isBinL_cons, isBinL_nil]

theorem brLens_leaf (n : Option String) (l : Option Rat) : brLens (.node n l []) = [] := by
  simp [brLens_eq, brLensL_nil]
theorem leafNames_leaf (n : Option String) (l : Option Rat) : leafNames (.node n l []) = [n] := by
  simp [leafNames_eq]
theorem leafDepths_leaf (n : Option String) (l : Option Rat) : leafDepths (.node n l []) = [0] := by
  simp [leafDepths_eq]
theorem isBin_leaf (n : String) (l : Option Rat) : isBin (.node (some n) l []) = true := by
  simp [isBin_eq]

end UPG
