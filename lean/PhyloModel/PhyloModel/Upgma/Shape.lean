import PhyloModel.Upgma.LoopInv
/-! # C15 — shape of the tree returned by the executable UPGMA model

The returned tree is binary at every internal node (the root included), every leaf carries a name, and the
leaf names, left to right, are a permutation of the taxa (`upgma_shape`, by the per-cluster invariant `ShapeQ`). -/
namespace UPG
open MX Tri MXS

theorem map_nameOf_range (taxa : List String) : (List.range taxa.length).map (nameOf taxa) = taxa := by
  apply List.ext_getElem
  · simp
  · intro i h1 h2
    simp [nameOf, List.getElem?_eq_getElem h2]

/-- per-cluster shape invariant: binary, and the leaf names are the names of the members, in order -/
def ShapeQ (taxa : List String) (t : URose) (A : List Nat) (_h : Rat) : Prop :=
  isBin t = true ∧ leafNames t = A.map (fun i => some (nameOf taxa i))

theorem qmerge_shape (taxa : List String) : QMerge (ShapeQ taxa) := by
  intro ta tb A B ha hb h qa qb _ _ _ _
  refine ⟨?_, ?_⟩
  · rw [isBin_merge, qa.1, qb.1]; rfl
  · rw [leafNames_merge, qa.2, qb.2, List.map_append]

theorem qinit_shape (taxa : List String) : QInit (ShapeQ taxa) taxa := by
  intro i _
  exact ⟨isBin_leaf _ _, by rw [leafNames_leaf]; rfl⟩

theorem upgma_shape (taxa : List String) (v : Array Rat) (h2 : 2 ≤ taxa.length) (hv : v.size = T taxa.length)
    (hpos : ∀ k, k < v.size → 0 ≤ v.getD k 0) :
    ∀ t m tie dy, upgma taxa v = .ok (t, m, tie, dy) →
      isBin t = true ∧ t.kids.length = 2 ∧ (leafNames t).Perm (taxa.map some) := by
  intro t m tie dy hup
  obtain ⟨A, _, ⟨hb, hn⟩, hperm⟩ := (upgma_cinv (qmerge_shape taxa) taxa v (qinit_shape taxa) h2 hv hpos).2 t m tie dy hup
  have hnames : (leafNames t).Perm (taxa.map some) := by
    rw [hn]
    have := List.Perm.map (fun i => some (nameOf taxa i)) hperm
    have e : (List.range taxa.length).map (fun i => some (nameOf taxa i)) = taxa.map some := by
      conv => rhs; rw [← map_nameOf_range taxa]
      rw [List.map_map]; rfl
    rw [e] at this; exact this
  refine ⟨hb, ?_, hnames⟩
  have hlen : (leafNames t).length = taxa.length := by rw [hnames.length_eq]; simp
  rw [isBin_eq] at hb
  rw [leafNames_eq] at hlen
  by_cases hk : t.kids.isEmpty = true
  · rw [if_pos hk] at hlen; simp at hlen; omega
  · simp only [hk, Bool.false_and, Bool.false_or, Bool.and_eq_true, beq_iff_eq] at hb
    exact hb.1

/-- non-vacuity: the hypotheses hold for a concrete input (`#eval` of the model on it: binary, leaves `c b a`) -/
example : 2 ≤ ["a", "b", "c"].length ∧ (#[2, 4, 4] : Array Rat).size = T ["a", "b", "c"].length ∧
    ∀ k, k < (#[2, 4, 4] : Array Rat).size → 0 ≤ (#[2, 4, 4] : Array Rat).getD k 0 := hyps_example

end UPG
