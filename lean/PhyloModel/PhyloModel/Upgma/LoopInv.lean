import PhyloModel.Upgma.Refine
import PhyloModel.Upgma.UTree
/-! # C15 — invariants of the executable UPGMA loop, from the initial state to the returned tree

The average-linkage invariant `UP.Link`, the monotone-heights invariant `UP.Mono` and the partition invariant
`Part` are lifted through `UPG.loop`, starting from the initial state that `UPG.upgma` builds.  The loop is read as
the list of its iterations (`Run`, obtained once from the fuel-indexed loop in `loopTr_run`); every further invariant is
an induction on that list.  A generic per-cluster invariant `Q tree members height` is carried along (`Run.cinv`,
`upgma_cinv`); its first instance gives:
for a matrix with non-negative entries on two or more taxa `UPG.upgma` succeeds and every branch length of
the returned tree is non-negative (`upgma_ok_nonneg`). -/
namespace UPG
open MX Tri MXS

/-! ## `upgma` = initial state, loop, final join -/

def initSt (taxa : List String) (v : Array Rat) : St :=
  { dm := v.map some, card := Array.replicate taxa.length 1, merged := Array.replicate taxa.length false,
    heights := Array.replicate taxa.length 0, clusters := (taxa.map (fun t => URose.node (some t) none [])).toArray,
    rootKids := List.range taxa.length, nClusters := taxa.length, margin := none }

/-- the two children of the root as the final join leaves them; `f` is what is done to a computed length: nothing in
    `upgma`, the clamp in `upgmaC` -/
def finalKid (f : Rat → Rat) (st : St) (ai bi : Nat) (h : Rat) (i : Nat) : URose :=
  let t := st.clusters.getD i default
  if i == ai then t.setLen (some (f (h - st.heights.getD ai 0)))
  else if i == bi then t.setLen (some (f (h - st.heights.getD bi 0))) else t

theorem finalKid_eq (f : Rat → Rat) (st : St) {ai bi i : Nat} (h : Rat) (hi : i = ai ∨ i = bi) :
    finalKid f st ai bi h i = (st.clusters.getD i default).setLen (some (f (h - st.heights.getD i 0))) := by
  unfold finalKid
  by_cases h1 : i = ai
  · simp only [h1, beq_self_eq_true, ↓reduceIte]
  · have h2 := hi.resolve_left h1
    subst h2
    simp only [beq_iff_eq, h1, beq_self_eq_true, ↓reduceIte]

/-- the part of `upgma` (and of `upgmaC`) after the loop -/
def finish (f : Rat → Rat) (n : Nat) (st : St) : Res (URose × Option Rat × Bool × Bool) :=
  match actOf n st with
  | ai :: bi :: _ =>
    match st.dm.getD (cell ai bi) none with
    | some dab =>
      .ok (.node none none (st.rootKids.map (finalKid f st ai bi (dab / 2))), st.margin, st.tie,
        st.dyadic && isDyadic (dab / 2))
    | none => .err "NonFinite"
  | _ => .err "IndexError"

theorem upgma_eq (taxa : List String) (v : Array Rat) :
    upgma taxa v = match loop taxa.length (initSt taxa v) with
      | .ok st => finish id taxa.length st
      | .err k => .err k
      | .panic => .panic := rfl

theorem upgma_of_loop {taxa : List String} {v : Array Rat} {st : St} (hl : loop taxa.length (initSt taxa v) = .ok st) :
    upgma taxa v = finish id taxa.length st := by
  rw [upgma_eq, hl]

theorem finish_ok {f : Rat → Rat} {n : Nat} {st : St} {ai bi : Nat} {rest : List Nat} {dab : Rat}
    (hact : actOf n st = ai :: bi :: rest) (hd : st.dm.getD (cell ai bi) none = some dab) :
    finish f n st = .ok (.node none none (st.rootKids.map (finalKid f st ai bi (dab / 2))), st.margin, st.tie,
      st.dyadic && isDyadic (dab / 2)) := by
  simp only [finish, hact, hd]

theorem finish_ok_inv {f : Rat → Rat} {n : Nat} {st : St} {r : URose × Option Rat × Bool × Bool}
    (h : finish f n st = .ok r) :
    ∃ ai bi rest dab, actOf n st = ai :: bi :: rest ∧ st.dm.getD (cell ai bi) none = some dab ∧
      r = (.node none none (st.rootKids.map (finalKid f st ai bi (dab / 2))), st.margin, st.tie,
        st.dyadic && isDyadic (dab / 2)) := by
  unfold finish at h
  split at h
  · next ai bi rest hact =>
    split at h
    · next dab hd =>
      injection h with h
      exact ⟨ai, bi, rest, dab, hact, hd, h.symm⟩
    · cases h
  · cases h

/-- the input as a symmetric function of two taxon indices -/
def d0of (v : Array Rat) : Nat → Nat → Rat := fun i j => if i = j then 0 else v.getD (cell i j) 0

theorem d0of_symm (v : Array Rat) (x y : Nat) : d0of v x y = d0of v y x := by
  unfold d0of
  by_cases h : x = y
  · subst h; rfl
  · have h' : ¬ y = x := fun e => h e.symm
    simp only [h, h', ↓reduceIte]; rw [cell_symm x y h]

/-! ## clustering states: active indices with their member lists -/

theorem memAfter_self (cl : Nat → List Nat) (a b : Nat) : memAfter cl a b a = cl a ++ cl b := by
  simp [memAfter]

theorem memAfter_ne (cl : Nat → List Nat) {a i : Nat} (b : Nat) (h : i ≠ a) : memAfter cl a b i = cl i := by
  simp [memAfter, h]

/-- a well-formed clustering state: no repeated active index, active clusters non-empty and pairwise disjoint
    (the part of `UP.Link` / `UPG.Part` that does not mention distances or the number of taxa) -/
structure WFC (act : List Nat) (cl : Nat → List Nat) : Prop where
  nodup : act.Nodup
  ne : ∀ i, i ∈ act → cl i ≠ []
  disj : ∀ i j, i ∈ act → j ∈ act → i ≠ j → ∀ x, x ∈ cl i → x ∉ cl j

theorem mem_memAfter {cl : Nat → List Nat} {a b i x : Nat} :
    x ∈ memAfter cl a b i ↔ x ∈ cl i ∨ (i = a ∧ x ∈ cl b) := by
  by_cases hia : i = a
  · rw [hia, memAfter_self, List.mem_append]
    exact ⟨fun h => h.imp_right fun h' => ⟨rfl, h'⟩, fun h => h.imp_right fun h' => h'.2⟩
  · rw [memAfter_ne cl b hia]
    exact ⟨Or.inl, fun h => h.elim id fun h' => absurd h'.1 hia⟩

theorem WFC.merge {act : List Nat} {cl : Nat → List Nat} (w : WFC act cl) (a : Nat) {b : Nat} (hb : b ∈ act) :
    WFC (act.erase b) (memAfter cl a b) := by
  refine ⟨w.nodup.erase b, fun i hi h => ?_, fun i j hi hj hij x hx hx' => ?_⟩
  · obtain ⟨y, hy⟩ := List.exists_mem_of_ne_nil _ (w.ne i (List.mem_of_mem_erase hi))
    have : y ∈ memAfter cl a b i := mem_memAfter.2 (Or.inl hy)
    rw [h] at this
    cases this
  · obtain ⟨hi1, hib⟩ := (mem_erase_nodup w.nodup).1 hi
    obtain ⟨hj1, hjb⟩ := (mem_erase_nodup w.nodup).1 hj
    rcases mem_memAfter.1 hx with hx | ⟨hia, hx⟩ <;> rcases mem_memAfter.1 hx' with hx' | ⟨hja, hx'⟩
    · exact w.disj i j hi1 hj1 hij x hx hx'
    · exact w.disj i b hi1 hb hib x hx hx'
    · exact w.disj b j hb hj1 (fun e => hjb e.symm) x hx hx'
    · exact hij (hia.trans hja.symm)

def MemP (P : Nat → Prop) (act : List Nat) (cl : Nat → List Nat) : Prop := ∀ i, i ∈ act → ∀ x, x ∈ cl i → P x

theorem MemP.merge {P : Nat → Prop} {act : List Nat} {cl : Nat → List Nat} (h : MemP P act cl) {a b : Nat}
    (hb : b ∈ act) : MemP P (act.erase b) (memAfter cl a b) := by
  intro i hi x hx
  rcases mem_memAfter.1 hx with hx | ⟨_, hx⟩
  · exact h i (List.mem_of_mem_erase hi) x hx
  · exact h b hb x hx

/-- the member lists of the active clusters partition the taxa `0 .. n-1` -/
structure Part (n : Nat) (s : UP.St) : Prop where
  nd : ∀ i, i ∈ s.act → (s.mem i).Nodup
  lt : ∀ i, i ∈ s.act → ∀ x, x ∈ s.mem i → x < n
  disj : ∀ i j, i ∈ s.act → j ∈ s.act → i ≠ j → ∀ x, x ∈ s.mem i → x ∉ s.mem j
  cover : ∀ x, x < n → ∃ i, i ∈ s.act ∧ x ∈ s.mem i

theorem Part.nodup_append {n : Nat} {s : UP.St} (hp : Part n s) {x y : Nat} (hx : x ∈ s.act) (hy : y ∈ s.act)
    (hxy : x ≠ y) : (s.mem x ++ s.mem y).Nodup :=
  List.nodup_append.2 ⟨hp.nd x hx, hp.nd y hy, fun p hp1 _ hq e => hp.disj x y hx hy hxy p hp1 (e ▸ hq)⟩

theorem merge_part (n : Nat) (s : UP.St) (a b : Nat) (w : WFC s.act s.mem) (hp : Part n s)
    (ha : a ∈ s.act) (hb : b ∈ s.act) (hab : a ≠ b) : Part n (UP.merge s a b) := by
  refine ⟨fun i hi => ?_, MemP.merge (P := fun x => x < n) hp.lt hb, (w.merge a hb).disj, fun x hx => ?_⟩
  · show (memAfter s.mem a b i).Nodup
    by_cases hia : i = a
    · rw [hia, memAfter_self]
      exact hp.nodup_append ha hb hab
    · rw [memAfter_ne s.mem b hia]; exact hp.nd i (List.mem_of_mem_erase hi)
  · obtain ⟨i, hi, hxi⟩ := hp.cover x hx
    show ∃ i, i ∈ s.act.erase b ∧ x ∈ memAfter s.mem a b i
    by_cases hib : i = b
    · exact ⟨a, (mem_erase_nodup w.nodup).2 ⟨ha, hab⟩, mem_memAfter.2 (Or.inr ⟨rfl, hib ▸ hxi⟩)⟩
    · exact ⟨i, (mem_erase_nodup w.nodup).2 ⟨hi, hib⟩, mem_memAfter.2 (Or.inl hxi)⟩


structure LInv (d0 : Nat → Nat → Rat) (n : Nat) (st : St) (mem : Nat → List Nat) : Prop where
  wf : WFSt n st mem
  link : UP.Link d0 (absSt n st mem)
  mono : UP.Mono (absSt n st mem)
  part : Part n (absSt n st mem)
  two : 2 ≤ st.nClusters

/-- per-cluster invariant: every live index carries a tree, a member list and a height related by `Q` -/
def CInv (Q : URose → List Nat → Rat → Prop) (n : Nat) (st : St) (mem : Nat → List Nat) : Prop :=
  ∀ i, i < n → st.merged.getD i true = false → Q (st.clusters.getD i default) (mem i) (st.heights.getD i 0)

theorem CInv.act {Q : URose → List Nat → Rat → Prop} {n : Nat} {st : St} {mem : Nat → List Nat} (hC : CInv Q n st mem)
    {i : Nat} (hi : i ∈ actOf n st) : Q (st.clusters.getD i default) (mem i) (st.heights.getD i 0) :=
  hC i (mem_actOf.1 hi).1 (mem_actOf.1 hi).2

def QMerge (Q : URose → List Nat → Rat → Prop) : Prop :=
  ∀ (ta tb : URose) (A B : List Nat) (ha hb h : Rat), Q ta A ha → Q tb B hb → A ≠ [] → B ≠ [] →
    0 ≤ h - ha → 0 ≤ h - hb → Q (mergeTrees ta tb (h - ha) (h - hb)) (A ++ B) h

theorem Stepped.linv {d0 : Nat → Nat → Rat} (hd : ∀ x y, d0 x y = d0 y x) {n : Nat} {st st' : St} {mem}
    {a b : Nat} {dab : Rat} (hI : LInv d0 n st mem) (s : Stepped n st st' a b dab) (hgt : 2 < st.nClusters) :
    LInv d0 n st' (memAfter mem a b) ∧ 0 ≤ dab / 2 - st.heights.getD a 0 ∧ 0 ≤ dab / 2 - st.heights.getD b 0 := by
  obtain ⟨hD, hmin⟩ := s.min_act
  have ag := s.agree hI.wf
  have hl := UP.merge_link d0 hd (absSt n st mem) a b hI.link s.act_a s.act_b s.ne
  obtain ⟨hm, h1, h2⟩ := UP.merge_mono d0 (absSt n st mem) a b hI.link hI.mono s.act_a s.act_b s.ne hmin
  have hp := merge_part n (absSt n st mem) a b ⟨hI.link.nodup, hI.link.ne, hI.part.disj⟩ hI.part s.act_a s.act_b s.ne
  have hD' : (absSt n st mem).D a b = dab := hD
  rw [hD'] at h1 h2
  refine ⟨⟨s.wf hI.wf, ag.link d0 hl, ag.mono hm, ?_, ?_⟩, h1, h2⟩
  · -- `Part` reads only `act` and `mem`: the member lists are those of `UP.merge` by definition, the live lists by `ag.act`
    exact ⟨fun i hi => hp.nd i (ag.act ▸ hi), fun i hi => hp.lt i (ag.act ▸ hi),
      fun i j hi hj => hp.disj i j (ag.act ▸ hi) (ag.act ▸ hj), fun x hx => (hp.cover x hx).imp fun i h => ⟨ag.act ▸ h.1, h.2⟩⟩
  · rw [s.nClusters]; omega

theorem Stepped.cinv {Q : URose → List Nat → Rat → Prop} {n : Nat} {st st' : St} {mem} {a b : Nat} {dab : Rat}
    (h : WFSt n st mem) (s : Stepped n st st' a b dab) (hC : CInv Q n st mem)
    (hQ : Q (st.clusters.getD a default) (mem a) (st.heights.getD a 0) →
      Q (st.clusters.getD b default) (mem b) (st.heights.getD b 0) →
      Q (mergeTrees (st.clusters.getD a default) (st.clusters.getD b default) (dab / 2 - st.heights.getD a 0)
        (dab / 2 - st.heights.getD b 0)) (mem a ++ mem b) (dab / 2)) :
    CInv Q n st' (memAfter mem a b) := by
  intro i hi hli
  obtain ⟨hli1, hib⟩ := (s.live' h i).1 hli
  rw [s.clusters, s.heights, getD_set, getD_set, h.szK, h.szH]
  simp only [memAfter]
  by_cases hia : a = i
  · have e : a = i ∧ a < n := ⟨hia, s.an⟩
    rw [if_pos e, if_pos e, if_pos hia.symm]
    exact hQ (hC a s.an s.la) (hC b s.bn s.lb)
  · have e : ¬ (a = i ∧ a < n) := fun e => hia e.1
    rw [if_neg e, if_neg e, if_neg (fun e' : i = a => hia e'.symm)]
    exact hC i hi hli1

/-! ## the loop as a list of iterations -/

/-- a merge event: cluster `b` (members `B`) is merged into cluster `a` (members `A`) at height `height` -/
structure Ev where
  a : Nat
  b : Nat
  height : Rat
  A : List Nat
  B : List Nat

/-- the pair and the distance `step` is about to pick -/
def pick (st : St) : Option (Nat × Nat × Rat) :=
  match minCell st.dm with
  | some ((a, b), some dab) => some (a, b, dab)
  | _ => none

/-- `UPG.loop` carrying the ghost member lists and recording the merge events -/
def loopTr : Nat → St → (Nat → List Nat) → List Ev → Res (St × (Nat → List Nat) × List Ev)
  | 0, st, mem, hist => .ok (st, mem, hist)
  | f + 1, st, mem, hist =>
    if st.nClusters > 2 then
      match step st with
      | .ok st' =>
        match pick st with
        | some (a, b, dab) => loopTr f st' (memAfter mem a b) (hist ++ [⟨a, b, dab / 2, mem a, mem b⟩])
        | none => .err "unreachable"
      | .err k => .err k
      | .panic => .panic
    else .ok (st, mem, hist)

/-- a run of the loop from a state satisfying the loop invariant, as the list of its iterations: each one a successful `step`
    (described by `Stepped`) out of a state with more than two clusters, with the merge event it is recorded as.  Every invariant
    of the loop is an induction on this relation; the fuel is dealt with once, in `loopTr_run`. -/
inductive Run (d0 : Nat → Nat → Rat) (n : Nat) : St → (Nat → List Nat) → List Ev → St → (Nat → List Nat) → Prop
  | nil {st : St} {mem : Nat → List Nat} : LInv d0 n st mem → Run d0 n st mem [] st mem
  | cons {st st1 st' : St} {mem mem' : Nat → List Nat} {a b : Nat} {dab : Rat} {evs : List Ev} :
      LInv d0 n st mem → 2 < st.nClusters → step st = .ok st1 → Stepped n st st1 a b dab →
      0 ≤ dab / 2 - st.heights.getD a 0 → 0 ≤ dab / 2 - st.heights.getD b 0 →
      Run d0 n st1 (memAfter mem a b) evs st' mem' →
      Run d0 n st mem (⟨a, b, dab / 2, mem a, mem b⟩ :: evs) st' mem'

theorem loopTr_run {d0 : Nat → Nat → Rat} (hd : ∀ x y, d0 x y = d0 y x) (n : Nat) :
    ∀ (f : Nat) (st : St) (mem : Nat → List Nat) (hist : List Ev), LInv d0 n st mem →
      ∃ st' mem' evs, loopTr f st mem hist = .ok (st', mem', hist ++ evs) ∧ loop f st = .ok st' ∧
        Run d0 n st mem evs st' mem' ∧ (st.nClusters ≤ f + 2 → st'.nClusters = 2) := by
  intro f
  induction f with
  | zero =>
    intro st mem hist hI
    exact ⟨st, mem, [], by simp [loopTr], rfl, .nil hI, fun h => by have := hI.two; omega⟩
  | succ f ih =>
    intro st mem hist hI
    by_cases hgt : st.nClusters > 2
    · obtain ⟨st1, hs⟩ := step_total hI.wf (by rw [← hI.wf.ncl]; omega)
      obtain ⟨a, b, dab, s⟩ := step_spec hI.wf hs
      obtain ⟨hI1, h1, h2⟩ := s.linv hd hI hgt
      obtain ⟨st', mem', evs, hl, hl', hrun, hfin⟩ := ih st1 _ (hist ++ [⟨a, b, dab / 2, mem a, mem b⟩]) hI1
      refine ⟨st', mem', _ :: evs, ?_, ?_, .cons hI hgt hs s h1 h2 hrun, fun hle => hfin (by rw [s.nClusters]; omega)⟩
      · simp only [loopTr, hgt, ↓reduceIte, hs, pick, s.mc]
        rw [hl, List.append_assoc]; rfl
      · simp only [loop, hgt, ↓reduceIte, hs]
        exact hl'
    · exact ⟨st, mem, [], by simp [loopTr, hgt], by simp [loop, hgt], .nil hI, fun _ => by have := hI.two; omega⟩

section
variable {d0 : Nat → Nat → Rat} {n : Nat} {st st' : St} {mem mem' : Nat → List Nat} {evs : List Ev}
  (r : Run d0 n st mem evs st' mem')
include r

theorem Run.linv : LInv d0 n st' mem' := by
  induction r with
  | nil hI => exact hI
  | cons _ _ _ _ _ _ _ ih => exact ih

theorem Run.length : evs.length + st'.nClusters = st.nClusters := by
  induction r with
  | nil _ => simp
  | cons _ hgt _ s _ _ _ ih => rw [s.nClusters] at ih; simp only [List.length_cons]; omega

theorem Run.cinv {Q : URose → List Nat → Rat → Prop} (hQ : QMerge Q) (hC : CInv Q n st mem) : CInv Q n st' mem' := by
  induction r with
  | nil _ => exact hC
  | cons hI _ _ s h1 h2 _ ih =>
    exact ih (s.cinv hI.wf hC fun qa qb =>
      hQ _ _ _ _ _ _ _ qa qb (hI.link.ne _ s.act_a) (hI.link.ne _ s.act_b) h1 h2)

end


theorem init_live (taxa : List String) (v : Array Rat) (i : Nat) :
    (initSt taxa v).merged.getD i true = false ↔ i < taxa.length := by
  simp only [initSt, Array.getD_replicate]
  split <;> simp_all

theorem init_act (taxa : List String) (v : Array Rat) : actOf taxa.length (initSt taxa v) = List.range taxa.length := by
  unfold actOf
  apply List.filter_eq_self.2
  intro i hi
  have := (init_live taxa v i).2 (List.mem_range.1 hi)
  simp [this]

theorem init_Dof (taxa : List String) (v : Array Rat) (i j : Nat) :
    Dof (initSt taxa v) i j = v.getD (cell i j) 0 := by
  simp only [Dof, initSt]
  rw [getD_map_some, Array.getD_eq_getD_getElem?]

def nameOf (taxa : List String) (i : Nat) : String := taxa.getD i ""

theorem init_cluster (taxa : List String) (v : Array Rat) (i : Nat) (hi : i < taxa.length) :
    (initSt taxa v).clusters.getD i default = .node (some (nameOf taxa i)) none [] := by
  simp [initSt, nameOf, hi]

theorem init_wf (taxa : List String) (v : Array Rat) (hv : v.size = T taxa.length) :
    WFSt taxa.length (initSt taxa v) (fun i => [i]) := by
  constructor
  · simp [initSt]
  · simp [initSt, hv]
  · simp [initSt]
  · simp [initSt]
  · simp [initSt]
  · intro i j hi hj hij _ _
    have hc : cell i j < v.size := by rw [hv]; exact cell_lt hij hi hj
    refine ⟨v[cell i j], ?_⟩
    simp only [initSt, getD_map_some]
    exact Array.getElem?_eq_getElem hc
  · intro i j hi _ _ hd
    have := (init_live taxa v i).2 hi
    rw [this] at hd; cases hd
  · intro i hi _
    simp [initSt, hi]
  · rw [init_act]; simp [initSt]
  · exact List.nodup_range
  · intro i; rw [init_act]; simp [initSt]

theorem init_height (taxa : List String) (v : Array Rat) (i : Nat) : (initSt taxa v).heights.getD i 0 = 0 := by
  simp only [initSt, Array.getD_replicate]
  split <;> rfl

theorem init_linv (taxa : List String) (v : Array Rat) (hv : v.size = T taxa.length) (h2 : 2 ≤ taxa.length)
    (hpos : ∀ k, k < v.size → 0 ≤ v.getD k 0) :
    LInv (d0of v) taxa.length (initSt taxa v) (fun i => [i]) := by
  have hact : ∀ i, i ∈ actOf taxa.length (initSt taxa v) ↔ i < taxa.length := fun i => by
    rw [init_act, List.mem_range]
  refine ⟨init_wf taxa v hv, ⟨actOf_nodup _ _, fun i _ => List.cons_ne_nil i [], fun i j _ _ => ?_, fun i j _ _ hij => ?_⟩,
    fun i j k _ _ _ _ => ?_, ⟨fun i _ => List.pairwise_singleton _ i, fun i hi x hx => ?_, fun i j _ _ hij x hx hx' => ?_,
      fun x hx => ⟨x, (hact x).2 hx, List.mem_singleton.2 rfl⟩⟩, h2⟩
  · show Dof _ i j = Dof _ j i
    by_cases hij : i = j
    · rw [hij]
    · rw [init_Dof, init_Dof, cell_symm i j hij]
  · show UP.IsAvg _ (Dof _ i j) [i] [j]
    rw [init_Dof]
    simp only [UP.IsAvg, UP.S, d0of, hij, List.length_cons, List.length_nil, List.map_cons, List.map_nil,
      UP.sumL_cons, UP.sumL_nil, ↓reduceIte]
    grind
  · show 2 * (initSt taxa v).heights.getD i 0 ≤ Dof _ j k
    rw [init_Dof, init_height, Rat.mul_zero]
    -- an index outside the vector reads the default `0`
    by_cases hc : cell j k < v.size
    · exact hpos _ hc
    · rw [Array.getD_eq_getD_getElem?, Array.getElem?_eq_none (Nat.le_of_not_lt hc)]
      exact Rat.le_refl
  · rw [List.mem_singleton.1 hx]
    exact (hact i).1 hi
  · exact hij ((List.mem_singleton.1 hx).symm.trans (List.mem_singleton.1 hx'))

def QInit (Q : URose → List Nat → Rat → Prop) (taxa : List String) : Prop :=
  ∀ i, i < taxa.length → Q (.node (some (nameOf taxa i)) none []) [i] 0

theorem init_cinv {Q : URose → List Nat → Rat → Prop} (taxa : List String) (v : Array Rat) (hQ : QInit Q taxa) :
    CInv Q taxa.length (initSt taxa v) (fun i => [i]) := by
  intro i hi _
  rw [init_cluster taxa v i hi]
  rw [init_height]
  exact hQ i hi

/-! ## the final join and the master theorem -/

theorem eq_pair_of_length {l : List Nat} (h : l.length = 2) : ∃ a b, l = [a, b] :=
  match l, h with
  | [a, b], _ => ⟨a, b, rfl⟩

theorem two_of_nodup {l : List Nat} {x y : Nat} (hn : l.Nodup) (hm : ∀ i, i ∈ l ↔ i = x ∨ i = y) (hxy : x ≠ y) :
    l = [x, y] ∨ l = [y, x] := by
  have hp : l.Perm [x, y] := (List.perm_ext_iff_of_nodup hn (by simp [hxy])).2 (fun i => by simp [hm])
  obtain ⟨p, q, rfl⟩ := eq_pair_of_length hp.length_eq
  have hpq : p ≠ q := fun e => (List.nodup_cons.1 hn).1 (e ▸ List.mem_cons_self)
  rcases (hm p).1 List.mem_cons_self with h1 | h1 <;>
    rcases (hm q).1 (List.mem_cons_of_mem _ List.mem_cons_self) with h2 | h2
  · exact absurd (h1.trans h2.symm) hpq
  · left; rw [h1, h2]
  · right; rw [h1, h2]
  · exact absurd (h1.trans h2.symm) hpq

theorem part_two_perm {n : Nat} {s : UP.St} {x y : Nat} (hp : Part n s) (hx : x ∈ s.act) (hy : y ∈ s.act)
    (hall : ∀ i, i ∈ s.act → i = x ∨ i = y) (hxy : x ≠ y) : (s.mem x ++ s.mem y).Perm (List.range n) := by
  apply (List.perm_ext_iff_of_nodup (hp.nodup_append hx hy hxy) List.nodup_range).2
  intro p
  rw [List.mem_append, List.mem_range]
  refine ⟨fun h => h.elim (hp.lt x hx p) (hp.lt y hy p), fun h => ?_⟩
  obtain ⟨i, hi, hpi⟩ := hp.cover p h
  rcases hall i hi with rfl | rfl
  · exact Or.inl hpi
  · exact Or.inr hpi

/-- with two clusters left, the live indices are a pair at a finite distance, and neither cluster is higher than half of
    it (monotone heights): the two lengths of the final join are non-negative -/
theorem last_pair {d0 : Nat → Nat → Rat} {n : Nat} {st : St} {mem : Nat → List Nat} (hI : LInv d0 n st mem)
    (hn2 : st.nClusters = 2) :
    ∃ ai bi dab, actOf n st = [ai, bi] ∧ ai ≠ bi ∧ st.dm.getD (cell ai bi) none = some dab ∧
      0 ≤ dab / 2 - st.heights.getD ai 0 ∧ 0 ≤ dab / 2 - st.heights.getD bi 0 := by
  obtain ⟨ai, bi, hact⟩ := eq_pair_of_length (hI.wf.ncl.symm.trans hn2)
  have hnd := actOf_nodup n st
  rw [hact] at hnd
  have hne : ai ≠ bi := fun e => (List.nodup_cons.1 hnd).1 (e ▸ List.mem_cons_self)
  have hai : ai ∈ actOf n st := hact ▸ List.mem_cons_self
  have hbi : bi ∈ actOf n st := hact ▸ List.mem_cons_of_mem _ List.mem_cons_self
  exact ⟨ai, bi, Dof st ai bi, hact, hne,
    hI.wf.cell (mem_actOf.1 hai).1 (mem_actOf.1 hbi).1 hne (mem_actOf.1 hai).2 (mem_actOf.1 hbi).2,
    UP.half_sub_nonneg (hI.mono ai ai bi hai hai hbi hne), UP.half_sub_nonneg (hI.mono bi ai bi hbi hai hbi hne)⟩

/-- the final join: after the loop two clusters `k1`, `k2` (in root-child order) are left and `upgma` returns
    their join at height `D k1 k2 / 2` -/
structure FinalJoin (taxa : List String) (v : Array Rat) (st : St) (mem : Nat → List Nat) (k1 k2 : Nat) (dab : Rat) :
    Prop where
  ne : k1 ≠ k2
  act1 : k1 ∈ actOf taxa.length st
  act2 : k2 ∈ actOf taxa.length st
  actP : (actOf taxa.length st).Perm [k1, k2]
  rootKids : st.rootKids = [k1, k2]
  D : Dof st k1 k2 = dab
  dm : st.dm.getD (cell k1 k2) none = some dab
  nn1 : 0 ≤ dab / 2 - st.heights.getD k1 0
  nn2 : 0 ≤ dab / 2 - st.heights.getD k2 0
  up : upgma taxa v = .ok (mergeTrees (st.clusters.getD k1 default) (st.clusters.getD k2 default)
    (dab / 2 - st.heights.getD k1 0) (dab / 2 - st.heights.getD k2 0), st.margin, st.tie, st.dyadic && isDyadic (dab / 2))
  perm : (mem k1 ++ mem k2).Perm (List.range taxa.length)

theorem final_join {d0 : Nat → Nat → Rat} (taxa : List String) (v : Array Rat) (st : St) (mem : Nat → List Nat)
    (hl : loop taxa.length (initSt taxa v) = .ok st) (hI : LInv d0 taxa.length st mem) (hn2 : st.nClusters = 2) :
    ∃ k1 k2 dab, FinalJoin taxa v st mem k1 k2 dab := by
  obtain ⟨ai, bi, dab, hact, hne, hdab, ha0, hb0⟩ := last_pair hI hn2
  have hdba : st.dm.getD (cell bi ai) none = some dab := by rw [cell_symm bi ai (Ne.symm hne)]; exact hdab
  have hup := (upgma_of_loop hl).trans (finish_ok hact hdab)
  have hrk : ∀ i, i ∈ st.rootKids ↔ i = ai ∨ i = bi := by
    intro i; rw [hI.wf.rkM, hact]; simp
  -- each root child gets its own length, in whichever order the two stand
  rw [List.map_congr_left fun i hi => finalKid_eq id st _ ((hrk i).1 hi)] at hup
  have hai : ai ∈ actOf taxa.length st := hact ▸ List.mem_cons_self
  have hbi : bi ∈ actOf taxa.length st := hact ▸ List.mem_cons_of_mem _ List.mem_cons_self
  have hall : ∀ i, i ∈ actOf taxa.length st → i = ai ∨ i = bi := fun i hi => (hrk i).1 ((hI.wf.rkM i).2 hi)
  have hperm := part_two_perm hI.part hai hbi hall hne
  rcases two_of_nodup hI.wf.rkN hrk hne with hk | hk
  · refine ⟨ai, bi, dab, hne, hai, hbi, hact ▸ .refl _, hk, Dof_of_some hdab, hdab, ha0, hb0, ?_, hperm⟩
    rw [hup, hk]; rfl
  · refine ⟨bi, ai, dab, hne.symm, hbi, hai, hact ▸ .swap bi ai [], hk, Dof_of_some hdba, hdba, hb0, ha0, ?_,
      List.perm_append_comm.trans hperm⟩
    rw [hup, hk]; rfl

theorem upgma_run (taxa : List String) (v : Array Rat) (h2 : 2 ≤ taxa.length) (hv : v.size = T taxa.length)
    (hpos : ∀ k, k < v.size → 0 ≤ v.getD k 0) :
    ∃ st mem evs, loopTr taxa.length (initSt taxa v) (fun i => [i]) [] = .ok (st, mem, evs) ∧
      loop taxa.length (initSt taxa v) = .ok st ∧
      Run (d0of v) taxa.length (initSt taxa v) (fun i => [i]) evs st mem ∧ st.nClusters = 2 := by
  obtain ⟨st, mem, evs, hl, hl', hrun, hfin⟩ := loopTr_run (d0of_symm v) taxa.length taxa.length (initSt taxa v)
    (fun i => [i]) [] (init_linv taxa v hv h2 hpos)
  exact ⟨st, mem, evs, hl, hl', hrun, hfin (Nat.le_add_right _ 2)⟩

/-- **Master theorem.**  For a matrix with non-negative entries on two or more taxa `upgma` succeeds; any
    per-cluster property `Q tree members height` that holds for the singleton clusters and is kept by the
    join of two clusters (`QMerge`) holds for the returned tree, whose member list is a permutation of all
    taxon indices. -/
theorem upgma_cinv {Q : URose → List Nat → Rat → Prop} (hQm : QMerge Q) (taxa : List String) (v : Array Rat)
    (hQi : QInit Q taxa) (h2 : 2 ≤ taxa.length) (hv : v.size = T taxa.length)
    (hpos : ∀ k, k < v.size → 0 ≤ v.getD k 0) :
    (∃ r, upgma taxa v = .ok r) ∧
    ∀ t m tie dy, upgma taxa v = .ok (t, m, tie, dy) → ∃ A h, Q t A h ∧ A.Perm (List.range taxa.length) := by
  obtain ⟨st, mem, evs, _, hl, hrun, hn2⟩ := upgma_run taxa v h2 hv hpos
  have hI := hrun.linv
  have hC := hrun.cinv hQm (init_cinv taxa v hQi)
  obtain ⟨k1, k2, dab, fj⟩ := final_join taxa v st mem hl hI hn2
  refine ⟨⟨_, fj.up⟩, fun t m tie dy hup' => ?_⟩
  cases fj.up.symm.trans hup'
  exact ⟨mem k1 ++ mem k2, dab / 2, hQm _ _ _ _ _ _ _ (hC.act fj.act1) (hC.act fj.act2) (hI.link.ne k1 fj.act1)
    (hI.link.ne k2 fj.act2) fj.nn1 fj.nn2, fj.perm⟩

/-! ## first instance: branch lengths -/

/-- every proper descendant of `t` has a branch length, and it is non-negative -/
def NonNegLens (t : URose) : Prop := ∀ x, x ∈ brLens t → ∃ l, x = some l ∧ 0 ≤ l

theorem nonNegLens_merge {ta tb : URose} {la lb : Rat} (qa : NonNegLens ta) (qb : NonNegLens tb) (h1 : 0 ≤ la)
    (h2 : 0 ≤ lb) : NonNegLens (mergeTrees ta tb la lb) := by
  intro x hx
  rw [brLens_merge] at hx
  simp only [List.mem_cons, List.mem_append] at hx
  rcases hx with hx | hx | hx | hx
  · exact ⟨_, hx, h1⟩
  · exact qa x hx
  · exact ⟨_, hx, h2⟩
  · exact qb x hx

/-- On two or more taxa, for a triangular vector of the right size with non-negative entries,
    `UPG.upgma` succeeds (no error, no panic) and every branch length in the returned tree is present and
    non-negative (the success and non-negativity parts of `C15.upgma_tree`). -/
theorem upgma_ok_nonneg (taxa : List String) (v : Array Rat) (h2 : 2 ≤ taxa.length) (hv : v.size = T taxa.length)
    (hpos : ∀ k, k < v.size → 0 ≤ v.getD k 0) :
    (∃ r, upgma taxa v = .ok r) ∧ ∀ t m tie dy, upgma taxa v = .ok (t, m, tie, dy) → NonNegLens t := by
  have hQi : QInit (fun t _ _ => NonNegLens t) taxa := by
    intro i _ x hx; rw [brLens_leaf] at hx; cases hx
  have hQm : QMerge (fun t _ _ => NonNegLens t) := fun _ _ _ _ _ _ _ qa qb _ _ h1 h2 => nonNegLens_merge qa qb h1 h2
  obtain ⟨h1, h3⟩ := upgma_cinv hQm taxa v hQi h2 hv hpos
  refine ⟨h1, ?_⟩
  intro t m tie dy hup
  obtain ⟨_, _, hq, _⟩ := h3 t m tie dy hup
  exact hq

theorem loop_link_mono (taxa : List String) (v : Array Rat) (h2 : 2 ≤ taxa.length) (hv : v.size = T taxa.length)
    (hpos : ∀ k, k < v.size → 0 ≤ v.getD k 0) :
    ∃ st mem, loop taxa.length (initSt taxa v) = .ok st ∧ WFSt taxa.length st mem ∧
      UP.Link (d0of v) (absSt taxa.length st mem) ∧ UP.Mono (absSt taxa.length st mem) ∧
      Part taxa.length (absSt taxa.length st mem) ∧ st.nClusters = 2 := by
  obtain ⟨st, mem, _, _, hl, hrun, hn2⟩ := upgma_run taxa v h2 hv hpos
  have hI := hrun.linv
  exact ⟨st, mem, hl, hI.wf, hI.link, hI.mono, hI.part, hn2⟩

/-- non-vacuity: a concrete input satisfying the three hypotheses the theorems on `upgma` share -/
theorem hyps_example : 2 ≤ ["a", "b", "c"].length ∧ (#[2, 4, 4] : Array Rat).size = T ["a", "b", "c"].length ∧
    ∀ k, k < (#[2, 4, 4] : Array Rat).size → 0 ≤ (#[2, 4, 4] : Array Rat).getD k 0 := by
  refine ⟨by decide, by decide, ?_⟩
  intro k hk
  have : k = 0 ∨ k = 1 ∨ k = 2 := by simp at hk; omega
  rcases this with h | h | h <;> subst h <;> decide

/-- non-vacuity of `step_spec` / `step_total` (`C15.step_refines`): the initial state on three taxa is well formed
    and an iteration succeeds on it -/
example : ∃ st mem, WFSt 3 st mem ∧ 2 ≤ (actOf 3 st).length ∧ ∃ st', step st = .ok st' := by
  have hw := init_wf ["a", "b", "c"] #[2, 4, 4] (by decide)
  have h2 : 2 ≤ (actOf 3 (initSt ["a", "b", "c"] #[2, 4, 4])).length := by
    have := init_act ["a", "b", "c"] #[2, 4, 4]
    simp only [List.length_cons, List.length_nil] at this
    rw [this]; simp
  exact ⟨_, _, hw, h2, step_total hw h2⟩

end UPG
