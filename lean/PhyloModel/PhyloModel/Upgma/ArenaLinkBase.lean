import PhyloModel.Matrix.UpgmaArena
import PhyloModel.Arena.OpsInv
import PhyloModel.Arena.OneRoot
import PhyloModel.Arena.RoseStats
import PhyloModel.Arena.CliCollapse
import PhyloModel.Upgma.UTree
/-! # C15 / C03 — the arena that `upgma()` builds: trees reduced to their names (`Shape`), the relation "slot represents
    cluster tree" (`RepU`) with its frame lemma, and its link to the arena abstraction (`repU_shape`) -/
namespace UPG
open AR


/-- an ordered rose tree carrying only node names -/
inductive Shape where
  | node (name : Option String) (kids : List Shape)
deriving Repr, Inhabited

mutual
/-- forget the branch lengths of a UPGMA cluster tree -/
def URose.shape : URose → Shape
  | .node n _ ks => .node n (URose.shapeL ks)
def URose.shapeL : List URose → List Shape
  | [] => []
  | k :: ks => k.shape :: URose.shapeL ks
end

mutual
/-- forget the branch lengths of an id-free arena tree (`AR.erase` has already forgotten ids and cached depths) -/
def eraseLen : RoseNL → Shape
  | .node n _ ks => .node n (eraseLenL ks)
def eraseLenL : List RoseNL → List Shape
  | [] => []
  | k :: ks => eraseLen k :: eraseLenL ks
end

theorem URose.shapeL_eq_map : ∀ ks : List URose, URose.shapeL ks = ks.map URose.shape
  | [] => by rw [URose.shapeL]; rfl
  | k :: ks => by rw [URose.shapeL, URose.shapeL_eq_map ks]; rfl

theorem eraseLenL_eq_map : ∀ ks : List RoseNL, eraseLenL ks = ks.map eraseLen
  | [] => by rw [eraseLenL]; rfl
  | k :: ks => by rw [eraseLenL, eraseLenL_eq_map ks]; rfl

theorem URose.shape_node (n : Option String) (l : Option Rat) (ks : List URose) :
    (URose.node n l ks).shape = .node n (ks.map URose.shape) := by
  rw [URose.shape, URose.shapeL_eq_map]

@[simp] theorem URose.shape_setLen (t : URose) (l : Option Rat) : (t.setLen l).shape = t.shape := by
  cases t; simp only [URose.setLen, URose.shape]

/-! ### a Boolean equality test on shapes (for the concrete examples) -/

mutual
def Shape.beq : Shape → Shape → Bool
  | .node n ks, .node n' ks' => n == n' && Shape.beqL ks ks'
def Shape.beqL : List Shape → List Shape → Bool
  | [], [] => true
  | k :: ks, k' :: ks' => Shape.beq k k' && Shape.beqL ks ks'
  | _, _ => false
end

mutual
theorem Shape.beq_eq : ∀ t t' : Shape, Shape.beq t t' = true → t = t'
  | .node n ks, .node n' ks', h => by
    simp only [Shape.beq, Bool.and_eq_true, beq_iff_eq] at h
    obtain ⟨rfl, hk⟩ := h
    rw [Shape.beqL_eq ks ks' hk]
theorem Shape.beqL_eq : ∀ ts ts' : List Shape, Shape.beqL ts ts' = true → ts = ts'
  | [], [], _ => rfl
  | [], _ :: _, h => by simp [Shape.beqL] at h
  | _ :: _, [], h => by simp [Shape.beqL] at h
  | k :: ks, k' :: ks', h => by
    simp only [Shape.beqL, Bool.and_eq_true] at h
    rw [Shape.beq_eq k k' h.1, Shape.beqL_eq ks ks' h.2]
end

/-! ## "slot `x` of the arena represents the cluster tree `u`, lengths aside"

`P` is a side condition on every slot met (in the loop: "is not slot 0", which makes the relation insensitive to the
edits `merge_children` makes to the root slot). -/

mutual
def RepU (a : Arena) (P : Nat → Prop) : Nat → URose → Prop
  | x, .node name _ kids => P x ∧ live a x ∧ (nd a x).name = name ∧ RepUL a P (nd a x).children kids
def RepUL (a : Arena) (P : Nat → Prop) : List Nat → List URose → Prop
  | [], [] => True
  | c :: cs, k :: ks => RepU a P c k ∧ RepUL a P cs ks
  | [], _ :: _ => False
  | _ :: _, [] => False
end

theorem repU_node {a : Arena} {P : Nat → Prop} {x : Nat} {name : Option String} {l : Option Rat} {kids : List URose} :
    RepU a P x (.node name l kids) ↔ P x ∧ live a x ∧ (nd a x).name = name ∧ RepUL a P (nd a x).children kids := by
  rw [RepU]

theorem repUL_nil {a : Arena} {P : Nat → Prop} : RepUL a P [] [] := by rw [RepUL]; trivial
theorem repUL_cons {a : Arena} {P : Nat → Prop} {c : Nat} {cs : List Nat} {k : URose} {ks : List URose} :
    RepUL a P (c :: cs) (k :: ks) ↔ RepU a P c k ∧ RepUL a P cs ks := by rw [RepUL]

theorem repU_setLen {a : Arena} {P : Nat → Prop} {x : Nat} {u : URose} (l : Option Rat) (h : RepU a P x u) :
    RepU a P x (u.setLen l) := by
  cases u with
  | node n l0 ks => rw [URose.setLen]; rw [repU_node] at h ⊢; exact h

theorem repUL_map {a : Arena} {P : Nat → Prop} {α : Type} (f : α → Nat) (g : α → URose) :
    ∀ l : List α, (∀ i, i ∈ l → RepU a P (f i) (g i)) → RepUL a P (l.map f) (l.map g)
  | [], _ => by simp only [List.map_nil]; exact repUL_nil
  | i :: l, h => by
    simp only [List.map_cons]
    rw [repUL_cons]
    exact ⟨h i (by simp), repUL_map f g l (fun j hj => h j (by simp [hj]))⟩

mutual
/-- frame: slots satisfying `P` keep liveness, name and child list, and `P` may be weakened -/
theorem repU_frame {a b : Arena} {P Q : Nat → Prop} (hPQ : ∀ y, P y → Q y)
    (hs : ∀ y, P y → live a y → live b y ∧ (nd b y).name = (nd a y).name ∧ (nd b y).children = (nd a y).children) :
    ∀ (u : URose) (x : Nat), RepU a P x u → RepU b Q x u
  | .node name l kids, x, h => by
    rw [repU_node] at h ⊢
    obtain ⟨hp, hl, hn, hk⟩ := h
    obtain ⟨h1, h2, h3⟩ := hs x hp hl
    exact ⟨hPQ x hp, h1, by rw [h2]; exact hn, by rw [h3]; exact repUL_frame hPQ hs kids _ hk⟩
theorem repUL_frame {a b : Arena} {P Q : Nat → Prop} (hPQ : ∀ y, P y → Q y)
    (hs : ∀ y, P y → live a y → live b y ∧ (nd b y).name = (nd a y).name ∧ (nd b y).children = (nd a y).children) :
    ∀ (us : List URose) (cs : List Nat), RepUL a P cs us → RepUL b Q cs us
  | [], cs, h => by
    cases cs with
    | nil => exact repUL_nil
    | cons c cs => rw [RepUL] at h; exact h.elim
  | u :: us, cs, h => by
    cases cs with
    | nil => rw [RepUL] at h; exact h.elim
    | cons c cs =>
      rw [repUL_cons] at h ⊢
      exact ⟨repU_frame hPQ hs u c h.1, repUL_frame hPQ hs us cs h.2⟩
end

/-! ## from `RepU` to the abstraction `absRoot` -/

mutual
theorem repU_shape {a : Arena} {P : Nat → Prop} : ∀ (u : URose) (t : RTI) (x : Nat), RepU a P x u → Rep a x t →
    eraseLen (erase (decorate a t)) = u.shape
  | .node name l kids, .node j ts, x, hu, ht => by
    rw [repU_node] at hu
    simp only [Rep] at ht
    obtain ⟨_, _, hn, hk⟩ := hu
    obtain ⟨rfl, _, hts⟩ := ht
    rw [decorate, erase, eraseLen, URose.shape, hn, repUL_shape kids ts _ hk hts]
theorem repUL_shape {a : Arena} {P : Nat → Prop} : ∀ (us : List URose) (ts : List RTI) (cs : List Nat),
    RepUL a P cs us → RepL a cs ts → eraseLenL (eraseL (decorateL a ts)) = URose.shapeL us
  | [], ts, cs, hu, ht => by
    cases cs with
    | nil =>
      cases ts with
      | nil => rw [decorateL, eraseL, eraseLenL, URose.shapeL]
      | cons t ts => simp [RepL] at ht
    | cons c cs => rw [RepUL] at hu; exact hu.elim
  | u :: us, ts, cs, hu, ht => by
    cases cs with
    | nil => rw [RepUL] at hu; exact hu.elim
    | cons c cs =>
      cases ts with
      | nil => simp [RepL] at ht
      | cons t ts =>
        rw [repUL_cons] at hu
        simp only [RepL] at ht
        rw [decorateL, eraseL, eraseLenL, URose.shapeL, repU_shape u t c hu.1 ht.1, repUL_shape us ts cs hu.2 ht.2]
end

end UPG
