import PhyloModel.Upgma.Basic
/-! One UPGMA agglomeration step on an abstract state (`UP.St`: active indices, distances, ghost member lists, heights):
    `merge` keeps the average-linkage invariant `Link` (`merge_link`) and, at a minimal pair, the monotonicity invariant
    `Mono` (`merge_mono`) -/
theorem UPG.mem_erase_nodup {act : List Nat} (h : act.Nodup) {i b : Nat} : i ∈ act.erase b ↔ i ∈ act ∧ i ≠ b :=
  (List.Nodup.mem_erase_iff h).trans and_comm

namespace UP
variable (d0 : Nat → Nat → Rat)

theorem zero_add' (x : Rat) : 0 + x = x := Rat.zero_add x
theorem add_zero' (x : Rat) : x + 0 = x := Rat.add_zero x

@[simp] theorem S_nil_left (B : List Nat) : S d0 [] B = 0 := by simp [S]
theorem S_cons_left (x : Nat) (A B : List Nat) : S d0 (x :: A) B = sumL (B.map (fun y => d0 x y)) + S d0 A B := by
  simp [S]
@[simp] theorem S_nil_right (A : List Nat) : S d0 A [] = 0 := by
  induction A with
  | nil => simp
  | cons x xs ih => rw [S_cons_left, ih]; simp; grind
theorem S_cons_right (y : Nat) (A B : List Nat) :
    S d0 A (y :: B) = sumL (A.map (fun x => d0 x y)) + S d0 A B := by
  induction A with
  | nil => simp; grind
  | cons x xs ih =>
    rw [S_cons_left, S_cons_left, ih]
    simp only [List.map_cons, sumL_cons]
    grind

theorem S_swap (hd : ∀ x y, d0 x y = d0 y x) (A B : List Nat) : S d0 A B = S d0 B A := by
  induction A with
  | nil => simp
  | cons x xs ih =>
    rw [S_cons_left, S_cons_right, ih]
    congr 2
    apply List.map_congr_left; intro y _; exact hd x y

theorem IsAvg.symm' (hd : ∀ x y, d0 x y = d0 y x) {v : Rat} {A B : List Nat} (h : IsAvg d0 v A B) :
    IsAvg d0 v B A := by
  unfold IsAvg at *
  rw [S_swap d0 hd B A, ← h]; grind

structure St where
  act : List Nat            -- indices not yet merged away
  D : Nat → Nat → Rat       -- current cluster distances (only active pairs matter)
  mem : Nat → List Nat      -- ghost: original taxa in each active cluster
  h : Nat → Rat             -- height of each active cluster's node

/-- merge active clusters `a` and `b` into `a` (the code reuses index `a` and retires `b`) -/
def merge (s : St) (a b : Nat) : St :=
  let ca : Rat := (s.mem a).length
  let cb : Rat := (s.mem b).length
  let upd : Nat → Rat := fun x => (ca * s.D a x + cb * s.D b x) / (ca + cb)
  { act := s.act.erase b,
    D := fun i j => if i = a ∧ j ≠ a then upd j else if j = a ∧ i ≠ a then upd i else s.D i j,
    mem := fun i => if i = a then s.mem a ++ s.mem b else s.mem i,
    h := fun i => if i = a then s.D a b / 2 else s.h i }

theorem mem_merge_act {s : St} (hn : s.act.Nodup) (a b i : Nat) :
    i ∈ (merge s a b).act ↔ (i ∈ s.act ∧ i ≠ b) :=
  UPG.mem_erase_nodup hn

structure Link (s : St) : Prop where
  nodup : s.act.Nodup
  ne : ∀ i ∈ s.act, s.mem i ≠ []
  symm : ∀ i j, i ∈ s.act → j ∈ s.act → s.D i j = s.D j i
  avg : ∀ i j, i ∈ s.act → j ∈ s.act → i ≠ j → IsAvg d0 (s.D i j) (s.mem i) (s.mem j)

theorem merge_link (hd : ∀ x y, d0 x y = d0 y x) (s : St) (a b : Nat) (hl : Link d0 s)
    (ha : a ∈ s.act) (hb : b ∈ s.act) (hab : a ≠ b) : Link d0 (merge s a b) := by
  have hmem := mem_merge_act hl.nodup a b
  constructor
  · exact List.Nodup.erase b hl.nodup
  · intro i hi
    obtain ⟨hi1, hi2⟩ := (hmem i).1 hi
    simp only [merge]
    by_cases hia : i = a
    · simp [hia]; intro h; exact absurd h (hl.ne a ha)
    · simp [hia]; exact hl.ne i hi1
  · intro i j hi hj
    obtain ⟨hi1, _⟩ := (hmem i).1 hi
    obtain ⟨hj1, _⟩ := (hmem j).1 hj
    simp only [merge]
    by_cases hia : i = a <;> by_cases hja : j = a <;> simp [hia, hja]
    exact hl.symm i j hi1 hj1
  · intro i j hi hj hij
    obtain ⟨hi1, hib⟩ := (hmem i).1 hi
    obtain ⟨hj1, hjb⟩ := (hmem j).1 hj
    simp only [merge]
    by_cases hia : i = a
    · subst hia
      have hja : j ≠ i := Ne.symm hij
      -- first branch of `merge.D` (row of the merged cluster): the updated distance to `j`
      simp only [hja, ne_eq, not_false_eq_true, and_self, ↓reduceIte]
      have h1 := hl.avg i j hi1 hj1 hij
      have h2 := hl.avg b j hb hj1 (Ne.symm hjb)
      exact avg_update d0 (s.mem i) (s.mem b) (s.mem j) (s.D i j) (s.D b j) (hl.ne i hi1) (hl.ne b hb) (hl.ne j hj1) h1 h2
    · by_cases hja : j = a
      · subst hja
        simp only [hia, ne_eq, not_true_eq_false, ↓reduceIte, not_false_eq_true, and_self]
        have h1 := hl.avg j i hj1 hi1 (Ne.symm hij)
        have h2 := hl.avg b i hb hi1 (Ne.symm hib)
        have := avg_update d0 (s.mem j) (s.mem b) (s.mem i) (s.D j i) (s.D b i) (hl.ne j hj1) (hl.ne b hb) (hl.ne i hi1) h1 h2
        exact IsAvg.symm' d0 hd this
      · simp only [hia, hja, false_and, ↓reduceIte]
        exact hl.avg i j hi1 hj1 hij

/-- monotonicity invariant: no cluster is higher than half of any remaining distance -/
def Mono (s : St) : Prop := ∀ i j k, i ∈ s.act → j ∈ s.act → k ∈ s.act → j ≠ k → 2 * s.h i ≤ s.D j k

/-- merging a pair at minimal distance keeps `Mono` (so merge heights never decrease and the two new
    branch lengths `D a b / 2 - h a`, `D a b / 2 - h b` are non-negative) -/
theorem merge_mono (s : St) (a b : Nat) (hl : Link d0 s) (hm : Mono s) (ha : a ∈ s.act) (hb : b ∈ s.act)
    (hab : a ≠ b) (hmin : ∀ j k, j ∈ s.act → k ∈ s.act → j ≠ k → s.D a b ≤ s.D j k) :
    Mono (merge s a b) ∧ 0 ≤ s.D a b / 2 - s.h a ∧ 0 ≤ s.D a b / 2 - s.h b := by
  have hmem := mem_merge_act hl.nodup a b
  have hla : (0 : Rat) < ((s.mem a).length : Rat) := Rat.natCast_pos.mpr (List.length_pos_iff.mpr (hl.ne a ha))
  have hlb : (0 : Rat) < ((s.mem b).length : Rat) := Rat.natCast_pos.mpr (List.length_pos_iff.mpr (hl.ne b hb))
  refine ⟨?_, ?_, ?_⟩
  · intro i j k hi hj hk hjk
    obtain ⟨hi1, _⟩ := (hmem i).1 hi
    obtain ⟨hj1, hjb⟩ := (hmem j).1 hj
    obtain ⟨hk1, hkb⟩ := (hmem k).1 hk
    have hnew : s.D a b ≤ (merge s a b).D j k := by
      simp only [merge]
      by_cases hja : j = a
      · subst hja
        have hkj : k ≠ j := Ne.symm hjk
        -- first branch of `merge.D`: a weighted average of two distances, each at least the minimum
        simp only [hkj, ne_eq, not_false_eq_true, and_self, ↓reduceIte]
        exact wavg_ge _ _ _ _ _ hla hlb (hmin j k hj1 hk1 hjk) (hmin b k hb hk1 (Ne.symm hkb))
      · by_cases hka : k = a
        · subst hka
          simp only [hja, ne_eq, not_true_eq_false, ↓reduceIte, not_false_eq_true, and_self]
          exact wavg_ge _ _ _ _ _ hla hlb (hmin k j hk1 hj1 (Ne.symm hjk)) (hmin b j hb hj1 (Ne.symm hjb))
        · simp only [hja, hka, false_and, ↓reduceIte]
          exact hmin j k hj1 hk1 hjk
    have hh : 2 * (merge s a b).h i ≤ s.D a b := by
      simp only [merge]
      by_cases hia : i = a
      · simp only [hia, ↓reduceIte]; grind
      · simp only [hia, ↓reduceIte]; exact hm i a b hi1 ha hb hab
    exact Rat.le_trans hh hnew
  · exact half_sub_nonneg (hm a a b ha ha hb hab)
  · exact half_sub_nonneg (hm b a b hb ha hb hab)

end UP
