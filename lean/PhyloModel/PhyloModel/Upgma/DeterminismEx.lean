import PhyloModel.Upgma.DeterminismTie
import PhyloModel.Upgma.DeterminismAbs
/-! # C15 — determinism of average-linkage clustering: certificates, the input-level hypothesis, examples

* `runB` / `unambB` — a boolean checker for "this list of pairs is a run of average-linkage clustering" / "... with an
  unambiguous minimum at every step", sound for `AvgRun` / `Unamb` (used to discharge the examples by evaluation)
* `UnambInput d0 n` — "each minimum is unambiguous" as a property of the input: SOME complete run from the singletons has
  an unambiguous minimum at every step; then EVERY complete run has (`UnambInput.all`)
* non-vacuity examples for the main theorems, and a tie on which two runs differ (the hypothesis is needed) -/
namespace UPG
open UP MX Tri MXS


def minB (d0 : Nat → Nat → Rat) (act : List Nat) (cl : Nat → List Nat) (a b : Nat) : Bool :=
  act.all fun j => act.all fun k => (j == k) || decide (avgLink d0 (cl a) (cl b) ≤ avgLink d0 (cl j) (cl k))

def unambAtB (d0 : Nat → Nat → Rat) (act : List Nat) (cl : Nat → List Nat) (a b : Nat) : Bool :=
  act.all fun j => act.all fun k => (j == k) || !(decide (avgLink d0 (cl j) (cl k) = avgLink d0 (cl a) (cl b))) ||
    ((j == a && k == b) || (j == b && k == a))

/-- the state after merging the pairs `ps` in turn -/
def runSt (act : List Nat) (cl : Nat → List Nat) : List (Nat × Nat) → List Nat × (Nat → List Nat)
  | [] => (act, cl)
  | p :: ps => runSt (act.erase p.2) (memAfter cl p.1 p.2) ps

/-- the events of merging the pairs `ps` in turn -/
def runEvs (d0 : Nat → Nat → Rat) (act : List Nat) (cl : Nat → List Nat) : List (Nat × Nat) → List Ev
  | [] => []
  | p :: ps => ⟨p.1, p.2, avgLink d0 (cl p.1) (cl p.2) / 2, cl p.1, cl p.2⟩ ::
      runEvs d0 (act.erase p.2) (memAfter cl p.1 p.2) ps

def runB (d0 : Nat → Nat → Rat) (act : List Nat) (cl : Nat → List Nat) : List (Nat × Nat) → Bool
  | [] => true
  | p :: ps => act.contains p.1 && act.contains p.2 && (p.1 != p.2) && minB d0 act cl p.1 p.2 &&
      runB d0 (act.erase p.2) (memAfter cl p.1 p.2) ps

def unambB (d0 : Nat → Nat → Rat) (act : List Nat) (cl : Nat → List Nat) : List (Nat × Nat) → Bool
  | [] => true
  | p :: ps => unambAtB d0 act cl p.1 p.2 && unambB d0 (act.erase p.2) (memAfter cl p.1 p.2) ps

theorem minB_sound {d0 : Nat → Nat → Rat} {act : List Nat} {cl : Nat → List Nat} {a b : Nat}
    (h : minB d0 act cl a b = true) :
    ∀ j k, j ∈ act → k ∈ act → j ≠ k → avgLink d0 (cl a) (cl b) ≤ avgLink d0 (cl j) (cl k) := by
  intro j k hj hk hjk
  simp only [minB, List.all_eq_true, Bool.or_eq_true, beq_iff_eq, decide_eq_true_eq] at h
  rcases h j hj k hk with h | h
  · exact absurd h hjk
  · exact h

theorem unambAtB_sound {d0 : Nat → Nat → Rat} {act : List Nat} {cl : Nat → List Nat} {a b : Nat}
    (h : unambAtB d0 act cl a b = true) : UnambAt d0 act cl a b := by
  intro j k hj hk hjk he
  simp only [unambAtB, List.all_eq_true, Bool.or_eq_true, Bool.and_eq_true, beq_iff_eq, Bool.not_eq_true',
    decide_eq_false_iff_not] at h
  rcases h j hj k hk with (h | h) | h
  · exact absurd h hjk
  · exact absurd he h
  · exact h

theorem runB_sound {d0 : Nat → Nat → Rat} : ∀ (ps : List (Nat × Nat)) (act : List Nat) (cl : Nat → List Nat),
    runB d0 act cl ps = true → AvgRun d0 act cl (runEvs d0 act cl ps) (runSt act cl ps).1 (runSt act cl ps).2
  | [], act, cl, _ => AvgRun.nil act cl
  | p :: ps, act, cl, h => by
    simp only [runB, Bool.and_eq_true, List.contains_iff_mem, bne_iff_ne] at h
    obtain ⟨⟨⟨⟨ha, hb⟩, hab⟩, hmin⟩, hrest⟩ := h
    exact AvgRun.cons act cl p.1 p.2 _ _ _ ha hb hab (minB_sound hmin) (runB_sound ps _ _ hrest)

theorem unambB_sound {d0 : Nat → Nat → Rat} : ∀ (ps : List (Nat × Nat)) (act : List Nat) (cl : Nat → List Nat),
    unambB d0 act cl ps = true → Unamb d0 act cl (runEvs d0 act cl ps)
  | [], _, _, _ => True.intro
  | p :: ps, act, cl, h => by
    simp only [unambB, Bool.and_eq_true] at h
    exact ⟨unambAtB_sound h.1, unambB_sound ps _ _ h.2⟩

theorem runB_complete {d0 : Nat → Nat → Rat} {ps : List (Nat × Nat)} {act : List Nat} {cl : Nat → List Nat} {k : Nat}
    (h : runB d0 act cl ps = true) (hk : (runSt act cl ps).1 = [k]) :
    AvgRun d0 act cl (runEvs d0 act cl ps) [k] (runSt act cl ps).2 :=
  hk ▸ runB_sound ps act cl h


/-- some complete run of average-linkage clustering on `d0` over the taxa `0 .. n-1` has an unambiguous minimum at
    every step -/
def UnambInput (d0 : Nat → Nat → Rat) (n : Nat) : Prop :=
  ∃ evs k cl, AvgRun d0 (List.range n) (fun i => [i]) evs [k] cl ∧ Unamb d0 (List.range n) (fun i => [i]) evs

theorem UnambInput.all {d0 : Nat → Nat → Rat} {n : Nat} (h : UnambInput d0 n) {evs : List Ev} {k : Nat}
    {cl : Nat → List Nat} (r : AvgRun d0 (List.range n) (fun i => [i]) evs [k] cl) :
    Unamb d0 (List.range n) (fun i => [i]) evs := by
  obtain ⟨evs0, k0, cl0, r0, u0⟩ := h
  have w := WFC.singletons (List.nodup_range (n := n))
  have hlen : evs.length = evs0.length := by
    have h1 := r.length; have h2 := r0.length
    simp only [List.length_cons, List.length_nil] at h1 h2; omega
  exact (avgRun_deterministic_one r r0 u0 w w (StEqv.refl _ _) hlen).2.2


/-- four taxa: `d(0,1) = 2`, `d(2,3) = 4`, every other distance `8` -/
def dEx : Nat → Nat → Rat := fun i j =>
  if i = j then 0 else if i + j = 1 then 2 else if i + j = 5 then 4 else 8

/-- the run of the examples on `dEx`, checked once: merge `{0,1}`, then `{2,3}`, then the two -/
theorem dEx_run : AvgRun dEx (List.range 4) (fun i => [i]) (runEvs dEx (List.range 4) (fun i => [i]) [(0, 1), (2, 3), (0, 2)])
      [0] (runSt (List.range 4) (fun i => [i]) [(0, 1), (2, 3), (0, 2)]).2 ∧
    Unamb dEx (List.range 4) (fun i => [i]) (runEvs dEx (List.range 4) (fun i => [i]) [(0, 1), (2, 3), (0, 2)]) :=
  ⟨runB_complete (by decide +kernel) (by decide), unambB_sound _ _ _ (by decide +kernel)⟩

/-- non-vacuity of `Unamb` on a complete run: merge `{0,1}` at height 1, `{2,3}` at height 2, all four at height 4 -/
example : ∃ evs k cl, AvgRun dEx (List.range 4) (fun i => [i]) evs [k] cl ∧ Unamb dEx (List.range 4) (fun i => [i]) evs ∧
    evs.map (fun e => (e.A ++ e.B, e.height)) = [([0, 1], 1), ([2, 3], 2), ([0, 1, 2, 3], 4)] := by
  exact ⟨_, 0, _, dEx_run.1, dEx_run.2, by decide +kernel⟩

theorem dEx_unamb : UnambInput dEx 4 := by
  exact ⟨_, 0, _, dEx_run⟩

/-- non-vacuity of `avgRun_deterministic`: two DIFFERENT unambiguous runs on `dEx` (other surviving indices, pairs
    listed in the other order), from states that are equivalent but not equal (index lists in different orders) -/
example : ∃ act1 act2 evs1 evs2 k1 k2 cl1 cl2,
    AvgRun dEx act1 (fun i => [i]) evs1 [k1] cl1 ∧ AvgRun dEx act2 (fun i => [i]) evs2 [k2] cl2 ∧
    Unamb dEx act1 (fun i => [i]) evs1 ∧ Unamb dEx act2 (fun i => [i]) evs2 ∧
    WFC act1 (fun i => [i]) ∧ WFC act2 (fun i => [i]) ∧ StEqv act1 (fun i => [i]) act2 (fun i => [i]) ∧
    evs1.length = evs2.length ∧ evs1.map (fun e => (e.a, e.b)) ≠ evs2.map (fun e => (e.a, e.b)) ∧ k1 ≠ k2 := by
  refine ⟨[0, 1, 2, 3], [3, 1, 0, 2], _, _, 0, 3, _, _, dEx_run.1,
    runB_complete (ps := [(1, 0), (3, 2), (3, 1)]) (by decide +kernel) (by decide), dEx_run.2, unambB_sound _ _ _ (by decide +kernel),
    WFC.singletons (by decide), WFC.singletons (by decide), StEqv.of_perm _ (by decide), by decide, by decide, by decide⟩

/-- a tie: three taxa, all distances equal -/
def dTie : Nat → Nat → Rat := fun i j => if i = j then 0 else 2

theorem evKey_eq_iff {e1 e2 : Ev} : evKey e1 = evKey e2 ↔ EvSame e1 e2 :=
  ⟨fun h => ⟨canon_eq_iff.1 (congrArg Prod.fst h), congrArg Prod.snd h⟩, EvSame.key_eq⟩

/-- **the hypothesis is needed**: on a tie two complete runs from the same state and of the same length merge
    different clusters first (`{0,1}` in one, `{1,2}` in the other), so their events do not agree -/
example : ∃ evs1 evs2 k1 k2 cl1 cl2,
    AvgRun dTie (List.range 3) (fun i => [i]) evs1 [k1] cl1 ∧ AvgRun dTie (List.range 3) (fun i => [i]) evs2 [k2] cl2 ∧
    evs1.length = evs2.length ∧ ¬ All2 EvSame evs1 evs2 ∧ evs1.map evKey ≠ evs2.map evKey := by
  have h1 := runB_complete (d0 := dTie) (ps := [(0, 1), (0, 2)]) (act := List.range 3) (cl := fun i => [i]) (k := 0)
    (by decide +kernel) (by decide)
  have h2 := runB_complete (d0 := dTie) (ps := [(1, 2), (0, 1)]) (act := List.range 3) (cl := fun i => [i]) (k := 0)
    (by decide +kernel) (by decide)
  have hne : ¬ All2 EvSame (runEvs dTie (List.range 3) (fun i => [i]) [(0, 1), (0, 2)])
      (runEvs dTie (List.range 3) (fun i => [i]) [(1, 2), (0, 1)]) := by
    intro h
    cases h with
    | cons hr _ =>
      have : ([0] ++ [1] : List Nat).Perm ([1] ++ [2]) := hr.1
      revert this; decide
  refine ⟨_, _, _, _, _, _, h1, h2, by decide, hne, ?_⟩
  intro h
  apply hne
  simp only [runEvs, List.map_cons, List.map_nil, List.cons.injEq, and_true] at h
  exact All2.cons (evKey_eq_iff.1 h.1) (All2.cons (evKey_eq_iff.1 h.2) All2.nil)

/-- the permutation `0 ↦ 2, 1 ↦ 0, 2 ↦ 1` of the three positions -/
def rot3 : Nat → Nat := fun i => if i = 0 then 2 else if i = 1 then 0 else if i = 2 then 1 else i

/-- the run of the examples on `a-b 2, a-c 4, b-c 4`, checked once: merge `{0,1}`, then all three -/
theorem ex_run : AvgRun (d0of #[2, 4, 4]) (List.range 3) (fun i => [i])
      (runEvs (d0of #[2, 4, 4]) (List.range 3) (fun i => [i]) [(0, 1), (0, 2)]) [0]
      (runSt (List.range 3) (fun i => [i]) [(0, 1), (0, 2)]).2 ∧
    Unamb (d0of #[2, 4, 4]) (List.range 3) (fun i => [i]) (runEvs (d0of #[2, 4, 4]) (List.range 3) (fun i => [i]) [(0, 1), (0, 2)]) :=
  ⟨runB_complete (by decide +kernel) (by decide), unambB_sound _ _ _ (by decide +kernel)⟩

/-- non-vacuity of `taxon_order_invariance_on`: a permutation, an unambiguous complete run on `d0 = d0of #[2,4,4]` and a
    complete run on the reordered matrix -/
example : ∃ evs evs' k k' cl cl', IsPermOf 3 rot3 ∧
    AvgRun (d0of #[2, 4, 4]) (List.range 3) (fun i => [i]) evs [k] cl ∧
    AvgRun (reorder (d0of #[2, 4, 4]) rot3) (List.range 3) (fun i => [i]) evs' [k'] cl' ∧
    Unamb (d0of #[2, 4, 4]) (List.range 3) (fun i => [i]) evs := by
  have hp : IsPermOf 3 rot3 := by
    show ((List.range 3).map rot3).Perm (List.range 3)
    decide
  exact ⟨_, _, 0, 0, _, _, hp, ex_run.1,
    runB_complete (ps := [(1, 2), (0, 1)]) (by decide +kernel) (by decide), ex_run.2⟩

theorem ex_unamb_input : UnambInput (d0of #[2, 4, 4]) 3 := by
  exact ⟨_, 0, _, ex_run⟩

theorem ex_reordered : Reordered ["a", "b", "c"] #[2, 4, 4] ["c", "a", "b"] #[4, 4, 2] rot3 := by
  refine ⟨by decide, ?_, ?_, ?_⟩
  · show ((List.range 3).map rot3).Perm (List.range 3)
    decide
  · show ∀ i, i < 3 → nameOf ["c", "a", "b"] i = nameOf ["a", "b", "c"] (rot3 i)
    decide
  · have h : ∀ i, i < 3 → ∀ j, j < 3 → d0of #[4, 4, 2] i j = d0of #[2, 4, 4] (rot3 i) (rot3 j) := by decide +kernel
    exact fun i j hi hj => h i hi j hj

/-- non-vacuity of `C15.upgma_taxon_order_input` / `upgma_taxon_order`: the matrix `a-b 2, a-c 4, b-c 4` presented in the
    orders `a, b, c` and `c, a, b` -/
example : 2 ≤ ["a", "b", "c"].length ∧ (#[2, 4, 4] : Array Rat).size = T ["a", "b", "c"].length ∧
    (∀ k, k < (#[2, 4, 4] : Array Rat).size → 0 ≤ (#[2, 4, 4] : Array Rat).getD k 0) ∧
    (#[4, 4, 2] : Array Rat).size = T ["c", "a", "b"].length ∧
    (∀ k, k < (#[4, 4, 2] : Array Rat).size → 0 ≤ (#[4, 4, 2] : Array Rat).getD k 0) ∧
    Reordered ["a", "b", "c"] #[2, 4, 4] ["c", "a", "b"] #[4, 4, 2] rot3 ∧
    UnambInput (d0of #[2, 4, 4]) ["a", "b", "c"].length := by
  refine ⟨by decide, by decide, hyps_example.2.2, by decide, ?_, ex_reordered, ex_unamb_input⟩
  intro k hk
  have : k = 0 ∨ k = 1 ∨ k = 2 := by simp at hk; omega
  rcases this with h | h | h <;> subst h <;> decide

/-- did `upgma` succeed with the `tie` flag `false`? -/
def tieFree (taxa : List String) (v : Array Rat) : Bool :=
  match upgma taxa v with
  | .ok (_, _, tie, _) => !tie
  | _ => false

theorem tieFree_spec {taxa : List String} {v : Array Rat} (h : tieFree taxa v = true) :
    ∃ t m dy, upgma taxa v = .ok (t, m, false, dy) := by
  unfold tieFree at h
  split at h
  · next t m tie dy he =>
    cases tie
    · exact ⟨t, m, dy, he⟩
    · simp at h
  · cases h

theorem ex_tieFree : tieFree ["a", "b", "c"] #[2, 4, 4] = true := by decide +kernel

/-- non-vacuity of `upgma_tie_free_unamb` / `upgma_taxon_order_tie_free`: on these inputs the executable model returns
    with `tie = false` (three taxa; four taxa with `d(a,b) = 2`, `d(c,d) = 4`, all other distances `8`) -/
example : (∃ t m dy, upgma ["a", "b", "c"] #[2, 4, 4] = .ok (t, m, false, dy)) ∧
    (∃ t m dy, upgma ["a", "b", "c", "d"] #[2, 8, 8, 8, 8, 4] = .ok (t, m, false, dy)) :=
  ⟨tieFree_spec ex_tieFree, tieFree_spec (by decide +kernel)⟩

/-- ... and on a tie the flag is raised -/
example : tieFree ["a", "b", "c"] #[2, 2, 2] = false := by decide +kernel

end UPG
