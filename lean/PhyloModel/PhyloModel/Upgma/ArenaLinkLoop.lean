import PhyloModel.Upgma.ArenaLinkInv
/-! # C15 / C03 — the arena of `upgma()`: the initial star tree satisfies the invariant, the loop keeps it, and the
    loop over (numeric state, arena) succeeds exactly when the numeric loop does, with the same numeric result -/
namespace UPG
open AR MX Tri MXS


theorem loopShape_inv (taxa : List String) : ∀ (f : Nat) (s : ShSt), SInv taxa s →
    (∀ st', loopC f s.st = .ok st' → ∃ s', loopShape f s = .ok s' ∧ s'.st = st' ∧ SInv taxa s') ∧
    (∀ k, loopC f s.st = .err k → loopShape f s = .err k) ∧
    (loopC f s.st = .panic → loopShape f s = .panic) := by
  have stop : ∀ s, SInv taxa s →
      (∀ st', Res.ok s.st = .ok st' → ∃ s', Res.ok s = .ok s' ∧ s'.st = st' ∧ SInv taxa s') ∧
      (∀ k, Res.ok s.st = .err k → Res.ok s = .err k) ∧ (Res.ok s.st = .panic → Res.ok s = .panic) :=
    fun s hI => ⟨fun st' h => ⟨s, rfl, by cases h; rfl, hI⟩, nofun, nofun⟩
  intro f
  induction f with
  | zero => exact stop
  | succ f ih =>
    intro s hI
    by_cases hgt : s.st.nClusters > 2
    · cases hs : stepC s.st with
      | ok st1 =>
        obtain ⟨s1, h1, h2, h3⟩ := stepShape_inv hI hs
        simp only [loopC, loopShape, hgt, ↓reduceIte, hs, h1]
        rw [← h2]; exact ih s1 h3
      | err k =>
        simp only [loopC, loopShape, stepShape, hgt, ↓reduceIte, hs]
        exact ⟨nofun, fun _ h => by cases h; rfl, nofun⟩
      | panic =>
        simp only [loopC, loopShape, stepShape, hgt, ↓reduceIte, hs]
        exact ⟨nofun, nofun, fun _ => trivial⟩
    · simp only [loopC, loopShape, hgt, ↓reduceIte]
      exact stop s hI


/-- the arena after the taxa `done` have been hung under the virtual root -/
structure AInv (done : List String) (a : Arena) (ids : Array Nat) : Prop where
  good : Good a
  one : AtMostOneRoot a
  size : a.size = done.length + 1
  szI : ids.size = done.length
  ids : ∀ i, i < done.length → ids.getD i 0 = i + 1
  live0 : live a 0
  par0 : (nd a 0).parent = none
  name0 : (nd a 0).name = none
  kids : (nd a 0).children = (List.range done.length).map (· + 1)
  nodel : ∀ i, i < a.size → (nd a i).deleted = false
  tips : ∀ i, i < done.length → (nd a (i + 1)).name = some (nameOf done i) ∧ (nd a (i + 1)).children = []

theorem nameOf_append_lt (done : List String) (t : String) (i : Nat) (h : i < done.length) :
    nameOf (done ++ [t]) i = nameOf done i := by
  simp [nameOf, List.getD_eq_getElem?_getD, List.getElem?_append_left h]

theorem nameOf_append_eq (done : List String) (t : String) : nameOf (done ++ [t]) done.length = t := by
  simp [nameOf, List.getD_eq_getElem?_getD]

theorem addTaxon_inv {done : List String} {a : Arena} {ids : Array Nat} (t : String) (h : AInv done a ids) :
    ∃ a', addChildNamed a 0 none (some t) = (a', .ok (some a.size)) ∧ AInv (done ++ [t]) a' (ids.push a.size) := by
  obtain ⟨a', he, hsz, hnd⟩ := addChildNamed_ok h.live0 none (some t)
  have hg : Good a' := by
    have := addChildNamed_good 0 none (some t) h.good
    rw [he] at this; exact this
  have h1 : AtMostOneRoot a' := by
    have := addChildNamed_roots (a := a) 0 none (some t)
    rw [he] at this; exact this.atMostOne h.one
  have h0s : 0 < a.size := h.live0.1
  have h0ne : ¬ (0 = a.size) := by omega
  have hn0 : nd a' 0 = { nd a 0 with children := (nd a 0).children ++ [a.size] } := by
    rw [hnd 0, if_neg h0ne, if_pos rfl]; rfl
  refine ⟨a', he, ⟨hg, h1, ?_, ?_, ?_, ?_, ?_, ?_, ?_, ?_, ?_⟩⟩
  · rw [hsz, h.size]; simp
  · simp [h.szI]
  · intro i hi
    rw [Array.getD_push, h.szI]
    simp only [List.length_append, List.length_cons, List.length_nil] at hi
    by_cases hid : i = done.length
    · rw [if_pos hid, h.size, hid]
    · rw [if_neg hid]; exact h.ids i (by omega)
  · exact ⟨by rw [hsz]; omega, by rw [hn0]; exact h.live0.2⟩
  · rw [hn0]; exact h.par0
  · rw [hn0]; exact h.name0
  · rw [hn0]
    simp only [List.length_append, List.length_cons, List.length_nil, List.range_succ, List.map_append, List.map_cons,
      List.map_nil]
    rw [h.kids, h.size]
  · intro i hi
    rw [hnd i]
    by_cases h1 : i = a.size
    · simp [h1]
    · by_cases h2 : i = 0
      · subst h2; simp only [h1, ↓reduceIte]; exact h.live0.2
      · simp only [h1, h2, ↓reduceIte]; exact h.nodel i (by rw [hsz] at hi; omega)
  · intro i hi
    simp only [List.length_append, List.length_cons, List.length_nil] at hi
    rw [hnd (i + 1)]
    have h2 : ¬ (i + 1 = 0) := by omega
    by_cases hid : i = done.length
    · have : i + 1 = a.size := by rw [h.size, hid]
      rw [if_pos this, hid, nameOf_append_eq]
      exact ⟨rfl, rfl⟩
    · have : ¬ (i + 1 = a.size) := by rw [h.size]; omega
      rw [if_neg this, if_neg h2, nameOf_append_lt done t i (by omega)]
      exact h.tips i (by omega)

theorem addTaxa_inv : ∀ (ts done : List String) (a : Arena) (ids : Array Nat), AInv done a ids →
    ∃ a' ids', addTaxa ts a ids = .ok (a', ids') ∧ AInv (done ++ ts) a' ids'
  | [], done, a, ids, h => ⟨a, ids, rfl, by rw [List.append_nil]; exact h⟩
  | t :: ts, done, a, ids, h => by
    obtain ⟨a1, he, h1⟩ := addTaxon_inv t h
    obtain ⟨a', ids', he', h'⟩ := addTaxa_inv ts (done ++ [t]) a1 (ids.push a.size) h1
    refine ⟨a', ids', ?_, by rw [List.append_assoc] at h'; exact h'⟩
    rw [addTaxa, he]
    exact he'

theorem virtRoot_inv : AInv [] (AR.add #[] none).1 #[] := by
  have hnd : ∀ i, nd (AR.add #[] none).1 i = if i = 0 then { name := none } else dead := by
    intro i
    simp only [AR.add, nd_push, nd_empty]
    rfl
  refine ⟨add_good none empty_good, add_oneRoot none (fun i hi => absurd hi.1.1 (by simp)), rfl, rfl, ?_, ?_, ?_, ?_,
    ?_, ?_, ?_⟩
  · intro i hi; simp at hi
  · exact ⟨by simp [AR.add], by rw [hnd]; rfl⟩
  · rw [hnd]; rfl
  · rw [hnd]; rfl
  · rw [hnd]; rfl
  · intro i hi
    have : i = 0 := by simp [AR.add] at hi; omega
    subst this; rw [hnd]; rfl
  · intro i hi; simp at hi

theorem initStC_eq (taxa : List String) (v : Array Rat) : initStC taxa v = initSt taxa v := rfl

theorem initShape_inv (taxa : List String) (v : Array Rat) :
    ∃ s0, initShape taxa v = .ok s0 ∧ s0.st = initSt taxa v ∧ SInv taxa s0 := by
  obtain ⟨a, ids, he, h⟩ := addTaxa_inv taxa [] _ _ virtRoot_inv
  rw [List.nil_append] at h
  refine ⟨{ st := initSt taxa v, ar := a, ids := ids }, ?_, rfl, ?_⟩
  · unfold initShape; rw [he]; rfl
  · have hact := init_act taxa v
    have hrk : (initSt taxa v).rootKids = List.range taxa.length := rfl
    constructor
    · exact init_lite taxa v
    · intro i hi; rw [hact] at hi; exact hi
    · show (List.range taxa.length).length = taxa.length
      simp
    · exact h.good
    · exact h.one
    · exact h.szI
    · show ((taxa.map (fun t => URose.node (some t) none [])).toArray).size = taxa.length
      simp
    · exact h.live0
    · exact h.par0
    · exact h.name0
    · show (nd a 0).children = (List.range taxa.length).map (fun i => ids.getD i 0)
      rw [h.kids]
      apply List.map_congr_left
      intro i hi
      exact (h.ids i (List.mem_range.1 hi)).symm
    · intro i hi
      show RepU a NZ (ids.getD i 0) ((initSt taxa v).clusters.getD i default)
      rw [hact] at hi
      have hi' := List.mem_range.1 hi
      rw [init_cluster taxa v i hi', h.ids i hi', repU_node]
      have hl : live a (i + 1) := ⟨by rw [h.size]; omega, h.nodel _ (by rw [h.size]; omega)⟩
      refine ⟨Nat.succ_ne_zero i, hl, (h.tips i hi').1, ?_⟩
      rw [(h.tips i hi').2]; exact repUL_nil
    · show a.size + taxa.length = 2 * taxa.length + 1
      rw [h.size]; omega
    · exact h.nodel
    · exact h.tips
    · intro i h1 h2
      rw [h.size] at h2
      show (nd a i).children.length = 2 ∧ (nd a i).name = none
      omega

end UPG
