import PhyloModel.Upgma.DeterminismOrder
/-! # C15 — the tree returned by the executable UPGMA does not depend on the taxon order (unambiguous minima)

`upgma_average_linkage` (Upgma/AvgLink.lean; restated as `C15.upgma_tree`) says that the internal nodes of the tree
returned by `UPG.upgma` are the events of a complete run of average-linkage clustering from its definition; `taxon_order_invariance_on` (Upgma/DeterminismOrder.lean) says that such
runs on a matrix and on the same matrix in another taxon order agree when the minima are unambiguous.  Together:
`upgma_taxon_order` — for the same labelled matrix presented in two taxon orders, with unambiguous minima, the two
returned trees have the same set of internal nodes read as (set of leaf names below the node, height of the node). -/
namespace UPG
open UP MX Tri MXS

/-- `(taxa', v')` is the labelled matrix `(taxa, v)` presented in another taxon order: position `i` of the second
    presentation is position `σ i` of the first, for a permutation `σ` of the positions -/
structure Reordered (taxa : List String) (v : Array Rat) (taxa' : List String) (v' : Array Rat) (σ : Nat → Nat) :
    Prop where
  len : taxa'.length = taxa.length
  perm : IsPermOf taxa.length σ
  name : ∀ i, i < taxa.length → nameOf taxa' i = nameOf taxa (σ i)
  dist : ∀ i j, i < taxa.length → j < taxa.length → d0of v' i j = d0of v (σ i) (σ j)

/-- every node of the first list is a node of the second: same set of leaf names (up to permutation), same height -/
def InfoSub (l1 l2 : List (List (Option String) × Rat)) : Prop :=
  ∀ x, x ∈ l1 → ∃ y, y ∈ l2 ∧ x.1.Perm y.1 ∧ x.2 = y.2

theorem evInfo_via {taxa taxa' : List String} {σ : Nat → Nat} {n : Nat}
    (hname : ∀ i, i < n → nameOf taxa' i = nameOf taxa (σ i)) {e' e : Ev} (h : EvSameVia σ e' e)
    (hlt : ∀ x, x ∈ e'.A ++ e'.B → x < n) :
    (evInfo taxa' e').1.Perm (evInfo taxa e).1 ∧ (evInfo taxa' e').2 = (evInfo taxa e).2 := by
  refine ⟨?_, h.2⟩
  simp only [evInfo]
  have e1 : (e'.A ++ e'.B).map (fun i => some (nameOf taxa' i)) =
      ((e'.A ++ e'.B).map σ).map (fun i => some (nameOf taxa i)) := by
    rw [List.map_map]
    apply List.map_congr_left
    intro x hx
    simp only [Function.comp_apply]
    rw [hname x (hlt x hx)]
  rw [e1]
  exact h.1.map _

/-- **C15, taxon order.**  The same labelled matrix in two taxon orders (`Reordered`), symmetric non-negative input on
    two or more taxa, and the run the executable performs on ONE of the two presentations has an unambiguous minimum
    at every step.  Then `UPG.upgma` succeeds on both, the recorded merge events agree position by position (member
    sets through `σ`, heights), and the two trees have the same internal nodes read as (leaf names below the node as a
    set, height of the node above its leaves). -/
theorem upgma_taxon_order (taxa taxa' : List String) (v v' : Array Rat) (σ : Nat → Nat)
    (h2 : 2 ≤ taxa.length) (hv : v.size = T taxa.length) (hpos : ∀ k, k < v.size → 0 ≤ v.getD k 0)
    (hv' : v'.size = T taxa'.length) (hpos' : ∀ k, k < v'.size → 0 ≤ v'.getD k 0)
    (hr : Reordered taxa v taxa' v' σ)
    (hu : (∀ evs, upgmaTr taxa v = .ok evs → Unamb (d0of v) (List.range taxa.length) (fun i => [i]) evs) ∨
      (∀ evs', upgmaTr taxa' v' = .ok evs' → Unamb (d0of v') (List.range taxa'.length) (fun i => [i]) evs')) :
    ∃ t m tie dy t' m' tie' dy' evs evs', upgma taxa v = .ok (t, m, tie, dy) ∧ upgma taxa' v' = .ok (t', m', tie', dy') ∧
      upgmaTr taxa v = .ok evs ∧ upgmaTr taxa' v' = .ok evs' ∧ All2 (EvSameVia σ) evs' evs ∧
      InfoSub (nodeInfo t') (nodeInfo t) ∧ InfoSub (nodeInfo t) (nodeInfo t') := by
  have h2' : 2 ≤ taxa'.length := by rw [hr.len]; exact h2
  obtain ⟨t, m, tie, dy, evs, k, cl, hup, htr, hrun, _, _, hnodes⟩ := upgma_average_linkage taxa v h2 hv hpos
  obtain ⟨t', m', tie', dy', evs', k', cl', hup', htr', hrun', _, _, hnodes'⟩ :=
    upgma_average_linkage taxa' v' h2' hv' hpos'
  have hu' : Unamb (d0of v) (List.range taxa.length) (fun i => [i]) evs ∨
      Unamb (d0of v') (List.range taxa.length) (fun i => [i]) evs' := by
    rcases hu with hu | hu
    · exact Or.inl (hu evs htr)
    · have := hu evs' htr'
      rw [hr.len] at this
      exact Or.inr this
  rw [hr.len] at hrun'
  have hall : All2 (EvSameVia σ) evs' evs := taxon_order_invariance_on hr.perm hr.dist hrun hrun' hu'
  have hlt := (hrun'.memP (MemP.singletons taxa.length)).1
  refine ⟨t, m, tie, dy, t', m', tie', dy', evs, evs', hup, hup', htr, htr', hall, ?_, ?_⟩
  · intro x hx
    obtain ⟨e', he', hxe⟩ := List.mem_map.1 (hnodes'.mem_iff.1 hx)
    obtain ⟨e, he, hsame⟩ := hall.mem_left e' he'
    refine ⟨evInfo taxa e, hnodes.mem_iff.2 (List.mem_map_of_mem he), ?_⟩
    rw [← hxe]
    exact evInfo_via hr.name hsame (hlt e' he')
  · intro y hy
    obtain ⟨e, he, hye⟩ := List.mem_map.1 (hnodes.mem_iff.1 hy)
    obtain ⟨e', he', hsame⟩ := hall.mem_right e he
    refine ⟨evInfo taxa' e', hnodes'.mem_iff.2 (List.mem_map_of_mem he'), ?_⟩
    rw [← hye]
    obtain ⟨p, q⟩ := evInfo_via hr.name hsame (hlt e' he')
    exact ⟨p.symm, q.symm⟩

end UPG
