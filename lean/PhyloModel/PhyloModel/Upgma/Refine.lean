import PhyloModel.Upgma.RefineDm
/-! # C15 — one iteration of the executable UPGMA loop refines the abstract agglomeration step

`absSt` abstracts an executable state `UPG.St` to the abstract `UP.St` (ghost member lists are carried as a
parameter); `WFSt` is the representation invariant.  Main results: `step_spec` (a successful iteration is a `Stepped`
transition: everything it does, field by field), `Stepped.min_act` (the chosen pair is at minimal distance among the
live pairs), `Stepped.dm_live` (a cell between two indices that stay live holds the distance `UP.merge` computes),
`Stepped.wf` (the invariant is kept), `Stepped.agree` (the new state abstracts to `UP.merge` of the old abstraction on all
live data), `step_total` (with two or more live clusters the iteration cannot fail). -/
namespace UPG
open MX Tri MXS

/-- live indices, in increasing order -/
def actOf (n : Nat) (st : St) : List Nat := (List.range n).filter (fun i => !(st.merged.getD i true))

/-- distance currently stored for the pair `{i, j}` (`0` stands for an infinite cell; live cells are finite) -/
def Dof (st : St) (i j : Nat) : Rat := (st.dm.getD (cell i j) none).getD 0

def absSt (n : Nat) (st : St) (mem : Nat → List Nat) : UP.St :=
  { act := actOf n st, D := Dof st, mem := mem, h := fun i => st.heights.getD i 0 }

theorem Dof_of_some {st : St} {i j : Nat} {v : Rat} (h : st.dm.getD (cell i j) none = some v) : Dof st i j = v := by
  rw [Dof, h]; rfl

theorem mem_actOf {n : Nat} {st : St} {i : Nat} : i ∈ actOf n st ↔ i < n ∧ st.merged.getD i true = false := by
  simp only [actOf, List.mem_filter, List.mem_range, Bool.not_eq_true']

theorem actOf_nodup (n : Nat) (st : St) : (actOf n st).Nodup :=
  List.Nodup.sublist List.filter_sublist List.nodup_range

structure WFSt (n : Nat) (st : St) (mem : Nat → List Nat) : Prop where
  szM : st.merged.size = n
  szD : st.dm.size = T n
  szC : st.card.size = n
  szH : st.heights.size = n
  szK : st.clusters.size = n
  /-- cells between two live indices are finite -/
  fin : ∀ i j, i < n → j < n → i ≠ j → st.merged.getD i true = false → st.merged.getD j true = false →
    ∃ v, st.dm.getD (cell i j) none = some v
  /-- cells touching a retired index are infinite -/
  dead : ∀ i j, i < n → j < n → i ≠ j → st.merged.getD i true = true → st.dm.getD (cell i j) none = none
  card : ∀ i, i < n → st.merged.getD i true = false → st.card.getD i 0 = (mem i).length
  ncl : st.nClusters = (actOf n st).length
  rkN : st.rootKids.Nodup
  rkM : ∀ i, i ∈ st.rootKids ↔ i ∈ actOf n st

theorem live_lt {n : Nat} {st : St} {mem} (h : WFSt n st mem) {i : Nat} (hi : st.merged.getD i true = false) : i < n := by
  rw [← h.szM]
  exact getD_lt_of_ne st.merged i true (by rw [hi]; simp)

theorem WFSt.cell {n : Nat} {st : St} {mem} (h : WFSt n st mem) {i j : Nat} (hi : i < n) (hj : j < n) (hij : i ≠ j)
    (hli : st.merged.getD i true = false) (hlj : st.merged.getD j true = false) :
    st.dm.getD (cell i j) none = some (Dof st i j) := by
  obtain ⟨v, hv⟩ := h.fin i j hi hj hij hli hlj
  rw [Dof_of_some hv, hv]

theorem newCell_live {n : Nat} {st : St} {mem} (h : WFSt n st mem) (ca cb : Rat) {a b x : Nat} (ha : a < n) (hb : b < n)
    (hx : x < n) (hxa : x ≠ a) (hxb : x ≠ b) (la : st.merged.getD a true = false) (lb : st.merged.getD b true = false)
    (lx : st.merged.getD x true = false) :
    newCell st.dm ca cb a b x = some ((ca * Dof st a x + cb * Dof st b x) / (ca + cb)) := by
  simp only [newCell, h.cell hx ha hxa lx la, h.cell hx hb hxb lx lb]
  simp only [Dof, cell_symm a x (Ne.symm hxa), cell_symm b x (Ne.symm hxb)]

/-- the matrix written by one iteration: the row of `b` is retired, the row of `a` holds the weighted means, every other
    cell is kept.  (For a retired third index both descriptions of its cell in row `a` give "infinite".) -/
theorem stepDm_spec {n : Nat} {st : St} {mem} (h : WFSt n st mem) {a b : Nat} (hab : a ≠ b) (ha : a < n) (hb : b < n) :
    (stepDm st a b).size = T n ∧
    (∀ j, j < n → j ≠ b → (stepDm st a b).getD (cell b j) none = none) ∧
    (∀ j, j < n → j ≠ a → j ≠ b → (stepDm st a b).getD (cell a j) none =
      newCell st.dm (st.card.getD a 0 : Nat) (st.card.getD b 0 : Nat) a b j) ∧
    (∀ i j, i < n → j < n → i ≠ j → i ≠ a → i ≠ b → j ≠ a → j ≠ b →
      (stepDm st a b).getD (cell i j) none = st.dm.getD (cell i j) none) := by
  have hmg : ∀ x, x ≠ b → (st.merged.setIfInBounds b true).getD x true = st.merged.getD x true := by
    intro x hx
    rw [getD_set, if_neg (fun e => hx e.1.symm)]
  unfold stepDm
  rw [h.szM]
  refine ⟨(dmFold_size _ _ _ _ _ _ _).trans h.szD, fun j hj hjb => ?_, fun j hj hja hjb => ?_,
    fun i j _ _ hij hia hib hja hjb => dmFold_rest _ _ _ _ h.szD ha hb hij hia hib hja hjb⟩
  · rw [dmFold_row_b _ _ _ _ h.szD ha hb hj hjb, hmg j hjb]
    cases hl : st.merged.getD j true
    · rfl
    · rw [if_neg Bool.noConfusion, cell_symm b j (Ne.symm hjb)]
      exact h.dead j b hj hb hjb hl
  · rw [dmFold_row_a _ _ _ _ h.szD hab ha hb hj hja hjb, hmg j hjb]
    cases hl : st.merged.getD j true
    · rfl
    · have hd := h.dead j a hj ha hja hl
      rw [if_neg Bool.noConfusion, cell_symm a j (Ne.symm hja), hd]
      simp only [newCell, hd]

def memAfter (mem : Nat → List Nat) (a b : Nat) : Nat → List Nat := fun i => if i = a then mem a ++ mem b else mem i

theorem memAfter_eq (n : Nat) (st : St) (mem : Nat → List Nat) (a b : Nat) :
    memAfter mem a b = (UP.merge (absSt n st mem) a b).mem := rfl

/-- what retiring `b` and re-hanging `a` under the root does to the flags, the live indices and the root children;
    shared by the representation invariant and the light invariant of the clamped loop -/
theorem flags_step {n : Nat} {st st' : St} {a b : Nat} (szM : st.merged.size = n) (rkN : st.rootKids.Nodup)
    (lb : st.merged.getD b true = false)
    (hM : st'.merged = st.merged.setIfInBounds b true) (hR : st'.rootKids = ((st.rootKids.erase a).erase b) ++ [a]) :
    st'.merged.size = n ∧ actOf n st' = (actOf n st).erase b ∧ st'.rootKids.Nodup ∧
      ∀ i, i ∈ st'.rootKids ↔ (i ∈ st.rootKids ∧ i ≠ b) ∨ i = a := by
  have hb : b < st.merged.size := getD_lt_of_ne st.merged b true (by rw [lb]; simp)
  have hmem : ∀ i, i ∈ (st.rootKids.erase a).erase b ↔ i ≠ b ∧ i ≠ a ∧ i ∈ st.rootKids := fun i => by
    rw [List.Nodup.mem_erase_iff (rkN.erase a), List.Nodup.mem_erase_iff rkN]
  refine ⟨by rw [hM, Array.size_setIfInBounds, szM], ?_, ?_, fun i => ?_⟩
  · rw [List.Nodup.erase_eq_filter (actOf_nodup n st)]
    simp only [actOf, List.filter_filter]
    apply List.filter_congr
    intro i _
    rw [hM, getD_set]
    by_cases hib : b = i
    · rw [if_pos ⟨hib, hb⟩, ← hib]; simp
    · have hib' : i ≠ b := fun e => hib e.symm
      rw [if_neg (fun e => hib e.1)]
      cases st.merged.getD i true <;> simp [hib']
  · rw [hR]
    refine List.nodup_append.2 ⟨(rkN.erase a).erase b, by simp, fun x hx y hy => ?_⟩
    rw [List.mem_singleton.1 hy]
    exact ((hmem x).1 hx).2.1
  · rw [hR, List.mem_append, hmem, List.mem_singleton]
    constructor
    · rintro (⟨h1, _, h3⟩ | h1)
      · exact Or.inl ⟨h3, h1⟩
      · exact Or.inr h1
    · rintro (⟨h1, h2⟩ | h1)
      · by_cases hia : i = a
        · exact Or.inr hia
        · exact Or.inl ⟨h2, hia, h1⟩
      · exact Or.inr h1

/-- two abstract states carry the same live data -/
structure Agree (s t : UP.St) : Prop where
  act : s.act = t.act
  D : ∀ i j, i ∈ t.act → j ∈ t.act → i ≠ j → s.D i j = t.D i j
  mem : ∀ i, i ∈ t.act → s.mem i = t.mem i
  h : ∀ i, i ∈ t.act → s.h i = t.h i

theorem Agree.link (d0 : Nat → Nat → Rat) {s t : UP.St} (ag : Agree s t) (hl : UP.Link d0 t) : UP.Link d0 s := by
  constructor
  · rw [ag.act]; exact hl.nodup
  · intro i hi; rw [ag.act] at hi; rw [ag.mem i hi]; exact hl.ne i hi
  · intro i j hi hj
    rw [ag.act] at hi hj
    by_cases hij : i = j
    · subst hij; rfl
    · rw [ag.D i j hi hj hij, ag.D j i hj hi (Ne.symm hij)]; exact hl.symm i j hi hj
  · intro i j hi hj hij
    rw [ag.act] at hi hj
    rw [ag.D i j hi hj hij, ag.mem i hi, ag.mem j hj]; exact hl.avg i j hi hj hij

theorem Agree.mono {s t : UP.St} (ag : Agree s t) (hm : UP.Mono t) : UP.Mono s := by
  intro i j k hi hj hk hjk
  rw [ag.act] at hi hj hk
  rw [ag.h i hi, ag.D j k hj hk hjk]; exact hm i j k hi hj hk hjk

/-- everything a successful iteration does: it picks the pair `(a, b)` with `b < a` at stored distance `dab` -/
structure Stepped (n : Nat) (st st' : St) (a b : Nat) (dab : Rat) : Prop where
  lt : b < a
  an : a < n
  la : st.merged.getD a true = false
  lb : st.merged.getD b true = false
  hd : st.dm.getD (cell a b) none = some dab
  /-- `(a, b)` at distance `dab` is what `DistanceMatrix::min` returned -/
  mc : minCell st.dm = some ((a, b), some dab)
  min : ∀ j k, st.merged.getD j true = false → st.merged.getD k true = false → j ≠ k → dab ≤ Dof st j k
  dm : st'.dm = stepDm st a b
  merged : st'.merged = st.merged.setIfInBounds b true
  heights : st'.heights = st.heights.setIfInBounds a (dab / 2)
  card : st'.card = st.card.setIfInBounds a (st.card.getD a 0 + st.card.getD b 0)
  clusters : st'.clusters = st.clusters.setIfInBounds a (mergeTrees (st.clusters.getD a default)
    (st.clusters.getD b default) (dab / 2 - st.heights.getD a 0) (dab / 2 - st.heights.getD b 0))
  rootKids : st'.rootKids = ((st.rootKids.erase a).erase b) ++ [a]
  nClusters : st'.nClusters = st.nClusters - 1

theorem step_spec {n : Nat} {st st' : St} {mem} (h : WFSt n st mem) (hs : step st = .ok st') :
    ∃ a b dab, Stepped n st st' a b dab := by
  obtain ⟨a, b, dab, hmin, hla, hlb, r1, r2, r3, r4, r5, r6, r7, _⟩ := step_ok_fields st st' hs
  obtain ⟨g1, han, hval, hkmin⟩ := minCell_some hmin
  refine ⟨a, b, dab, ⟨g1, han n h.szD, hla, hlb, hval, hmin, ?_, r1, r2, r3, r4, r5, r6, r7⟩⟩
  intro j k hj hk' hjk
  have hjn := live_lt h hj
  have hkn := live_lt h hk'
  have hlt := hkmin (cell j k) (by rw [h.szD]; exact cell_lt hjk hjn hkn)
  rw [h.cell hjn hkn hjk hj hk'] at hlt
  simp only [cellLt, decide_eq_false_iff_not] at hlt
  exact Rat.not_lt.mp hlt


section
variable {n : Nat} {st st' : St} {mem : Nat → List Nat} {a b : Nat} {dab : Rat} (s : Stepped n st st' a b dab)
include s

theorem Stepped.ne : a ≠ b :=
  Nat.ne_of_gt s.lt

theorem Stepped.bn : b < n :=
  Nat.lt_trans s.lt s.an

theorem Stepped.act_a : a ∈ actOf n st :=
  mem_actOf.2 ⟨s.an, s.la⟩

theorem Stepped.act_b : b ∈ actOf n st :=
  mem_actOf.2 ⟨s.bn, s.lb⟩

theorem Stepped.act' (h : WFSt n st mem) : actOf n st' = (actOf n st).erase b :=
  (flags_step h.szM h.rkN s.lb s.merged s.rootKids).2.1

theorem Stepped.live' (h : WFSt n st mem) (i : Nat) :
    st'.merged.getD i true = false ↔ (st.merged.getD i true = false ∧ i ≠ b) := by
  have hb : b < st.merged.size := h.szM ▸ s.bn
  rw [s.merged, getD_set]
  by_cases hib : b = i
  · rw [if_pos ⟨hib, hb⟩]; simp [hib]
  · rw [if_neg (fun e => hib e.1)]
    exact ⟨fun e => ⟨e, fun e' => hib e'.symm⟩, fun e => e.1⟩

theorem Stepped.dm_live (h : WFSt n st mem) {i j : Nat} (hi : i < n) (hj : j < n) (hij : i ≠ j)
    (hli : st.merged.getD i true = false) (hib : i ≠ b) (hlj : st.merged.getD j true = false) (hjb : j ≠ b) :
    st'.dm.getD (cell i j) none = some ((UP.merge (absSt n st mem) a b).D i j) := by
  obtain ⟨_, _, hrowa, hrest⟩ := stepDm_spec h s.ne s.an s.bn
  -- the weighted mean the code writes is the one `UP.merge` computes from the member counts
  have hnew : ∀ x, x < n → x ≠ a → x ≠ b → st.merged.getD x true = false →
      st'.dm.getD (cell a x) none = some ((((mem a).length : Rat) * Dof st a x + ((mem b).length : Rat) * Dof st b x) /
        (((mem a).length : Rat) + ((mem b).length : Rat))) := by
    intro x hx hxa hxb hlx
    rw [s.dm, hrowa x hx hxa hxb, newCell_live h _ _ s.an s.bn hx hxa hxb s.la s.lb hlx, h.card a s.an s.la,
      h.card b s.bn s.lb]
  simp only [UP.merge, absSt]
  by_cases hia : i = a
  · have hja : j ≠ a := fun e => hij (hia.trans e.symm)
    rw [if_pos ⟨hia, hja⟩, hia]
    exact hnew j hj hja hjb hlj
  · rw [if_neg (fun e => hia e.1)]
    by_cases hja : j = a
    · rw [if_pos ⟨hja, hia⟩, hja, cell_symm i a hia]
      exact hnew i hi hia hib hli
    · rw [if_neg (fun e => hja e.1), s.dm, hrest i j hi hj hij hia hib hja hjb, h.cell hi hj hij hli hlj]

theorem Stepped.wf (h : WFSt n st mem) : WFSt n st' (memAfter mem a b) := by
  obtain ⟨hsz, hrowb, hrowa, hrest⟩ := stepDm_spec h s.ne s.an s.bn
  have hlive := s.live' h
  obtain ⟨f1, f2, f3, f4⟩ := flags_step h.szM h.rkN s.lb s.merged s.rootKids
  constructor
  · exact f1
  · rw [s.dm, hsz]
  · rw [s.card, Array.size_setIfInBounds, h.szC]
  · rw [s.heights, Array.size_setIfInBounds, h.szH]
  · rw [s.clusters, Array.size_setIfInBounds, h.szK]
  · intro i j hi hj hij hli hlj
    obtain ⟨hli1, hib⟩ := (hlive i).1 hli
    obtain ⟨hlj1, hjb⟩ := (hlive j).1 hlj
    exact ⟨_, s.dm_live h hi hj hij hli1 hib hlj1 hjb⟩
  · -- retired cells infinite: row `b` is, and a retired `i ≠ b` was retired before (so `i ≠ a`)
    intro i j hi hj hij hdi
    rw [s.dm]
    by_cases hib : i = b
    · rw [hib]; exact hrowb j hj (fun e => hij (hib.trans e.symm))
    · have hdi1 : st.merged.getD i true = true :=
        Bool.of_not_eq_false fun hx => by rw [(hlive i).2 ⟨hx, hib⟩] at hdi; cases hdi
      have hia : i ≠ a := fun e => by rw [e, s.la] at hdi1; cases hdi1
      by_cases hjb : j = b
      · rw [hjb, cell_symm i b hib]; exact hrowb i hi hib
      · by_cases hja : j = a
        · have hd := h.dead i a hi s.an hia hdi1
          rw [hja, cell_symm i a hia, hrowa i hi hia hib]
          simp only [newCell, hd]
        · rw [hrest i j hi hj hij hia hib hja hjb]
          exact h.dead i j hi hj hij hdi1
  · intro i hi hli
    obtain ⟨hli1, hib⟩ := (hlive i).1 hli
    rw [s.card, getD_set, h.szC]
    simp only [memAfter]
    by_cases hia : a = i
    · rw [if_pos ⟨hia, s.an⟩, if_pos hia.symm, List.length_append, h.card a s.an s.la, h.card b s.bn s.lb]
    · rw [if_neg (fun e => hia e.1), if_neg (fun e => hia e.symm)]
      exact h.card i hi hli1
  · rw [s.nClusters, f2, h.ncl, List.length_erase_of_mem s.act_b]
  · exact f3
  · intro i
    rw [f4, f2, List.Nodup.mem_erase_iff (actOf_nodup n st), h.rkM]
    constructor
    · rintro (⟨h1, h2⟩ | h1)
      · exact ⟨h2, h1⟩
      · rw [h1]; exact ⟨s.ne, s.act_a⟩
    · rintro ⟨h1, h2⟩
      exact Or.inl ⟨h2, h1⟩

theorem Stepped.min_act :
    Dof st a b = dab ∧ ∀ j k, j ∈ actOf n st → k ∈ actOf n st → j ≠ k → Dof st a b ≤ Dof st j k := by
  have hD : Dof st a b = dab := Dof_of_some s.hd
  refine ⟨hD, fun j k hj hk hjk => ?_⟩
  rw [hD]
  exact s.min j k (mem_actOf.1 hj).2 (mem_actOf.1 hk).2 hjk

theorem Stepped.agree (h : WFSt n st mem) :
    Agree (absSt n st' (memAfter mem a b)) (UP.merge (absSt n st mem) a b) := by
  have hmemact : ∀ i, i ∈ (UP.merge (absSt n st mem) a b).act → i < n ∧ st.merged.getD i true = false ∧ i ≠ b := by
    intro i hi
    obtain ⟨h1, h2⟩ := (List.Nodup.mem_erase_iff (actOf_nodup n st)).1 hi
    exact ⟨(mem_actOf.1 h2).1, (mem_actOf.1 h2).2, h1⟩
  refine ⟨s.act' h, fun i j hi hj hij => ?_, fun i _ => rfl, fun i _ => ?_⟩
  · obtain ⟨hin, hli, hib⟩ := hmemact i hi
    obtain ⟨hjn, hlj, hjb⟩ := hmemact j hj
    exact Dof_of_some (s.dm_live h hin hjn hij hli hib hlj hjb)
  · show st'.heights.getD i 0 = _
    simp only [UP.merge, absSt]
    rw [s.heights, getD_set, h.szH, s.min_act.1]
    by_cases hia : a = i
    · rw [if_pos ⟨hia, s.an⟩, if_pos hia.symm]
    · rw [if_neg (fun e => hia e.1), if_neg (fun e => hia e.symm)]

end

theorem step_total {n : Nat} {st : St} {mem} (h : WFSt n st mem) (h2 : 2 ≤ (actOf n st).length) :
    ∃ st', step st = .ok st' := by
  obtain ⟨i, j, hi, hj, hij⟩ : ∃ i j, i ∈ actOf n st ∧ j ∈ actOf n st ∧ i ≠ j := by
    match hl : actOf n st, h2, actOf_nodup n st with
    | i :: j :: _, _, hn =>
      exact ⟨i, j, List.mem_cons_self, List.mem_cons_of_mem _ List.mem_cons_self,
        fun e => (List.nodup_cons.1 hn).1 (e ▸ List.mem_cons_self)⟩
  obtain ⟨hin, hli⟩ := mem_actOf.1 hi
  obtain ⟨hjn, hlj⟩ := mem_actOf.1 hj
  have hc := cell_lt hij hin hjn
  obtain ⟨a, b, c, hmc⟩ : ∃ a b c, minCell st.dm = some ((a, b), c) := by
    obtain ⟨k, _, hk2, _⟩ := minCell_first st.dm (by rw [h.szD]; exact Nat.zero_lt_of_lt hc)
    exact ⟨_, _, _, hk2⟩
  obtain ⟨hlt, han, hval, hkmin⟩ := minCell_some hmc
  have han : a < n := han n h.szD
  -- the minimum is finite, hence its two indices are live
  cases c with
  | none =>
    have := hkmin (cell i j) (by rw [h.szD]; exact hc)
    rw [h.cell hin hjn hij hli hlj] at this
    simp [cellLt] at this
  | some dab =>
    have hab : a ≠ b := Nat.ne_of_gt hlt
    have hbn : b < n := Nat.lt_trans hlt han
    have hla : st.merged.getD a true = false :=
      Bool.of_not_eq_true fun hx => by rw [h.dead a b han hbn hab hx] at hval; cases hval
    have hlb : st.merged.getD b true = false :=
      Bool.of_not_eq_true fun hx => by rw [cell_symm a b hab, h.dead b a hbn han hab.symm hx] at hval; cases hval
    exact step_ok_of st a b dab hmc hla hlb

end UPG
