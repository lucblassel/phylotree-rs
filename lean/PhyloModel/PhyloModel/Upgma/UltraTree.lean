import PhyloModel.Upgma.Ultra
/-! # C15 — ultrametric input: the leaf-to-leaf path lengths of the UPGMA tree reproduce the matrix

`distM t` is the full matrix of path lengths between the leaves of `t` (in leaf order).  For an input that
satisfies the three-point condition (`Ultra`), with non-negative entries, the tree returned by `UPG.upgma`
has `distM t = matOf (d0of v) A`, where `A` (a permutation of all taxon indices) lists the taxa
in leaf order (`upgma_recovers_ultrametric`). -/
namespace UPG
open MX Tri MXS


/-- how `Q` must behave under the join of two clusters all of whose cross distances are `2 * h` -/
def QMergeX (d0 : Nat → Nat → Rat) (Q : URose → List Nat → Rat → Prop) : Prop :=
  ∀ (ta tb : URose) (A B : List Nat) (ha hb h : Rat), Q ta A ha → Q tb B hb → A ≠ [] → B ≠ [] →
    0 ≤ h - ha → 0 ≤ h - hb → (∀ x, x ∈ A → ∀ y, y ∈ B → d0 x y = 2 * h) →
    Q (mergeTrees ta tb (h - ha) (h - hb)) (A ++ B) h

theorem cross_of_U {d0 : Nat → Nat → Rat} {n : Nat} {st : St} {mem : Nat → List Nat} {a b : Nat} {dab : Rat}
    (hU : U d0 (absSt n st mem)) (ha : a ∈ actOf n st) (hb : b ∈ actOf n st) (hab : a ≠ b) (hD : Dof st a b = dab) :
    ∀ x, x ∈ mem a → ∀ y, y ∈ mem b → d0 x y = 2 * (dab / 2) := by
  intro x hx y hy
  have := hU a b ha hb hab x hx y hy
  have e : (absSt n st mem).D a b = dab := hD
  rw [e] at this
  rw [this]; grind

theorem Run.uinv {d0 : Nat → Nat → Rat} (hd : ∀ x y, d0 x y = d0 y x) {Q : URose → List Nat → Rat → Prop} {n : Nat}
    (hu : Ultra d0 n) (hQ : QMergeX d0 Q) {st st' : St} {mem mem' : Nat → List Nat} {evs : List Ev}
    (r : Run d0 n st mem evs st' mem') (hU : U d0 (absSt n st mem)) (hC : CInv Q n st mem) :
    U d0 (absSt n st' mem') ∧ CInv Q n st' mem' := by
  induction r with
  | nil _ => exact ⟨hU, hC⟩
  | cons hI _ _ s h1 h2 _ ih =>
    have hU1 := (s.agree hI.wf).U
      (merge_U hd hu _ _ _ hI.link hI.part hU s.act_a s.act_b s.ne s.min_act.2)
    exact ih hU1 (s.cinv hI.wf hC fun qa qb =>
      hQ _ _ _ _ _ _ _ qa qb (hI.link.ne _ s.act_a) (hI.link.ne _ s.act_b) h1 h2
        (cross_of_U hU s.act_a s.act_b s.ne s.min_act.1))

theorem init_U (taxa : List String) (v : Array Rat) :
    U (d0of v) (absSt taxa.length (initSt taxa v) (fun i => [i])) := by
  intro i j _ _ hij x hx y hy
  have e1 : x = i := by simpa [absSt] using hx
  have e2 : y = j := by simpa [absSt] using hy
  subst e1 e2
  show d0of v x y = Dof _ x y
  rw [init_Dof]
  simp [d0of, hij]

theorem upgma_cinv_ultra {Q : URose → List Nat → Rat → Prop} (taxa : List String) (v : Array Rat)
    (hQm : QMergeX (d0of v) Q) (hQi : QInit Q taxa) (h2 : 2 ≤ taxa.length) (hv : v.size = T taxa.length)
    (hpos : ∀ k, k < v.size → 0 ≤ v.getD k 0) (hu : Ultra (d0of v) taxa.length) :
    ∃ t m tie dy A h, upgma taxa v = .ok (t, m, tie, dy) ∧ Q t A h ∧ A.Perm (List.range taxa.length) := by
  obtain ⟨st, mem, _, _, hl, hrun, hn2⟩ := upgma_run taxa v h2 hv hpos
  have hI := hrun.linv
  obtain ⟨hU, hC⟩ := hrun.uinv (d0of_symm v) hu hQm (init_U taxa v) (init_cinv taxa v hQi)
  obtain ⟨k1, k2, dab, fj⟩ := final_join taxa v st mem hl hI hn2
  exact ⟨_, _, _, _, mem k1 ++ mem k2, dab / 2, fj.up,
    hQm _ _ _ _ _ _ _ (hC.act fj.act1) (hC.act fj.act2) (hI.link.ne k1 fj.act1) (hI.link.ne k2 fj.act2) fj.nn1 fj.nn2
      (cross_of_U hU fj.act1 fj.act2 fj.ne fj.D), fj.perm⟩


mutual
/-- path lengths between all pairs of leaves, in leaf order (row `p`, column `q`: from leaf `p` to leaf `q`) -/
def distM : URose → List (List Rat)
  | .node _ _ ks => if ks.isEmpty then [[0]] else distML ks
/-- the same for the leaves below a list of sibling subtrees; paths between different subtrees go through the
    common parent: down-depth plus branch length on either side -/
def distML : List URose → List (List Rat)
  | [] => []
  | k :: ks =>
    (List.zipWith (fun row d => row ++ (leafDepthsL ks).map (fun e => d + e)) (distM k)
        ((leafDepths k).map (fun d => k.len.getD 0 + d))) ++
    (List.zipWith (fun row e => ((leafDepths k).map (fun d => k.len.getD 0 + d)).map (fun d => d + e) ++ row)
        (distML ks) (leafDepthsL ks))
end

theorem distM_leaf (n : Option String) (l : Option Rat) : distM (.node n l []) = [[0]] := by
  rw [distM]; rfl

theorem distM_setLen (t : URose) (l : Option Rat) : distM (t.setLen l) = distM t := by
  cases t; rw [URose.setLen, distM, distM]

theorem distML_nil : distML [] = [] := by rw [distML]
theorem distML_cons (k : URose) (ks : List URose) : distML (k :: ks) =
    (List.zipWith (fun row d => row ++ (leafDepthsL ks).map (fun e => d + e)) (distM k)
        ((leafDepths k).map (fun d => k.len.getD 0 + d))) ++
    (List.zipWith (fun row e => ((leafDepths k).map (fun d => k.len.getD 0 + d)).map (fun d => d + e) ++ row)
        (distML ks) (leafDepthsL ks)) := by rw [distML]

theorem distM_merge (a b : URose) (la lb : Rat) : distM (mergeTrees a b la lb) =
    List.zipWith (fun row d => row ++ List.map (fun e => d + e) (List.map (fun d => lb + d) (leafDepths b))) (distM a)
        (List.map (fun d => la + d) (leafDepths a)) ++
      List.zipWith (fun row e => List.map (fun d => d + e) (List.map (fun d => la + d) (leafDepths a)) ++ row)
        (List.zipWith (fun row _ => row) (distM b) (List.map (fun d => lb + d) (leafDepths b)))
        (List.map (fun d => lb + d) (leafDepths b)) := by
  rw [mergeTrees, distM]
  simp only [List.isEmpty_cons, Bool.false_eq_true, ↓reduceIte]
  rw [distML_cons, distML_cons, distML_nil, leafDepthsL_cons, leafDepthsL_nil]
  simp only [distM_setLen, leafDepths_setLen, URose.setLen_len, Option.getD_some, List.append_nil, List.map_nil,
    List.zipWith_nil_left]

/-- the matrix of original distances between the taxa listed in `A` -/
def matOf (d0 : Nat → Nat → Rat) (A : List Nat) : List (List Rat) := A.map (fun x => A.map (fun y => d0 x y))

/-- per-cluster invariant for ultrametric input: shape, depth, and the path-length matrix is the original one -/
def DistQ (d0 : Nat → Nat → Rat) (taxa : List String) (t : URose) (A : List Nat) (h : Rat) : Prop :=
  ShapeDepthQ taxa t A h ∧ distM t = matOf d0 A

theorem ShapeDepthQ.depths {taxa : List String} {t : URose} {A : List Nat} {h : Rat} (q : ShapeDepthQ taxa t A h) :
    leafDepths t = A.map (fun _ => h) := by
  rw [List.map_const']
  exact List.eq_replicate_iff.2 ⟨by rw [leafDepths_length, q.1.2, List.length_map], q.2⟩

theorem qmergeX_dist (d0 : Nat → Nat → Rat) (hd : ∀ x y, d0 x y = d0 y x) (taxa : List String) : QMergeX d0 (DistQ d0 taxa) := by
  intro ta tb A B ha hb h qa qb hA hB h1 h2 hcross
  refine ⟨qmerge_shapeDepth taxa ta tb A B ha hb h qa.1 qb.1 hA hB h1 h2, ?_⟩
  rw [distM_merge, qa.2, qb.2, qa.1.depths, qb.1.depths]
  have e1 : List.map (fun d => h - ha + d) (List.map (fun _ => ha) A) = A.map (fun _ => h) := by
    rw [List.map_map]; apply List.map_congr_left; intro _ _; show h - ha + ha = h; grind
  have e2 : List.map (fun d => h - hb + d) (List.map (fun _ => hb) B) = B.map (fun _ => h) := by
    rw [List.map_map]; apply List.map_congr_left; intro _ _; show h - hb + hb = h; grind
  rw [e1, e2]
  unfold matOf
  simp only [List.zipWith_map, List.zipWith_self, List.map_map, List.map_append]
  congr 1
  · apply List.map_congr_left
    intro x hx
    congr 1
    apply List.map_congr_left
    intro y hy
    show h + h = d0 x y
    rw [hcross x hx y hy]; grind
  · apply List.map_congr_left
    intro y hy
    congr 1
    apply List.map_congr_left
    intro x hx
    show h + h = d0 y x
    rw [hd y x, hcross x hx y hy]; grind

theorem qinit_dist (d0 : Nat → Nat → Rat) (h0 : ∀ x, d0 x x = 0) (taxa : List String) : QInit (DistQ d0 taxa) taxa := by
  intro i hi
  refine ⟨qinit_shapeDepth taxa i hi, ?_⟩
  rw [distM_leaf]; simp [matOf, h0]

theorem upgma_recovers_ultrametric (taxa : List String) (v : Array Rat) (h2 : 2 ≤ taxa.length)
    (hv : v.size = T taxa.length) (hpos : ∀ k, k < v.size → 0 ≤ v.getD k 0) (hu : Ultra (d0of v) taxa.length) :
    ∃ t m tie dy A, upgma taxa v = .ok (t, m, tie, dy) ∧ A.Perm (List.range taxa.length) ∧
      leafNames t = A.map (fun i => some (nameOf taxa i)) ∧ distM t = matOf (d0of v) A := by
  obtain ⟨t, m, tie, dy, A, h, hup, hq, hperm⟩ := upgma_cinv_ultra taxa v (qmergeX_dist (d0of v) (d0of_symm v) taxa)
    (qinit_dist (d0of v) (by intro x; simp [d0of]) taxa) h2 hv hpos hu
  exact ⟨t, m, tie, dy, A, hup, hperm, hq.1.1.2, hq.2⟩

/-- non-vacuity: a concrete ultrametric input satisfying all hypotheses of `upgma_recovers_ultrametric` -/
example : 2 ≤ ["a", "b", "c"].length ∧ (#[2, 4, 4] : Array Rat).size = T ["a", "b", "c"].length ∧
    (∀ k, k < (#[2, 4, 4] : Array Rat).size → 0 ≤ (#[2, 4, 4] : Array Rat).getD k 0) ∧
    Ultra (d0of #[2, 4, 4]) ["a", "b", "c"].length := by
  refine ⟨hyps_example.1, hyps_example.2.1, hyps_example.2.2, ?_⟩
  have h : ∀ x, x < 3 → ∀ y, y < 3 → ∀ z, z < 3 →
      d0of #[2, 4, 4] x z ≤ d0of #[2, 4, 4] x y ∨ d0of #[2, 4, 4] x z ≤ d0of #[2, 4, 4] y z := by decide +kernel
  exact fun x y z hx hy hz => h x hx y hy z hz

end UPG
