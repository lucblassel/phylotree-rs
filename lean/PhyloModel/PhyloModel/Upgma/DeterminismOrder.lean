import PhyloModel.Upgma.Determinism
/-! # C15 — determinism of average-linkage clustering: independence of the taxon order

Consequences of `avgRun_deterministic_one` (Upgma/Determinism.lean).

* `AvgRun.relabel` — a run on a matrix `d0'` that is `d0` read through a relabelling `σ` of the taxa
  (`d0' x y = d0 (σ x) (σ y)` on the taxa that occur) is, member lists mapped through `σ`, a run on `d0`: same indices,
  same heights, and unambiguous if the run on `d0'` is
* `taxon_order_invariance_on` — **taxon order**: a complete run on the reordered matrix and a complete run on the original
  matrix, one of them unambiguous, perform the same merges (member sets mapped through `σ`) at the same heights -/
namespace UPG
open UP


theorem MemP.singletons (n : Nat) : MemP (fun x => x < n) (List.range n) (fun i => [i]) := by
  intro i hi x hx
  rw [List.mem_singleton.1 hx]; exact List.mem_range.1 hi

theorem AvgRun.memP {P : Nat → Prop} {d0 : Nat → Nat → Rat} {act act' : List Nat} {cl cl' : Nat → List Nat}
    {evs : List Ev} (r : AvgRun d0 act cl evs act' cl') (h : MemP P act cl) :
    (∀ e, e ∈ evs → ∀ x, x ∈ e.A ++ e.B → P x) ∧ MemP P act' cl' := by
  induction r with
  | nil => exact ⟨fun e he => (by cases he), h⟩
  | cons act cl a b evs act' cl' ha hb hab _ _ ih =>
    obtain ⟨h1, h2⟩ := ih (h.merge hb)
    refine ⟨?_, h2⟩
    intro e he x hx
    rcases List.mem_cons.1 he with e1 | he
    · subst e1
      rcases List.mem_append.1 hx with hx | hx
      · exact h a ha x hx
      · exact h b hb x hx
    · exact h1 e he x hx

/-- the matrix read in another taxon order -/
def reorder (d0 : Nat → Nat → Rat) (σ : Nat → Nat) : Nat → Nat → Rat := fun i j => d0 (σ i) (σ j)

def mapCl (σ : Nat → Nat) (cl : Nat → List Nat) : Nat → List Nat := fun i => (cl i).map σ

/-- an event with its member lists mapped through `σ` (indices and height unchanged) -/
def Ev.relabel (σ : Nat → Nat) (e : Ev) : Ev := ⟨e.a, e.b, e.height, e.A.map σ, e.B.map σ⟩

theorem S_relabel {P : Nat → Prop} {d0 d0' : Nat → Nat → Rat} {σ : Nat → Nat}
    (hd : ∀ x y, P x → P y → d0' x y = d0 (σ x) (σ y)) {A B : List Nat} (hA : ∀ x, x ∈ A → P x)
    (hB : ∀ y, y ∈ B → P y) : S d0' A B = S d0 (A.map σ) (B.map σ) := by
  unfold S
  rw [List.map_map]
  congr 1
  apply List.map_congr_left
  intro x hx
  simp only [Function.comp_apply]
  rw [List.map_map]
  congr 1
  apply List.map_congr_left
  intro y hy
  simp only [Function.comp_apply]
  exact hd x y (hA x hx) (hB y hy)

theorem avgLink_relabel {P : Nat → Prop} {d0 d0' : Nat → Nat → Rat} {σ : Nat → Nat}
    (hd : ∀ x y, P x → P y → d0' x y = d0 (σ x) (σ y)) {A B : List Nat} (hA : ∀ x, x ∈ A → P x)
    (hB : ∀ y, y ∈ B → P y) : avgLink d0' A B = avgLink d0 (A.map σ) (B.map σ) := by
  unfold avgLink; rw [S_relabel hd hA hB, List.length_map, List.length_map]

theorem memAfter_mapCl (σ : Nat → Nat) (cl : Nat → List Nat) (a b : Nat) :
    memAfter (mapCl σ cl) a b = mapCl σ (memAfter cl a b) := by
  funext i
  by_cases hia : i = a
  · subst hia; simp [memAfter, mapCl]
  · simp [memAfter, mapCl, hia]

theorem AvgRun.relabel {P : Nat → Prop} {d0 d0' : Nat → Nat → Rat} {σ : Nat → Nat}
    (hd : ∀ x y, P x → P y → d0' x y = d0 (σ x) (σ y)) {act act' : List Nat} {cl cl' : Nat → List Nat}
    {evs : List Ev} (r : AvgRun d0' act cl evs act' cl') (h : MemP P act cl) :
    AvgRun d0 act (mapCl σ cl) (evs.map (Ev.relabel σ)) act' (mapCl σ cl') ∧
      (Unamb d0' act cl evs → Unamb d0 act (mapCl σ cl) (evs.map (Ev.relabel σ))) := by
  induction r with
  | nil => exact ⟨AvgRun.nil _ _, fun _ => True.intro⟩
  | cons act cl a b evs act' cl' ha hb hab hmin _ ih =>
    obtain ⟨ih1, ih2⟩ := ih (h.merge hb)
    rw [← memAfter_mapCl] at ih1 ih2
    have e : ∀ j k, j ∈ act → k ∈ act → avgLink d0' (cl j) (cl k) = avgLink d0 (mapCl σ cl j) (mapCl σ cl k) :=
      fun j k hj hk => avgLink_relabel hd (h j hj) (h k hk)
    constructor
    · have := AvgRun.cons act (mapCl σ cl) a b _ act' (mapCl σ cl') ha hb hab
        (fun j k hj hk hjk => by rw [← e a b ha hb, ← e j k hj hk]; exact hmin j k hj hk hjk) ih1
      simp only [List.map_cons, Ev.relabel]
      rw [e a b ha hb]
      exact this
    · rintro ⟨ua, u'⟩
      refine ⟨fun j k hj hk hjk he => ua j k hj hk hjk ?_, ih2 u'⟩
      show avgLink d0' (cl j) (cl k) = avgLink d0' (cl a) (cl b)
      rw [e a b ha hb, e j k hj hk]
      exact he


theorem EvSame.symm {e1 e2 : Ev} (h : EvSame e1 e2) : EvSame e2 e1 := ⟨h.1.symm, h.2.symm⟩

theorem All2.of_map_left {α β γ : Type} {R : γ → β → Prop} (f : α → γ) : ∀ {l1 : List α} {l2 : List β},
    All2 R (l1.map f) l2 → All2 (fun a b => R (f a) b) l1 l2
  | [], _, h => by cases h; exact All2.nil
  | _ :: _, _, h => by
    cases h with
    | cons hr ht => exact All2.cons hr (All2.of_map_left f ht)

/-- `σ` permutes the indices `0 .. n-1` -/
def IsPermOf (n : Nat) (σ : Nat → Nat) : Prop := ((List.range n).map σ).Perm (List.range n)

theorem IsPermOf.lt {n : Nat} {σ : Nat → Nat} (h : IsPermOf n σ) {i : Nat} (hi : i < n) : σ i < n := by
  have : σ i ∈ (List.range n).map σ := List.mem_map.2 ⟨i, List.mem_range.2 hi, rfl⟩
  exact List.mem_range.1 (h.mem_iff.1 this)

theorem IsPermOf.surj {n : Nat} {σ : Nat → Nat} (h : IsPermOf n σ) {j : Nat} (hj : j < n) : ∃ i, i < n ∧ σ i = j := by
  obtain ⟨i, hi, e⟩ := List.mem_map.1 (h.mem_iff.2 (List.mem_range.2 hj))
  exact ⟨i, List.mem_range.1 hi, e⟩

theorem IsPermOf.inj {n : Nat} {σ : Nat → Nat} (h : IsPermOf n σ) {i j : Nat} (hi : i < n) (hj : j < n)
    (e : σ i = σ j) : i = j :=
  List.inj_of_nodup_map σ _ (h.symm.nodup List.nodup_range) i (List.mem_range.2 hi) j (List.mem_range.2 hj) e

theorem singletons_relabel {n : Nat} {σ : Nat → Nat} (h : IsPermOf n σ) :
    WFC (List.range n) (mapCl σ (fun i => [i])) ∧
    StEqv (List.range n) (mapCl σ (fun i => [i])) (List.range n) (fun i => [i]) := by
  refine ⟨⟨List.nodup_range, fun i _ => by simp [mapCl], ?_⟩, ?_, ?_⟩
  · intro i j hi hj hij x hx hx'
    simp only [mapCl, List.map_cons, List.map_nil, List.mem_singleton] at hx hx'
    exact hij (h.inj (List.mem_range.1 hi) (List.mem_range.1 hj) (hx.symm.trans hx'))
  · intro i hi
    exact ⟨σ i, List.mem_range.2 (h.lt (List.mem_range.1 hi)), by simp [mapCl]⟩
  · intro j hj
    obtain ⟨i, hi, e⟩ := h.surj (List.mem_range.1 hj)
    exact ⟨i, List.mem_range.2 hi, by simp [mapCl, e]⟩

/-- the index-free content of an event of a run on the reordered matrix, read back in the original taxon order -/
def EvSameVia (σ : Nat → Nat) (e' e : Ev) : Prop :=
  ((e'.A ++ e'.B).map σ).Perm (e.A ++ e.B) ∧ e'.height = e.height

theorem taxon_order_invariance_on {d0 d0' : Nat → Nat → Rat} {n : Nat} {σ : Nat → Nat} (hσ : IsPermOf n σ)
    (hd : ∀ x y, x < n → y < n → d0' x y = d0 (σ x) (σ y))
    {evs evs' : List Ev} {k k' : Nat} {cl cl' : Nat → List Nat}
    (r : AvgRun d0 (List.range n) (fun i => [i]) evs [k] cl)
    (r' : AvgRun d0' (List.range n) (fun i => [i]) evs' [k'] cl')
    (u : Unamb d0 (List.range n) (fun i => [i]) evs ∨ Unamb d0' (List.range n) (fun i => [i]) evs') :
    All2 (EvSameVia σ) evs' evs := by
  obtain ⟨rr, ur⟩ := r'.relabel hd (MemP.singletons n)
  obtain ⟨w', e'⟩ := singletons_relabel hσ
  have w : WFC (List.range n) (fun i => [i]) := WFC.singletons List.nodup_range
  have hlen : (evs'.map (Ev.relabel σ)).length = evs.length := by
    have h1 := r.length; have h2 := r'.length
    simp only [List.length_cons, List.length_nil] at h1 h2
    rw [List.length_map]; omega
  have key : All2 EvSame (evs'.map (Ev.relabel σ)) evs := by
    rcases u with u | u
    · exact (avgRun_deterministic_one rr r u w' w e' hlen).1
    · exact ((avgRun_deterministic_one r rr (ur u) w w' e'.symm hlen.symm).1.flip).imp (fun _ _ h => h.symm)
  have := All2.of_map_left (Ev.relabel σ) key
  refine this.imp ?_
  intro a b hab
  refine ⟨?_, hab.2⟩
  have h1 := hab.1
  simp only [Ev.relabel] at h1
  rw [List.map_append]; exact h1

end UPG
