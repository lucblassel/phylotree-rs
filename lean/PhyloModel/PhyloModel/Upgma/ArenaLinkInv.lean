import PhyloModel.Upgma.ArenaLinkOps
import PhyloModel.Upgma.ClampAlways
/-! # C15 / C03 — the invariant that ties the arena of `upgma()` to the numeric loop

`SInv taxa s`: the arena is well formed with the single root 0; `node_ids[i]`, for the unmerged indices `i`, are exactly the
children of slot 0, in the order of `rootKids`; slot `node_ids[i]` represents the cluster tree `clusters[i]` (lengths
aside); no slot is removed; slots `1..n` are the tips in taxon order; every later slot is an unnamed node with two
children.  One iteration of the loop keeps it and the `merge_children` call cannot refuse. -/
namespace UPG
open AR MX Tri MXS

/-- "is not slot 0" -/
def NZ : Nat → Prop := fun x => x ≠ 0

structure SInv (taxa : List String) (s : ShSt) : Prop where
  lite : Lite taxa.length s.st
  rkA : ∀ i, i ∈ actOf taxa.length s.st → i ∈ s.st.rootKids
  rkL : s.st.rootKids.length = s.st.nClusters
  good : Good s.ar
  one : AtMostOneRoot s.ar
  szI : s.ids.size = taxa.length
  szK : s.st.clusters.size = taxa.length
  live0 : live s.ar 0
  par0 : (nd s.ar 0).parent = none
  name0 : (nd s.ar 0).name = none
  kids : (nd s.ar 0).children = s.st.rootKids.map (fun i => s.ids.getD i 0)
  rep : ∀ i, i ∈ actOf taxa.length s.st → RepU s.ar NZ (s.ids.getD i 0) (s.st.clusters.getD i default)
  size : s.ar.size + s.st.nClusters = 2 * taxa.length + 1
  nodel : ∀ i, i < s.ar.size → (nd s.ar i).deleted = false
  tips : ∀ i, i < taxa.length → (nd s.ar (i + 1)).name = some (nameOf taxa i) ∧ (nd s.ar (i + 1)).children = []
  inner : ∀ i, taxa.length < i → i < s.ar.size → (nd s.ar i).children.length = 2 ∧ (nd s.ar i).name = none

theorem actOf_length_le (n : Nat) (st : St) : (actOf n st).length ≤ n := by
  unfold actOf
  have := List.length_filter_le (fun i => !(st.merged.getD i true)) (List.range n)
  simpa using this

theorem SInv.ids_inj {taxa : List String} {s : ShSt} (hI : SInv taxa s) :
    ∀ x y, x ∈ s.st.rootKids → y ∈ s.st.rootKids → s.ids.getD x 0 = s.ids.getD y 0 → x = y := by
  have hn := hI.good.1.nodup 0
  rw [hI.kids] at hn
  exact fun x y hx hy => List.inj_of_nodup_map _ _ hn x hx y hy

theorem SInv.kid_mem {taxa : List String} {s : ShSt} (hI : SInv taxa s) {i : Nat} (hi : i ∈ actOf taxa.length s.st) :
    s.ids.getD i 0 ∈ (nd s.ar 0).children := by
  rw [hI.kids]; exact List.mem_map.2 ⟨i, hI.rkA i hi, rfl⟩

theorem SInv.kid_ne0 {taxa : List String} {s : ShSt} (hI : SInv taxa s) {c : Nat} (hc : c ∈ (nd s.ar 0).children) : c ≠ 0 := by
  intro e
  have := (hI.good.1.child_ok 0 c hI.live0 hc).2.1
  rw [e, hI.par0] at this
  cases this

theorem length_erase_erase_append {l : List Nat} {a b : Nat} (ha : a ∈ l) (hb : b ∈ l.erase a) :
    ((l.erase a).erase b ++ [a]).length = l.length - 1 := by
  have := List.length_pos_of_mem hb
  rw [List.length_append, List.length_erase_of_mem hb, List.length_erase_of_mem ha] at *
  simp only [List.length_cons, List.length_nil]
  omega

theorem stepShape_inv {taxa : List String} {s : ShSt} (hI : SInv taxa s) {st' : St} (hs : stepC s.st = .ok st') :
    ∃ s', stepShape s = .ok s' ∧ s'.st = st' ∧ SInv taxa s' := by
  have hL := hI.lite
  -- arithmetic first, while the context is small (`omega` looks at every hypothesis)
  have hnsz : taxa.length < s.ar.size := by
    have := hI.size; have := actOf_length_le taxa.length s.st; have := hL.ncl; omega
  have h0ne : ¬ (0 = s.ar.size) := by omega
  obtain ⟨hL', rN⟩ := stepC_lite hL hs
  obtain ⟨a, b, dab, hmin, hla, hlb, rM, rK, rR, _⟩ := stepC_ok_fields s.st st' hs
  have hab : a ≠ b := Nat.ne_of_gt (minCell_some hmin).1
  have han : a < taxa.length := by rw [← hL.szM]; exact getD_lt_of_ne s.st.merged a true (by rw [hla]; simp)
  have hbn : b < taxa.length := by rw [← hL.szM]; exact getD_lt_of_ne s.st.merged b true (by rw [hlb]; simp)
  have haa : a ∈ actOf taxa.length s.st := mem_actOf.2 ⟨han, hla⟩
  have hba : b ∈ actOf taxa.length s.st := mem_actOf.2 ⟨hbn, hlb⟩
  obtain ⟨_, hact, _, hrk⟩ := flags_step hL.szM hL.rkN hlb rM rR
  have hark : a ∈ s.st.rootKids := hI.rkA a haa
  have hbrk : b ∈ s.st.rootKids := hI.rkA b hba
  have hbin : b ∈ s.st.rootKids.erase a := (List.Nodup.mem_erase_iff hL.rkN).2 ⟨fun e => hab e.symm, hbrk⟩
  have hrkL : st'.rootKids.length = st'.nClusters := by
    rw [rR, rN, ← hI.rkL]; exact length_erase_erase_append hark hbin
  have hsize' : s.ar.size + 1 + st'.nClusters = 2 * taxa.length + 1 := by
    have h1 : 1 ≤ s.st.nClusters := by rw [← hI.rkL]; exact List.length_pos_of_mem hark
    rw [rN, Nat.add_assoc, Nat.add_sub_cancel' h1]; exact hI.size
  have hm1 := hI.kid_mem haa
  have hm2 := hI.kid_mem hba
  have h12 : s.ids.getD a 0 ≠ s.ids.getD b 0 := fun e => hab (hI.ids_inj a b hark hbrk e)
  obtain ⟨ar', hmc, g', hsz, hdel, hname, hch, hpar⟩ :=
    mergeChildren_under 0 (s.ids.getD a 0) (s.ids.getD b 0) (some 0) (some 0) none none hI.good hI.live0 hm1 hm2 h12
  have hold : ∀ i, i < ar'.size → ¬ i = s.ar.size → i < s.ar.size := fun i hi h => by
    rw [hsz] at hi; exact Nat.lt_of_le_of_ne (Nat.le_of_lt_succ hi) h
  have hc1 : ¬ (0 = s.ids.getD a 0) := fun e => hI.kid_ne0 hm1 e.symm
  have hc2 : ¬ (0 = s.ids.getD b 0) := fun e => hI.kid_ne0 hm2 e.symm
  have hone : AtMostOneRoot ar' := by
    have := mergeChildren_roots (s.ids.getD a 0) (s.ids.getD b 0) (some 0) (some 0) none none hI.good hI.one
    rw [hmc] at this
    exact this.atMostOne hI.one
  have hnew : live ar' s.ar.size := ⟨by rw [hsz]; exact Nat.lt_succ_self _, by rw [hdel, if_pos rfl]⟩
  have hframe : ∀ y, NZ y → live s.ar y →
      live ar' y ∧ (nd ar' y).name = (nd s.ar y).name ∧ (nd ar' y).children = (nd s.ar y).children := by
    intro y hy hl
    have h1 : ¬ (y = s.ar.size) := Nat.ne_of_lt hl.1
    refine ⟨⟨by rw [hsz]; exact Nat.lt_succ_of_lt hl.1, ?_⟩, ?_, ?_⟩
    · rw [hdel y, if_neg h1]; exact hl.2
    · rw [hname y, if_neg h1]
    · rw [hch y, if_neg h1, if_neg hy]
  have hidsne : ∀ i, i ≠ a → (s.ids.setIfInBounds a s.ar.size).getD i 0 = s.ids.getD i 0 := by
    intro i hi
    rw [getD_set, if_neg (fun e => hi e.1.symm)]
  have hidsa : (s.ids.setIfInBounds a s.ar.size).getD a 0 = s.ar.size := by
    rw [getD_set, if_pos ⟨rfl, by rw [hI.szI]; exact han⟩]
  refine ⟨{ st := st', ar := ar', ids := s.ids.setIfInBounds a s.ar.size }, ?_, rfl, ?_⟩
  · unfold stepShape
    rw [hs]
    simp only
    rw [hmin]
    simp only
    rw [hmc]
  · constructor
    · exact hL'
    · intro i hi
      rw [hact, List.Nodup.mem_erase_iff (actOf_nodup _ _)] at hi
      exact (hrk i).2 (Or.inl ⟨hI.rkA i hi.2, hi.1⟩)
    · exact hrkL
    · exact g'
    · exact hone
    · show (s.ids.setIfInBounds a s.ar.size).size = taxa.length
      rw [Array.size_setIfInBounds]; exact hI.szI
    · show st'.clusters.size = taxa.length
      rw [rK, Array.size_setIfInBounds]; exact hI.szK
    · exact ⟨by rw [hsz]; exact Nat.lt_succ_of_lt hI.live0.1, by rw [hdel 0, if_neg h0ne]; exact hI.live0.2⟩
    · show (nd ar' 0).parent = none
      rw [hpar 0, if_neg h0ne, if_neg (fun h => h.elim hc1 hc2)]; exact hI.par0
    · show (nd ar' 0).name = none
      rw [hname 0, if_neg h0ne]; exact hI.name0
    · show (nd ar' 0).children = st'.rootKids.map (fun i => (s.ids.setIfInBounds a s.ar.size).getD i 0)
      rw [hch 0, if_neg h0ne, if_pos rfl, hI.kids, rR, List.map_append, List.map_cons, List.map_nil, hidsa]
      congr 1
      rw [map_erase_of_inj (fun i => s.ids.getD i 0) a s.st.rootKids (fun y hy e => hI.ids_inj y a hy hark e),
        map_erase_of_inj (fun i => s.ids.getD i 0) b (s.st.rootKids.erase a)
          (fun y hy e => hI.ids_inj y b (List.mem_of_mem_erase hy) hbrk e)]
      apply List.map_congr_left
      intro i hi
      refine (hidsne i (fun e => ?_)).symm
      rw [e] at hi
      exact ((List.Nodup.mem_erase_iff hL.rkN).1 (List.mem_of_mem_erase hi)).1 rfl
    · intro i hi
      rw [hact, List.Nodup.mem_erase_iff (actOf_nodup _ _)] at hi
      show RepU ar' NZ ((s.ids.setIfInBounds a s.ar.size).getD i 0) (st'.clusters.getD i default)
      by_cases hia : i = a
      · -- the new node: unnamed, its two children are the slots of the two merged clusters, which are framed
        rw [hia, hidsa, rK, getD_set, if_pos ⟨rfl, by rw [hI.szK]; exact han⟩, mergeTrees, repU_node]
        refine ⟨fun e => h0ne e.symm, hnew, by rw [hname, if_pos rfl], ?_⟩
        rw [hch, if_pos rfl, repUL_cons, repUL_cons]
        exact ⟨repU_setLen _ (repU_frame (fun _ h => h) hframe _ _ (hI.rep a haa)),
          repU_setLen _ (repU_frame (fun _ h => h) hframe _ _ (hI.rep b hba)), repUL_nil⟩
      · rw [hidsne i hia, rK, getD_set, if_neg (fun e => hia e.1.symm)]
        exact repU_frame (fun _ h => h) hframe _ _ (hI.rep i hi.2)
    · show ar'.size + st'.nClusters = 2 * taxa.length + 1
      rw [hsz]; exact hsize'
    · intro i hi
      rw [hdel i]
      split
      · rfl
      · next h => exact hI.nodel i (hold i hi h)
    · intro i hi
      have h1 : ¬ (i + 1 = s.ar.size) := Nat.ne_of_lt (Nat.lt_of_le_of_lt hi hnsz)
      rw [hname, hch, if_neg h1, if_neg h1, if_neg (Nat.succ_ne_zero i)]
      exact hI.tips i hi
    · intro i hi1 hi2
      rw [hname, hch]
      by_cases h1 : i = s.ar.size
      · simp [h1]
      · rw [if_neg h1, if_neg h1, if_neg (Nat.ne_of_gt (Nat.lt_of_le_of_lt (Nat.zero_le _) hi1))]
        exact hI.inner i hi1 (hold i hi2 h1)

end UPG
