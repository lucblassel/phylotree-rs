import PhyloModel.Upgma.ArenaLinkBase
/-! # C15 / C03 — the arena call of the loop of `upgma()`, slot by slot

`merge_children` of two different children of a live node: which slots change, and how (liveness, name, child list,
parent).  (`add_child` of a tip is `AR.addChildNamed_ok`.) -/
namespace UPG
open AR

theorem setCedge_name' (n : Node) (c : Nat) (e : Option Int) : (setCedge n c e).name = n.name :=
  setCedge_name n c e

/-! ## `merge_children` on two different children of a live node -/

theorem mergeChildren_under {a : Arena} (q c1 c2 : Nat) (e1 e2 pe : Option Int) (name : Option String) (g : Good a)
    (hlq : live a q) (hm1 : c1 ∈ (nd a q).children) (hm2 : c2 ∈ (nd a q).children) (h12 : c1 ≠ c2) :
    ∃ a', mergeChildren a c1 c2 e1 e2 pe name = (a', .ok (some a.size)) ∧ Good a' ∧ a'.size = a.size + 1 ∧
      (∀ i, (nd a' i).deleted = if i = a.size then false else (nd a i).deleted) ∧
      (∀ i, (nd a' i).name = if i = a.size then name else (nd a i).name) ∧
      (∀ i, (nd a' i).children = if i = a.size then [c1, c2]
          else if i = q then ((nd a q).children.erase c1).erase c2 ++ [a.size] else (nd a i).children) ∧
      (∀ i, (nd a' i).parent = if i = a.size then some q
          else if i = c1 ∨ i = c2 then some a.size else (nd a i).parent) := by
  obtain ⟨hl1, hp1, _⟩ := g.1.child_ok q c1 hlq hm1
  obtain ⟨hl2, hp2, _⟩ := g.1.child_ok q c2 hlq hm2
  obtain ⟨b1, b2, r1, r2, g2, s⟩ := group_core q c1 c2 pe e1 e2 g hlq hm1 hm2 h12
  have hs := (setName_same b2 a.size name).2
  -- `set_name` writes the name of the fresh slot
  have hn : ∀ i, (nd (setName b2 a.size name) i).name = if i = a.size then name else (nd a i).name := fun i => by
    rw [setName, nd_set, s.size]
    by_cases h0 : i = a.size
    · rw [if_pos ⟨h0, Nat.lt_succ_self _⟩, if_pos h0]
    · rw [if_neg fun k => h0 k.1, if_neg h0, s.name, if_neg h0]
  refine ⟨setName b2 a.size name, ?_, setName_good _ _ g2, by rw [(setName_same b2 a.size name).1, s.size],
    fun i => (hs i).2.2.2.2.1.trans (s.deleted i), hn, fun i => (hs i).2.1.trans (s.children i),
    fun i => (hs i).1.trans (s.parent i)⟩
  unfold mergeChildren
  simp only [(isLive_iff _ _).2 hl1, (isLive_iff _ _).2 hl2, (isLive_iff _ _).2 hlq, Bool.not_true,
    Bool.false_eq_true, ↓reduceIte, hp1, hp2, h12, ne_eq, not_true_eq_false, or_self, r1, r2]

end UPG
