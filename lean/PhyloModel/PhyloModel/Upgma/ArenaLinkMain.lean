import PhyloModel.Upgma.ArenaLinkLoop
import PhyloModel.Arena.AbsRose
import PhyloModel.Upgma.Shape
/-! # C15 / C03 — the arena `upgma()` returns, against the tree of the numeric model

The run is taken apart into set-up, loop and final join (`upgmaShape_decomp`); a successful run leaves the arena of the
loop invariant with two lengths written (`upgmaShape_ok_inv`), so the arena is well formed with root slot 0
(`upgmaShape_good`) and its abstraction `absRoot`, ids and lengths erased, is the tree of `upgmaC`, lengths erased, names
and the ORDER of the children under every node included (`upgmaShape_represents`). -/
namespace UPG
open AR MX Tri MXS

/-- the outcome of a run with the payload forgotten -/
def Res.outcome {β : Type} : Res β → Res Unit
  | .ok _ => .ok ()
  | .err k => .err k
  | .panic => .panic

theorem Res.outcome_ok {β : Type} (x : β) : (Res.ok x).outcome = .ok () := rfl

theorem Res.ok_iff_outcome {β : Type} (r : Res β) : (∃ x, r = .ok x) ↔ r.outcome = .ok () := by
  cases r <;> simp [Res.outcome]

theorem finishShape_outcome (f : Rat → Rat) (n : Nat) (s : ShSt) :
    (finishShape n s).outcome = (finish f n s.st).outcome := by
  unfold finishShape finish actOf
  cases (List.range n).filter (fun i => !(s.st.merged.getD i true)) with
  | nil => rfl
  | cons ai l =>
    cases l with
    | nil => rfl
    | cons bi _ =>
      dsimp only
      cases s.st.dm.getD (cell ai bi) none with
      | none => rfl
      -- `rfl` here would compare the two payloads before looking at `outcome`
      | some _ => exact (Res.outcome_ok _).trans (Res.outcome_ok _).symm


theorem upgmaShape_decomp (taxa : List String) (v : Array Rat) :
    (∀ st, loopC taxa.length (initSt taxa v) = .ok st →
      ∃ s, SInv taxa s ∧ s.st = st ∧ upgmaShape taxa v = finishShape taxa.length s) ∧
    (∀ k, loopC taxa.length (initSt taxa v) = .err k → upgmaShape taxa v = .err k) ∧
    (loopC taxa.length (initSt taxa v) = .panic → upgmaShape taxa v = .panic) := by
  obtain ⟨s0, h0, hst0, hI0⟩ := initShape_inv taxa v
  obtain ⟨k1, k2, k3⟩ := loopShape_inv taxa taxa.length s0 hI0
  rw [hst0] at k1 k2 k3
  refine ⟨?_, ?_, ?_⟩
  · intro st hl
    obtain ⟨s, hs, he, hI⟩ := k1 st hl
    refine ⟨s, hI, he, ?_⟩
    unfold upgmaShape; rw [h0]; simp only; rw [hs]
  · intro k hl
    unfold upgmaShape; rw [h0]; simp only; rw [k2 k hl]
  · intro hl
    unfold upgmaShape; rw [h0]; simp only; rw [k3 hl]


/-- same liveness, names, child lists and parents in every slot -/
structure SameSkel (a b : Arena) : Prop where
  size : b.size = a.size
  deleted : ∀ i, (nd b i).deleted = (nd a i).deleted
  name : ∀ i, (nd b i).name = (nd a i).name
  children : ∀ i, (nd b i).children = (nd a i).children
  parent : ∀ i, (nd b i).parent = (nd a i).parent

theorem SameSkel.live_iff {a b : Arena} (h : SameSkel a b) (i : Nat) : live b i ↔ live a i := by
  simp only [live, h.size, h.deleted]

theorem SameSkel.trans {a b c : Arena} (h1 : SameSkel a b) (h2 : SameSkel b c) : SameSkel a c :=
  ⟨by rw [h2.size, h1.size], fun i => by rw [h2.deleted, h1.deleted], fun i => by rw [h2.name, h1.name],
   fun i => by rw [h2.children, h1.children], fun i => by rw [h2.parent, h1.parent]⟩

theorem writeLen_skel {a : Arena} (g : Good a) {x p : Nat} (hlp : live a p) (hm : x ∈ (nd a p).children) (v : Int) :
    Good (writeLen a x p v) ∧ SameSkel a (writeLen a x p v) := by
  obtain ⟨hlx, hpx, hdx, _⟩ := g.1.child_ok p x hlp hm
  have hne : p ≠ x := by intro h; subst h; omega
  have e : writeLen a x p v = setLen a x p v := rfl
  rw [e]
  have hnd : ∀ i, (nd (setLen a x p v) i).deleted = (nd a i).deleted ∧ (nd (setLen a x p v) i).name = (nd a i).name ∧
      (nd (setLen a x p v) i).children = (nd a i).children ∧ (nd (setLen a x p v) i).parent = (nd a i).parent := by
    intro i
    rw [nd_setLen a x p v hlx.1 hlp.1 hne i]
    by_cases h1 : i = p
    · subst h1; simp
    · by_cases h2 : i = x
      · subst h2; simp [h1]
      · simp [h1, h2]
  exact ⟨setLen_good g hlx hpx v, setLen_size a x p v, fun i => (hnd i).1, fun i => (hnd i).2.1,
    fun i => (hnd i).2.2.1, fun i => (hnd i).2.2.2⟩

theorem upgmaShape_ok_inv (taxa : List String) (v : Array Rat) (A : Arena) (h : upgmaShape taxa v = .ok A) :
    ∃ s ai bi dab, SInv taxa s ∧ loopC taxa.length (initSt taxa v) = .ok s.st ∧
      actOf taxa.length s.st = [ai, bi] ∧ s.st.nClusters = 2 ∧ s.st.dm.getD (cell ai bi) none = some dab ∧
      Good A ∧ SameSkel s.ar A := by
  obtain ⟨k1, k2, k3⟩ := upgmaShape_decomp taxa v
  cases hl : loopC taxa.length (initSt taxa v) with
  | err k => rw [k2 k hl] at h; cases h
  | panic => rw [k3 hl] at h; cases h
  | ok st =>
    obtain ⟨s, hI, he, hu⟩ := k1 st hl
    subst he
    rw [hu] at h
    unfold finishShape at h
    split at h
    · next ai bi rest hact =>
      split at h
      · next dab hd =>
        have hact' : actOf taxa.length s.st = ai :: bi :: rest := hact
        obtain ⟨hrest, hn2⟩ := (loopC_done hl).2 hact'
        subst hrest
        have hai : ai ∈ actOf taxa.length s.st := by rw [hact']; simp
        have hbi : bi ∈ actOf taxa.length s.st := by rw [hact']; simp
        obtain ⟨g1, s1⟩ := writeLen_skel hI.good hI.live0 (hI.kid_mem hai) 0
        have hl1 : live (writeLen s.ar (s.ids.getD ai 0) 0 0) 0 := (s1.live_iff 0).2 hI.live0
        obtain ⟨g2, s2⟩ := writeLen_skel g1 hl1 (by rw [s1.children]; exact hI.kid_mem hbi) 0
        injection h with h
        subst h
        exact ⟨s, ai, bi, dab, hI, rfl, hact', hn2, hd, g2, s1.trans s2⟩
      · cases h
    · cases h

theorem SameSkel.repU {a b : Arena} (h : SameSkel a b) {P Q : Nat → Prop} (hPQ : ∀ y, P y → Q y) {x : Nat} {u : URose}
    (hr : RepU a P x u) : RepU b Q x u :=
  repU_frame hPQ (fun y _ hl => ⟨(h.live_iff y).2 hl, h.name y, h.children y⟩) u x hr

theorem upgmaShape_good (taxa : List String) (v : Array Rat) (A : Arena) (h : upgmaShape taxa v = .ok A) :
    Good A ∧ AtMostOneRoot A ∧ getRoot A = some 0 := by
  obtain ⟨s, ai, bi, dab, hI, _, _, _, _, g, sk⟩ := upgmaShape_ok_inv taxa v A h
  have h1 : AtMostOneRoot A := by
    intro i j hi hj
    exact hI.one i j ⟨(sk.live_iff i).1 hi.1, by rw [← sk.parent]; exact hi.2⟩
      ⟨(sk.live_iff j).1 hj.1, by rw [← sk.parent]; exact hj.2⟩
  have hl0 : live A 0 := (sk.live_iff 0).2 hI.live0
  have hr0 : isRoot A 0 := ⟨hl0, by rw [sk.parent]; exact hI.par0⟩
  obtain ⟨r, hroot, hget, _, _⟩ := one_tree g.1 h1 0 hl0
  rw [h1 0 r hr0 hroot]
  exact ⟨g, h1, hget⟩

theorem upgmaShape_represents (taxa : List String) (v : Array Rat) (A : Arena) (h : upgmaShape taxa v = .ok A) :
    ∃ t u m tie dy, absRoot A = .ok t ∧ upgmaC taxa v = .ok (u, m, tie, dy) ∧ eraseLen (erase t) = u.shape := by
  obtain ⟨s, ai, bi, dab, hI, hl, hact, _, hd, g, sk⟩ := upgmaShape_ok_inv taxa v A h
  obtain ⟨_, h1, hget⟩ := upgmaShape_good taxa v A h
  have hl0 : live A 0 := (sk.live_iff 0).2 hI.live0
  obtain ⟨t, ht⟩ := absRoot_total g.1 h1 0 hl0
  obtain ⟨r, t0, c⟩ := absRoot_ctx g.1 h1 ht
  have hr : r = 0 := by
    have := c.root_eq; rw [hget] at this; injection this with this; exact this.symm
  subst hr
  have hup := (upgmaC_of_loop hl).trans (finish_ok hact hd)
  refine ⟨t, _, _, _, _, ht, hup, ?_⟩
  rw [c.dec]
  apply repU_shape (P := fun _ => True) _ t0 0 _ c.rep
  rw [repU_node]
  refine ⟨trivial, hl0, by rw [sk.name]; exact hI.name0, ?_⟩
  rw [sk.children, hI.kids]
  apply repUL_map
  intro i hi
  have hia := hI.lite.rkM i hi
  have hr := sk.repU (Q := fun _ => True) (fun _ _ => trivial) (hI.rep i hia)
  rw [finalKid_eq _ _ _ (by simpa [hact] using hia)]
  exact repU_setLen _ hr

end UPG
