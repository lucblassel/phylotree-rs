import PhyloModel.Upgma.LoopInv
/-! # C15 — the tree returned by the executable UPGMA model is ultrametric (equidistant leaves)

Invariant (`DepthQ`, an instance of the per-cluster invariant of the master theorem): every leaf of the cluster tree
standing for a live index `i` lies exactly `heights[i]` below the cluster node.  Consequence: all leaves of the returned
tree are at one and the same distance from the root (in `C15.upgma_tree`). -/
namespace UPG
open MX Tri MXS

def DepthQ (t : URose) (_A : List Nat) (h : Rat) : Prop := ∀ d, d ∈ leafDepths t → d = h

theorem qmerge_depth : QMerge DepthQ := by
  intro ta tb A B ha hb h qa qb _ _ _ _ d hd
  rw [leafDepths_merge] at hd
  simp only [List.mem_append, List.mem_map] at hd
  rcases hd with ⟨x, hx, e⟩ | ⟨x, hx, e⟩
  · have := qa x hx; grind
  · have := qb x hx; grind

theorem qinit_depth (taxa : List String) : QInit DepthQ taxa := by
  intro i _ d hd
  rw [leafDepths_leaf] at hd
  simpa using hd

mutual
theorem leafDepths_length : ∀ t : URose, (leafDepths t).length = (leafNames t).length
  | .node n l ks => by
    rw [leafDepths, leafNames]
    by_cases h : ks.isEmpty = true
    · rw [if_pos h, if_pos h]; rfl
    · rw [if_neg h, if_neg h]; exact leafDepthsL_length ks
theorem leafDepthsL_length : ∀ ks : List URose, (leafDepthsL ks).length = (leafNamesL ks).length
  | [] => by rw [leafDepthsL_nil, leafNamesL_nil]; rfl
  | k :: ks => by
    rw [leafDepthsL_cons, leafNamesL_cons, List.length_append, List.length_append, List.length_map,
      leafDepths_length k, leafDepthsL_length ks]
end

theorem loop_depths (taxa : List String) (v : Array Rat) (h2 : 2 ≤ taxa.length) (hv : v.size = T taxa.length)
    (hpos : ∀ k, k < v.size → 0 ≤ v.getD k 0) :
    ∃ st, loop taxa.length (initSt taxa v) = .ok st ∧
      ∀ i, i < taxa.length → st.merged.getD i true = false →
        ∀ d, d ∈ leafDepths (st.clusters.getD i default) → d = st.heights.getD i 0 := by
  obtain ⟨st, mem, _, _, hl, hrun, _⟩ := upgma_run taxa v h2 hv hpos
  exact ⟨st, hl, hrun.cinv qmerge_depth (init_cinv taxa v (qinit_depth taxa))⟩

/-- non-vacuity: the hypotheses hold for a concrete input (`#eval` of the model on it: depths `2 2 2`) -/
example : 2 ≤ ["a", "b", "c"].length ∧ (#[2, 4, 4] : Array Rat).size = T ["a", "b", "c"].length ∧
    ∀ k, k < (#[2, 4, 4] : Array Rat).size → 0 ≤ (#[2, 4, 4] : Array Rat).getD k 0 := hyps_example

end UPG
