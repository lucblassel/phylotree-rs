import PhyloModel.Upgma.RefineBase
/-! # C15 — the matrix after the update loop of one UPGMA iteration, row by row

Pass `x` of the inner `for x` loop writes only the cells of the pairs `{a, x}` and `{b, x}` (`dmBody_cell`, by the
read-after-write law of the triangular store, `MX.getD_set_cell`).  So what is read at the cell of a pair after the whole
loop is what the one pass that can write there left (`dmFold_getD`): the row of `b` is retired, the row of `a` holds the
weighted means, every other cell is untouched. -/
namespace UPG
open MX Tri MXS

theorem dmBody_eq (old : Array Cell) (mg : Array Bool) (ca cb : Rat) (a b : Nat) (acc : Array Cell) (x : Nat) :
    dmBody old mg ca cb a b acc x =
      if mg.getD x true = true then acc else if x = b then acc
      else if x = a then acc.setIfInBounds (cell b x) none
      else (acc.setIfInBounds (cell a x) (newCell old ca cb a b x)).setIfInBounds (cell b x) none := by
  unfold dmBody
  by_cases hm : mg.getD x true = true
  · simp [hm]
  · by_cases hxb : x = b
    · simp [hxb]
    · by_cases hxa : x = a
      · simp [hxa]
      · simp [hm, hxb, hxa]

theorem dmBody_size (old : Array Cell) (mg : Array Bool) (ca cb : Rat) (a b : Nat) (acc : Array Cell) (x : Nat) :
    (dmBody old mg ca cb a b acc x).size = acc.size := by
  rw [dmBody_eq]
  repeat' split
  all_goals simp only [Array.size_setIfInBounds]

theorem dmFold_size (old : Array Cell) (mg : Array Bool) (ca cb : Rat) (a b : Nat) (m : Nat) :
    ((List.range m).foldl (dmBody old mg ca cb a b) old).size = old.size := by
  induction m with
  | zero => rfl
  | succ m ih => rw [List.range_succ, List.foldl_append, List.foldl_cons, List.foldl_nil, dmBody_size, ih]

section
variable (old : Array Cell) (mg : Array Bool) (ca cb : Rat) {a b n : Nat}

/-- what pass `x` leaves in the cell of the pair `{i, j}` -/
theorem dmBody_cell (ha : a < n) (hb : b < n) (acc : Array Cell) (hsz : acc.size = T n) {x i j : Nat} (hx : x < n)
    (hij : i ≠ j) :
    (dmBody old mg ca cb a b acc x).getD (cell i j) none =
      if mg.getD x true = false ∧ x ≠ b ∧ ((i = b ∧ j = x) ∨ (i = x ∧ j = b)) then none
      else if mg.getD x true = false ∧ x ≠ b ∧ x ≠ a ∧ ((i = a ∧ j = x) ∨ (i = x ∧ j = a)) then newCell old ca cb a b x
      else acc.getD (cell i j) none := by
  rw [dmBody_eq]
  by_cases hm : mg.getD x true = true
  · have hm1 : ¬ mg.getD x true = false := by rw [hm]; exact Bool.noConfusion
    rw [if_pos hm, if_neg (fun e => hm1 e.1), if_neg (fun e => hm1 e.1)]
  · have hm' : mg.getD x true = false := by simpa using hm
    rw [if_neg hm]
    by_cases hxb : x = b
    · rw [if_pos hxb, if_neg (fun e => e.2.1 hxb), if_neg (fun e => e.2.1 hxb)]
    · have hbx : cell b x < T n := cell_lt (Ne.symm hxb) hb hx
      have c1 : ∀ p : Prop, (mg.getD x true = false ∧ x ≠ b ∧ p) ↔ p := fun _ => ⟨fun e => e.2.2, fun e => ⟨hm', hxb, e⟩⟩
      simp only [c1]
      rw [if_neg hxb]
      by_cases hxa : x = a
      · have c3 : ¬ (x ≠ a ∧ ((i = a ∧ j = x) ∨ (i = x ∧ j = a))) := fun e => e.1 hxa
        rw [if_pos hxa, getD_set_cell acc none none (Ne.symm hxb) hij (hsz ▸ hbx), if_neg c3]
      · have c2 : ∀ p : Prop, (x ≠ a ∧ p) ↔ p := fun _ => ⟨fun e => e.2, fun e => ⟨hxa, e⟩⟩
        simp only [c2]
        rw [if_neg hxa, getD_set_cell _ none none (Ne.symm hxb) hij (by rw [Array.size_setIfInBounds, hsz]; exact hbx),
          getD_set_cell acc none _ (Ne.symm hxa) hij (hsz ▸ cell_lt (Ne.symm hxa) ha hx)]

variable (hsz : old.size = T n)
include hsz

/-- a position that only pass `x0` can write holds, after `m` passes, what pass `x0` left there -/
theorem dmFold_getD {c x0 : Nat} (hframe : ∀ acc x, acc.size = T n → x < n → x ≠ x0 →
      (dmBody old mg ca cb a b acc x).getD c none = acc.getD c none) :
    ∀ m, m ≤ n → ((List.range m).foldl (dmBody old mg ca cb a b) old).getD c none =
      if x0 < m then (dmBody old mg ca cb a b ((List.range x0).foldl (dmBody old mg ca cb a b) old) x0).getD c none
      else old.getD c none := by
  intro m
  induction m with
  | zero => intro _; rfl
  | succ m ih =>
    intro hm
    rw [List.range_succ, List.foldl_append, List.foldl_cons, List.foldl_nil]
    by_cases hmx : m = x0
    · rw [hmx, if_pos (Nat.lt_succ_self x0)]
    · rw [hframe _ m ((dmFold_size _ _ _ _ _ _ _).trans hsz) hm hmx, ih (Nat.le_of_succ_le hm)]
      have : x0 < m + 1 ↔ x0 < m := by omega
      simp only [this]

theorem dmFold_row_b (ha : a < n) (hb : b < n) {j : Nat} (hj : j < n) (hjb : j ≠ b) :
    ((List.range n).foldl (dmBody old mg ca cb a b) old).getD (cell b j) none =
      if mg.getD j true = false then none else old.getD (cell b j) none := by
  have hframe : ∀ acc x, acc.size = T n → x < n → x ≠ j →
      (dmBody old mg ca cb a b acc x).getD (cell b j) none = acc.getD (cell b j) none := by
    intro acc x hs hx hxj
    rw [dmBody_cell old mg ca cb ha hb acc hs hx (Ne.symm hjb), if_neg, if_neg]
    · exact fun e => e.2.2.2.elim (fun e' => hxj e'.2.symm) (fun e' => e.2.1 e'.1.symm)
    · exact fun e => e.2.2.elim (fun e' => hxj e'.2.symm) (fun e' => e.2.1 e'.1.symm)
  rw [dmFold_getD old mg ca cb hsz hframe n (Nat.le_refl n), if_pos hj,
    dmBody_cell old mg ca cb ha hb _ ((dmFold_size _ _ _ _ _ _ _).trans hsz) hj (Ne.symm hjb)]
  by_cases hm : mg.getD j true = false
  · rw [if_pos ⟨hm, hjb, Or.inl ⟨rfl, rfl⟩⟩, if_pos hm]
  · rw [if_neg (fun e => hm e.1), if_neg (fun e => hm e.1), if_neg hm,
      dmFold_getD old mg ca cb hsz hframe j (Nat.le_of_lt hj), if_neg (Nat.lt_irrefl j)]

theorem dmFold_row_a (hab : a ≠ b) (ha : a < n) (hb : b < n) {j : Nat} (hj : j < n) (hja : j ≠ a) (hjb : j ≠ b) :
    ((List.range n).foldl (dmBody old mg ca cb a b) old).getD (cell a j) none =
      if mg.getD j true = false then newCell old ca cb a b j else old.getD (cell a j) none := by
  have hframe : ∀ acc x, acc.size = T n → x < n → x ≠ j →
      (dmBody old mg ca cb a b acc x).getD (cell a j) none = acc.getD (cell a j) none := by
    intro acc x hs hx hxj
    rw [dmBody_cell old mg ca cb ha hb acc hs hx (Ne.symm hja), if_neg, if_neg]
    · exact fun e => e.2.2.2.elim (fun e' => hxj e'.2.symm) (fun e' => e.2.2.1 e'.1.symm)
    · exact fun e => e.2.2.elim (fun e' => hxj e'.2.symm) (fun e' => hjb e'.2)
  rw [dmFold_getD old mg ca cb hsz hframe n (Nat.le_refl n), if_pos hj,
    dmBody_cell old mg ca cb ha hb _ ((dmFold_size _ _ _ _ _ _ _).trans hsz) hj (Ne.symm hja),
    if_neg (fun e => e.2.2.elim (fun e' => hab e'.1) (fun e' => hja e'.1.symm))]
  by_cases hm : mg.getD j true = false
  · rw [if_pos ⟨hm, hjb, hja, Or.inl ⟨rfl, rfl⟩⟩, if_pos hm]
  · rw [if_neg (fun e => hm e.1), if_neg hm, dmFold_getD old mg ca cb hsz hframe j (Nat.le_of_lt hj),
      if_neg (Nat.lt_irrefl j)]

theorem dmFold_rest (ha : a < n) (hb : b < n) {i j : Nat} (hij : i ≠ j) (hia : i ≠ a) (hib : i ≠ b) (hja : j ≠ a)
    (hjb : j ≠ b) :
    ((List.range n).foldl (dmBody old mg ca cb a b) old).getD (cell i j) none = old.getD (cell i j) none := by
  have hframe : ∀ acc x, acc.size = T n → x < n → x ≠ n →
      (dmBody old mg ca cb a b acc x).getD (cell i j) none = acc.getD (cell i j) none := by
    intro acc x hs hx _
    rw [dmBody_cell old mg ca cb ha hb acc hs hx hij, if_neg, if_neg]
    · exact fun e => e.2.2.2.elim (fun e' => hia e'.1) (fun e' => hja e'.2)
    · exact fun e => e.2.2.elim (fun e' => hib e'.1) (fun e' => hjb e'.2)
  rw [dmFold_getD old mg ca cb hsz hframe n (Nat.le_refl n), if_neg (Nat.lt_irrefl n)]

end

end UPG
