import PhyloModel.Upgma.DeterminismTree
/-! # C15 — the `tie` flag of the executable UPGMA certifies unambiguous minima

`UPG.step` records in the bookkeeping field `tie` whether some chosen minimum was held by more than one cell of the
triangular store.  Retired cells hold infinity and every live cell holds the average linkage of the pair of clusters it
joins, so "`tie` stayed `false`" says that every minimum of the run was unambiguous.  Main results:

* `upgma_tie_free_unamb` — if `UPG.upgma taxa v` returns with `tie = false`, the run of average-linkage clustering it
  performed (`upgmaTr`) satisfies `Unamb`
* `upgma_taxon_order_tie_free` — hence, for the same labelled matrix in any other taxon order, `UPG.upgma` returns a
  tree with the same internal nodes (leaf names below the node as a set, height) -/
namespace UPG
open UP MX Tri MXS

def holds (dab : Rat) : Cell → Bool := fun v => v == some dab

def tiesOf (st : St) (dab : Rat) : Nat := (st.dm.toList.filter (holds dab)).length

/-- two positions of a list satisfying `p` give two elements of the filtered list -/
theorem two_hits {α : Type} (p : α → Bool) (l : List α) (i j : Nat) (x y : α) (hij : i < j)
    (hi : l[i]? = some x) (hj : l[j]? = some y) (px : p x = true) (py : p y = true) : 2 ≤ (l.filter p).length := by
  obtain ⟨hi', rfl⟩ := List.getElem?_eq_some_iff.1 hi
  obtain ⟨hj', rfl⟩ := List.getElem?_eq_some_iff.1 hj
  have hs : List.Sublist [l[i], l[j]] l := by
    simpa using List.map_getElem_sublist (l := l) (is := [⟨i, hi'⟩, ⟨j, hj'⟩]) (by simpa using hij)
  simpa [List.filter_cons, px, py] using (hs.filter p).length_le

theorem toList_get_of_getD {arr : Array Cell} {c : Nat} {v : Rat} (h : arr.getD c none = some v) :
    arr.toList[c]? = some (some v) := by
  simp only [Array.getD_eq_getD_getElem?] at h
  rw [Array.getElem?_toList]
  cases hc : arr[c]? with
  | none => rw [hc] at h; cases h
  | some w => rw [hc] at h; simp only [Option.getD_some] at h; rw [h]

theorem cells_eq_of_ties {st : St} {dab : Rat} (ht : tiesOf st dab ≤ 1) {c1 c2 : Nat}
    (h1 : st.dm.getD c1 none = some dab) (h2 : st.dm.getD c2 none = some dab) : c1 = c2 := by
  apply Classical.byContradiction; intro hne
  have g1 := toList_get_of_getD h1
  have g2 := toList_get_of_getD h2
  have hp : holds dab (some dab) = true := by simp [holds]
  unfold tiesOf at ht
  rcases Nat.lt_or_gt_of_ne hne with hlt | hgt
  · have := two_hits (holds dab) st.dm.toList c1 c2 _ _ hlt g1 g2 hp hp
    omega
  · have := two_hits (holds dab) st.dm.toList c2 c1 _ _ hgt g2 g1 hp hp
    omega

theorem Stepped.unambAt {d0 : Nat → Nat → Rat} {n : Nat} {st st' : St} {mem} {a b : Nat} {dab : Rat}
    (hI : LInv d0 n st mem) (s : Stepped n st st' a b dab) (ht : tiesOf st dab ≤ 1) :
    UnambAt d0 (actOf n st) mem a b := by
  obtain ⟨e1, _⟩ := s.avg_event hI
  have hab := s.ne
  intro j k hj hk hjk he
  obtain ⟨hjn, hjl⟩ := mem_actOf.1 hj
  obtain ⟨hkn, hkl⟩ := mem_actOf.1 hk
  have hv := hI.wf.cell hjn hkn hjk hjl hkl
  rw [show Dof st j k = dab from (link_D_eq hI.link hj hk hjk).trans (he.trans e1.symm)] at hv
  exact cell_inj hjk hab (cells_eq_of_ties ht hv s.hd)

theorem Unamb.append {d0 : Nat → Nat → Rat} {act1 act2 : List Nat} {cl1 cl2 : Nat → List Nat} {e1 e2 : List Ev}
    (r : AvgRun d0 act1 cl1 e1 act2 cl2) (u1 : Unamb d0 act1 cl1 e1) (u2 : Unamb d0 act2 cl2 e2) :
    Unamb d0 act1 cl1 (e1 ++ e2) := by
  induction r with
  | nil => exact u2
  | cons act cl a b evs act' cl' _ _ _ _ _ ih => exact ⟨u1.1, ih u1.2 u2⟩

theorem Run.unamb {d0 : Nat → Nat → Rat} {n : Nat} {st st' : St} {mem mem' : Nat → List Nat} {evs : List Ev}
    (r : Run d0 n st mem evs st' mem') (ht : st'.tie = false) :
    st.tie = false ∧ Unamb d0 (actOf n st) mem evs := by
  induction r with
  | nil _ => exact ⟨ht, True.intro⟩
  | cons hI _ hs s _ _ _ ih =>
    obtain ⟨ht1, hu1⟩ := ih ht
    obtain ⟨a', b', dab', hmc, _, _, _, _, _, _, _, _, _, htie⟩ := step_ok_fields _ _ hs
    rw [s.mc] at hmc
    cases hmc
    rw [htie, Bool.or_eq_false_iff, decide_eq_false_iff_not] at ht1
    rw [s.act' hI.wf] at hu1
    exact ⟨ht1.1, s.unambAt hI (Nat.le_of_not_lt ht1.2), hu1⟩

theorem upgma_tie_free_unamb (taxa : List String) (v : Array Rat) (h2 : 2 ≤ taxa.length) (hv : v.size = T taxa.length)
    (hpos : ∀ k, k < v.size → 0 ≤ v.getD k 0) {t : URose} {m : Option Rat} {dy : Bool}
    (hup : upgma taxa v = .ok (t, m, false, dy)) {evs : List Ev} (htr : upgmaTr taxa v = .ok evs) :
    Unamb (d0of v) (List.range taxa.length) (fun i => [i]) evs := by
  obtain ⟨st, mem, evs0, hl, hloop, hr, hn2⟩ := upgma_run taxa v h2 hv hpos
  have hI := hr.linv
  have hrun := hr.avgRun
  obtain ⟨k1, k2, dab, fj⟩ := final_join taxa v st mem hloop hI hn2
  have htie : st.tie = false := by
    have hup0 := fj.up
    rw [hup] at hup0
    injection hup0 with e
    exact (congrArg (fun r => r.2.2.1) e).symm
  have htr0 := upgmaTr_ok hl fj.rootKids fj.dm
  rw [htr] at htr0
  injection htr0 with htr0
  subst htr0
  have hu0 := (hr.unamb htie).2
  rw [init_act] at hu0 hrun
  exact Unamb.append hrun hu0 ⟨fun j k hj hk hjk _ => pair_cases fj.actP hj hk hjk, True.intro⟩

theorem upgma_taxon_order_tie_free (taxa taxa' : List String) (v v' : Array Rat) (σ : Nat → Nat)
    (h2 : 2 ≤ taxa.length) (hv : v.size = T taxa.length) (hpos : ∀ k, k < v.size → 0 ≤ v.getD k 0)
    (hv' : v'.size = T taxa'.length) (hpos' : ∀ k, k < v'.size → 0 ≤ v'.getD k 0)
    (hr : Reordered taxa v taxa' v' σ) {t : URose} {m : Option Rat} {dy : Bool}
    (hup : upgma taxa v = .ok (t, m, false, dy)) :
    ∃ t' m' tie' dy' evs evs', upgma taxa' v' = .ok (t', m', tie', dy') ∧
      upgmaTr taxa v = .ok evs ∧ upgmaTr taxa' v' = .ok evs' ∧ All2 (EvSameVia σ) evs' evs ∧
      InfoSub (nodeInfo t') (nodeInfo t) ∧ InfoSub (nodeInfo t) (nodeInfo t') := by
  obtain ⟨t0, m0, tie0, dy0, t', m', tie', dy', evs, evs', h1, h2', h3, h4, h5, h6, h7⟩ :=
    upgma_taxon_order taxa taxa' v v' σ h2 hv hpos hv' hpos' hr
      (Or.inl (fun evs htr => upgma_tie_free_unamb taxa v h2 hv hpos hup htr))
  rw [hup] at h1
  injection h1 with h1
  injection h1 with e _
  subst e
  exact ⟨t', m', tie', dy', evs, evs', h2', h3, h4, h5, h6, h7⟩

end UPG
