import PhyloModel.Upgma.Clamp
/-! # C15 — what the clamp buys, with NO hypothesis on the matrix

For every taxon list and every vector `v` (any size, any signs), if the repaired `upgma` (`UPG.upgmaC`) returns a
tree, every non-root node of that tree carries a branch length and it is non-negative
(`upgmaC_lengths_nonneg_always`).  Only a light invariant of the flags / root children / cluster trees is
needed; the matrix plays no part. -/
namespace UPG
open MX Tri MXS

theorem stepC_ok_fields (st st' : St) (h : stepC st = .ok st') :
    ∃ a b dab, minCell st.dm = some ((a, b), some dab) ∧ st.merged.getD a true = false ∧ st.merged.getD b true = false ∧
      st'.merged = st.merged.setIfInBounds b true ∧
      st'.clusters = st.clusters.setIfInBounds a (mergeTrees (st.clusters.getD a default) (st.clusters.getD b default)
        (nonNeg (dab / 2 - st.heights.getD a 0)) (nonNeg (dab / 2 - st.heights.getD b 0))) ∧
      st'.rootKids = ((st.rootKids.erase a).erase b) ++ [a] ∧ st'.nClusters = st.nClusters - 1 := by
  unfold stepC at h
  cases hmin : minCell st.dm with
  | none => rw [hmin] at h; cases h
  | some p =>
    obtain ⟨⟨a, b⟩, c⟩ := p
    rw [hmin] at h
    cases c with
    | none => dsimp only at h; split at h <;> cases h
    | some dab =>
      dsimp only at h
      by_cases hm : (st.merged.getD a true || st.merged.getD b true) = true
      · rw [if_pos hm] at h; cases h
      · rw [if_neg hm] at h
        injection h with h
        subst h
        simp only [Bool.or_eq_true, not_or, Bool.not_eq_true] at hm
        exact ⟨a, b, dab, rfl, hm.1, hm.2, rfl, rfl, rfl, rfl⟩

/-- light invariant: flags, count, root children, and non-negative lengths inside every live cluster tree -/
structure Lite (n : Nat) (st : St) : Prop where
  szM : st.merged.size = n
  ncl : st.nClusters = (actOf n st).length
  rkN : st.rootKids.Nodup
  rkM : ∀ i, i ∈ st.rootKids → i ∈ actOf n st
  cl : ∀ i, i ∈ actOf n st → NonNegLens (st.clusters.getD i default)

theorem stepC_lite {n : Nat} {st st' : St} (hL : Lite n st) (hs : stepC st = .ok st') :
    Lite n st' ∧ st'.nClusters = st.nClusters - 1 := by
  obtain ⟨a, b, dab, hmin, hla, hlb, rM, rK, rR, rN⟩ := stepC_ok_fields st st' hs
  have hab : a ≠ b := Nat.ne_of_gt (minCell_some hmin).1
  have han : a < n := by rw [← hL.szM]; exact getD_lt_of_ne st.merged a true (by rw [hla]; simp)
  have hbn : b < n := by rw [← hL.szM]; exact getD_lt_of_ne st.merged b true (by rw [hlb]; simp)
  have haa : a ∈ actOf n st := mem_actOf.2 ⟨han, hla⟩
  have hba : b ∈ actOf n st := mem_actOf.2 ⟨hbn, hlb⟩
  obtain ⟨f1, hact, f3, f4⟩ := flags_step hL.szM hL.rkN hlb rM rR
  refine ⟨⟨f1, ?_, f3, fun i hi => ?_, fun i hi => ?_⟩, rN⟩
  · rw [rN, hact, hL.ncl, List.length_erase_of_mem hba]
  · rw [hact, List.Nodup.mem_erase_iff (actOf_nodup n st)]
    rcases (f4 i).1 hi with ⟨h1, h2⟩ | h1
    · exact ⟨h2, hL.rkM i h1⟩
    · rw [h1]; exact ⟨hab, haa⟩
  · rw [hact, List.Nodup.mem_erase_iff (actOf_nodup n st)] at hi
    rw [rK, getD_set]
    by_cases hia : a = i ∧ a < st.clusters.size
    · rw [if_pos hia]
      exact nonNegLens_merge (hL.cl a haa) (hL.cl b hba) (nonNeg_nonneg _) (nonNeg_nonneg _)
    · rw [if_neg hia]
      exact hL.cl i hi.2

theorem loopC_lite (n : Nat) : ∀ (f : Nat) (st st' : St), Lite n st → loopC f st = .ok st' →
    Lite n st' ∧ (st.nClusters ≤ f + 2 → st'.nClusters ≤ 2)
  | 0, st, st', hL, h => by
    cases h
    exact ⟨hL, fun h => by omega⟩
  | f + 1, st, st', hL, h => by
    rw [loopC] at h
    split at h
    · split at h
      · next st1 hs =>
        obtain ⟨hL1, hn1⟩ := stepC_lite hL hs
        obtain ⟨hL', hfin⟩ := loopC_lite n f st1 st' hL1 h
        exact ⟨hL', fun hle => hfin (by rw [hn1]; omega)⟩
      · next hne => exact absurd h (hne st')
    · cases h
      exact ⟨hL, fun _ => by omega⟩

theorem init_lite (taxa : List String) (v : Array Rat) : Lite taxa.length (initSt taxa v) := by
  refine ⟨by simp [initSt], ?_, ?_, ?_, ?_⟩
  · rw [init_act]; simp [initSt]
  · exact List.nodup_range
  · intro i hi; rw [init_act]; exact hi
  · intro i hi
    rw [init_act] at hi
    rw [init_cluster taxa v i (List.mem_range.1 hi)]
    intro x hx; rw [brLens_leaf] at hx; cases hx

/-- after the whole clamped loop the light invariant holds, and if two live indices can be named there is no third -/
theorem loopC_done {taxa : List String} {v : Array Rat} {st : St} (hl : loopC taxa.length (initSt taxa v) = .ok st) :
    Lite taxa.length st ∧
      ∀ {ai bi : Nat} {rest : List Nat}, actOf taxa.length st = ai :: bi :: rest → rest = [] ∧ st.nClusters = 2 := by
  obtain ⟨hL, hfin⟩ := loopC_lite taxa.length taxa.length (initSt taxa v) st (init_lite taxa v) hl
  refine ⟨hL, fun {ai bi rest} hact => ?_⟩
  have hn2 : st.nClusters ≤ 2 := hfin (Nat.le_add_right _ 2)
  have hncl := hL.ncl
  rw [hact] at hncl
  cases rest with
  | nil => exact ⟨rfl, hncl⟩
  | cons _ _ => simp only [List.length_cons] at hncl; omega

theorem upgmaC_ok_inv {taxa : List String} {v : Array Rat} {r : URose × Option Rat × Bool × Bool}
    (h : upgmaC taxa v = .ok r) :
    ∃ st, loopC taxa.length (initSt taxa v) = .ok st ∧ finish nonNeg taxa.length st = .ok r := by
  rw [upgmaC_eq] at h
  cases hl : loopC taxa.length (initSt taxa v) with
  | ok st => rw [hl] at h; exact ⟨st, rfl, h⟩
  | err k => rw [hl] at h; cases h
  | panic => rw [hl] at h; cases h

theorem brLensL_nonneg (ks : List URose)
    (h : ∀ k, k ∈ ks → (∃ l, k.len = some l ∧ 0 ≤ l) ∧ NonNegLens k) :
    ∀ x, x ∈ brLensL ks → ∃ l, x = some l ∧ 0 ≤ l := by
  induction ks with
  | nil => intro x hx; rw [brLensL_nil] at hx; cases hx
  | cons k ks ih =>
    intro x hx
    rw [brLensL_cons] at hx
    simp only [List.mem_cons, List.mem_append] at hx
    rcases hx with hx | hx | hx
    · obtain ⟨l, hl, h0⟩ := (h k (by simp)).1
      exact ⟨l, by rw [hx, hl], h0⟩
    · exact (h k (by simp)).2 x hx
    · exact ih (fun k' hk' => h k' (by simp [hk'])) x hx

theorem upgmaC_lengths_nonneg_always (taxa : List String) (v : Array Rat) (t : URose) (m : Option Rat)
    (ti dy : Bool) (h : upgmaC taxa v = .ok (t, m, ti, dy)) : NonNegLens t := by
  obtain ⟨st, hl, hf⟩ := upgmaC_ok_inv h
  obtain ⟨ai, bi, rest, dab, hact, _, hr⟩ := finish_ok_inv hf
  -- exactly two indices are live, so every root child is one of the two whose length the final join writes
  obtain ⟨hL, h2⟩ := loopC_done hl
  obtain ⟨hrest, _⟩ := h2 hact
  subst hrest
  injection hr with ht _
  subst ht
  intro x hx
  rw [brLens_eq, URose.kids_node] at hx
  refine brLensL_nonneg _ (fun k hk => ?_) x hx
  obtain ⟨i, hi, rfl⟩ := List.mem_map.1 hk
  have hq := hL.cl i (hL.rkM i hi)
  have hia : i = ai ∨ i = bi := by simpa [hact] using hL.rkM i hi
  rw [finalKid_eq nonNeg st _ hia]
  exact ⟨⟨_, URose.setLen_len _ _, nonNeg_nonneg _⟩, fun y hy => by rw [brLens_setLen] at hy; exact hq y hy⟩

/-- the branch lengths of a returned tree, in pre-order (empty on an error) -/
def lensOf (r : Res (URose × Option Rat × Bool × Bool)) : List (Option Rat) :=
  match r with
  | .ok (t, _, _, _) => brLens t
  | _ => []

end UPG
