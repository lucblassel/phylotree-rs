import PhyloModel.Upgma.Determinism
/-! # C15 — determinism of average-linkage clustering: the index-free state as a list of sorted member lists

`StEqv` (Upgma/Determinism.lean) compares two clustering states as SETS of clusters.  Here the same abstraction as a
concrete value: `absState act cl` is the list of the member lists of the active clusters, each in increasing order.
For well-formed states, `StEqv` is exactly "`absState` of the two states are permutations of each other"
(`stEqv_iff_perm`); so equivalent well-formed states have the same number of clusters (`StEqv.length_eq`), and the
length hypothesis of the determinism theorem can be traded for "the two runs stop with the same number of clusters"
(`avgRun_deterministic_stop`), in particular for complete runs (`avgRun_deterministic_complete`). -/
namespace UPG
open UP

/-- a member list in increasing order: the canonical representative of the member set -/
def canon (A : List Nat) : List Nat := A.mergeSort (fun x y => decide (x ≤ y))

theorem canon_perm (A : List Nat) : (canon A).Perm A := List.mergeSort_perm A _

theorem canon_eq_iff {A B : List Nat} : canon A = canon B ↔ A.Perm B := by
  constructor
  · intro h
    have p1 := canon_perm A
    rw [h] at p1
    exact p1.symm.trans (canon_perm B)
  · exact mergeSort_eq_of_perm

theorem evKey_eq (e : Ev) : evKey e = (canon (e.A ++ e.B), e.height) := rfl

def absState (act : List Nat) (cl : Nat → List Nat) : List (List Nat) := act.map (fun i => canon (cl i))

theorem absState_nodup {act : List Nat} {cl : Nat → List Nat} (w : WFC act cl) : (absState act cl).Nodup :=
  (List.nodup_map_iff_inj _ _ w.nodup).2 fun _ hx _ hy e => w.inj hx hy (canon_eq_iff.1 e)

theorem mem_absState {act : List Nat} {cl : Nat → List Nat} {X : List Nat} :
    X ∈ absState act cl ↔ ∃ i, i ∈ act ∧ canon (cl i) = X := by
  simp [absState]

theorem sub_of_absState_subset {act1 act2 : List Nat} {cl1 cl2 : Nat → List Nat}
    (h : ∀ X, X ∈ absState act1 cl1 → X ∈ absState act2 cl2) : Sub act1 cl1 act2 cl2 := by
  intro i hi
  obtain ⟨j, hj, e⟩ := mem_absState.1 (h _ (mem_absState.2 ⟨i, hi, rfl⟩))
  exact ⟨j, hj, canon_eq_iff.1 e.symm⟩

theorem absState_subset_of_sub {act1 act2 : List Nat} {cl1 cl2 : Nat → List Nat} (h : Sub act1 cl1 act2 cl2) :
    ∀ X, X ∈ absState act1 cl1 → X ∈ absState act2 cl2 := by
  intro X hX
  obtain ⟨i, hi, e⟩ := mem_absState.1 hX
  obtain ⟨j, hj, p⟩ := h i hi
  exact mem_absState.2 ⟨j, hj, by rw [← e]; exact (canon_eq_iff.2 p).symm⟩

/-- no well-formedness is needed in this direction -/
theorem stEqv_of_perm {act1 act2 : List Nat} {cl1 cl2 : Nat → List Nat}
    (h : (absState act1 cl1).Perm (absState act2 cl2)) : StEqv act1 cl1 act2 cl2 :=
  ⟨sub_of_absState_subset (fun _ hX => h.mem_iff.1 hX), sub_of_absState_subset (fun _ hX => h.mem_iff.2 hX)⟩

theorem stEqv_iff_perm {act1 act2 : List Nat} {cl1 cl2 : Nat → List Nat} (w1 : WFC act1 cl1) (w2 : WFC act2 cl2) :
    StEqv act1 cl1 act2 cl2 ↔ (absState act1 cl1).Perm (absState act2 cl2) := by
  constructor
  · intro e
    apply (List.perm_ext_iff_of_nodup (absState_nodup w1) (absState_nodup w2)).2
    intro X
    exact ⟨absState_subset_of_sub e.1 X, absState_subset_of_sub e.2 X⟩
  · exact stEqv_of_perm

theorem StEqv.length_eq {act1 act2 : List Nat} {cl1 cl2 : Nat → List Nat} (w1 : WFC act1 cl1) (w2 : WFC act2 cl2)
    (e : StEqv act1 cl1 act2 cl2) : act1.length = act2.length := by
  have := ((stEqv_iff_perm w1 w2).1 e).length_eq
  simpa [absState] using this

/-- the length hypothesis of `avgRun_deterministic_one` follows from `hstop` -/
theorem avgRun_deterministic_stop {d0 : Nat → Nat → Rat} {act1 act1' act2 act2' : List Nat}
    {cl1 cl1' cl2 cl2' : Nat → List Nat} {evs1 evs2 : List Ev}
    (r1 : AvgRun d0 act1 cl1 evs1 act1' cl1') (r2 : AvgRun d0 act2 cl2 evs2 act2' cl2')
    (u2 : Unamb d0 act2 cl2 evs2) (w1 : WFC act1 cl1) (w2 : WFC act2 cl2)
    (e : StEqv act1 cl1 act2 cl2) (hstop : act1'.length = act2'.length) :
    All2 EvSame evs1 evs2 ∧ evs1.map evKey = evs2.map evKey ∧ StEqv act1' cl1' act2' cl2' := by
  have hlen : evs1.length = evs2.length := by
    have h1 := r1.length; have h2 := r2.length; have h3 := e.length_eq w1 w2; omega
  obtain ⟨h1, h2, _⟩ := avgRun_deterministic_one r1 r2 u2 w1 w2 e hlen
  exact ⟨h1, all2_evSame_keys h1, h2⟩

theorem avgRun_deterministic_complete {d0 : Nat → Nat → Rat} {act1 act2 : List Nat}
    {cl1 cl1' cl2 cl2' : Nat → List Nat} {evs1 evs2 : List Ev} {k1 k2 : Nat}
    (r1 : AvgRun d0 act1 cl1 evs1 [k1] cl1') (r2 : AvgRun d0 act2 cl2 evs2 [k2] cl2')
    (u2 : Unamb d0 act2 cl2 evs2) (w1 : WFC act1 cl1) (w2 : WFC act2 cl2) (e : StEqv act1 cl1 act2 cl2) :
    All2 EvSame evs1 evs2 ∧ evs1.map evKey = evs2.map evKey ∧ (cl1' k1).Perm (cl2' k2) := by
  obtain ⟨h1, h2, h3⟩ := avgRun_deterministic_stop r1 r2 u2 w1 w2 e rfl
  refine ⟨h1, h2, ?_⟩
  obtain ⟨j, hj, p⟩ := h3.1 k1 (by simp)
  simp only [List.mem_singleton] at hj
  subst hj; exact p

end UPG
