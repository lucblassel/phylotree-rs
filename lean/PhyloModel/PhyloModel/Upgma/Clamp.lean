import PhyloModel.Matrix.UpgmaClamp
import PhyloModel.Upgma.LoopInv
/-! # C15 — the clamped UPGMA model (`UPG.upgmaC`, the repaired crate) against the unclamped one

On the domain of the master theorem (two or more taxa, a triangular vector of the right size, non-negative
entries) the monotone-heights invariant makes every clamped difference non-negative, so the clamp is the
identity and `upgmaC = upgma` (`upgmaC_eq_upgma`). -/
namespace UPG
open MX Tri MXS

theorem nonNeg_of_nonneg {x : Rat} (h : 0 ≤ x) : nonNeg x = x := by
  unfold nonNeg
  split
  · next hlt => exact absurd hlt (Rat.not_lt.mpr h)
  · rfl

theorem nonNeg_nonneg (x : Rat) : 0 ≤ nonNeg x := by
  unfold nonNeg
  split
  · exact Rat.le_refl
  · next h => exact Rat.not_lt.mp h

/-- under the loop invariant, with more than two clusters left, a clamped iteration is the unclamped iteration: by
    monotone heights both new lengths are non-negative, so the clamp does nothing and the reused index is raised to
    half the minimum -/
theorem stepC_eq_step {d0 : Nat → Nat → Rat} (hd : ∀ x y, d0 x y = d0 y x) {n : Nat} {st : St} {mem : Nat → List Nat}
    (hI : LInv d0 n st mem) (hgt : 2 < st.nClusters) : stepC st = step st := by
  obtain ⟨st1, hs⟩ := step_total hI.wf (by rw [← hI.wf.ncl]; omega)
  obtain ⟨a, b, dab, s⟩ := step_spec hI.wf hs
  obtain ⟨_, h1, h2⟩ := s.linv hd hI hgt
  -- `stepC` raises the reused index by the (unclamped) new length, `step` sets it to half the minimum: the same height
  have e3 : st.heights.getD a 0 + (dab / 2 - st.heights.getD a 0) = dab / 2 := by grind
  unfold stepC step
  rw [s.mc]
  simp only [nonNeg_of_nonneg h1, nonNeg_of_nonneg h2, e3]
  rfl

theorem loopC_eq_loop {d0 : Nat → Nat → Rat} (hd : ∀ x y, d0 x y = d0 y x) (n : Nat) :
    ∀ (f : Nat) (st : St) (mem : Nat → List Nat), LInv d0 n st mem → loopC f st = loop f st := by
  intro f
  induction f with
  | zero => intro st mem _; rfl
  | succ f ih =>
    intro st mem hI
    by_cases hgt : st.nClusters > 2
    · obtain ⟨st1, hs⟩ := step_total hI.wf (by rw [← hI.wf.ncl]; omega)
      obtain ⟨a, b, dab, s⟩ := step_spec hI.wf hs
      simp only [loopC, loop, hgt, ↓reduceIte, stepC_eq_step hd hI hgt, hs]
      exact ih st1 _ (s.linv hd hI hgt).1
    · simp only [loopC, loop, hgt, ↓reduceIte]

theorem upgmaC_eq (taxa : List String) (v : Array Rat) :
    upgmaC taxa v = match loopC taxa.length (initSt taxa v) with
      | .ok st => finish nonNeg taxa.length st
      | .err k => .err k
      | .panic => .panic := rfl

theorem upgmaC_of_loop {taxa : List String} {v : Array Rat} {st : St}
    (hl : loopC taxa.length (initSt taxa v) = .ok st) : upgmaC taxa v = finish nonNeg taxa.length st := by
  rw [upgmaC_eq, hl]

theorem finish_clamp_eq {d0 : Nat → Nat → Rat} {n : Nat} {st : St} {mem : Nat → List Nat} (hI : LInv d0 n st mem)
    (hn2 : st.nClusters = 2) : finish nonNeg n st = finish id n st := by
  obtain ⟨ai, bi, dab, hact, _, hdab, ha0, hb0⟩ := last_pair hI hn2
  rw [finish_ok hact hdab, finish_ok hact hdab]
  have e : finalKid nonNeg st ai bi (dab / 2) = finalKid id st ai bi (dab / 2) := by
    funext i
    unfold finalKid
    rw [nonNeg_of_nonneg ha0, nonNeg_of_nonneg hb0]
    rfl
  rw [e]

theorem upgmaC_eq_upgma (taxa : List String) (v : Array Rat) (h2 : 2 ≤ taxa.length) (hv : v.size = T taxa.length)
    (hpos : ∀ k, k < v.size → 0 ≤ v.getD k 0) : upgmaC taxa v = upgma taxa v := by
  obtain ⟨st, mem, _, _, hl, hrun, hn2⟩ := upgma_run taxa v h2 hv hpos
  have hlc : loopC taxa.length (initSt taxa v) = .ok st := by
    rw [loopC_eq_loop (d0of_symm v) taxa.length taxa.length _ _ (init_linv taxa v hv h2 hpos)]; exact hl
  rw [upgmaC_of_loop hlc, upgma_of_loop hl]
  exact finish_clamp_eq hrun.linv hn2

end UPG
