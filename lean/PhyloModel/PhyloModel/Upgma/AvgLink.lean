import PhyloModel.Upgma.Shape
import PhyloModel.Upgma.Equidist
/-! # C15 — the merges performed by the executable UPGMA model are average-linkage clustering from its definition

`loopTr` is `UPG.loop` instrumented with the ghost member lists and the list of merge events
`(a, b, height, members of a, members of b)`; its state component is `loop`'s.  `AvgRun` is average-linkage
clustering stated from its definition (merge a pair of clusters minimising the average of the ORIGINAL
distances between their members; the merge height is half that average).  Main theorem
`upgma_average_linkage`: the events of a run of `upgma` form a complete `AvgRun` from the singletons, and
the internal nodes of the returned tree — as pairs (leaf names below the node, height of the node above its
leaves) — are the events, one node per event (a permutation of the list of events). -/
namespace UPG
open MX Tri MXS

/-- average of the original distances between two member lists: the definition of average linkage -/
def avgLink (d0 : Nat → Nat → Rat) (A B : List Nat) : Rat :=
  UP.S d0 A B / ((A.length : Rat) * (B.length : Rat))

theorem isAvg_eq {d0 : Nat → Nat → Rat} {x : Rat} {A B : List Nat} (h : UP.IsAvg d0 x A B) (hA : A ≠ []) (hB : B ≠ []) :
    x = avgLink d0 A B := by
  unfold UP.IsAvg at h
  unfold avgLink
  have hla : (0 : Rat) < (A.length : Rat) := Rat.natCast_pos.mpr (List.length_pos_iff.mpr hA)
  have hlb : (0 : Rat) < (B.length : Rat) := Rat.natCast_pos.mpr (List.length_pos_iff.mpr hB)
  rw [← h, Rat.mul_div_cancel (Rat.ne_of_gt (Rat.mul_pos hla hlb))]

theorem avgLink_symm {d0 : Nat → Nat → Rat} (hd : ∀ x y, d0 x y = d0 y x) (A B : List Nat) :
    avgLink d0 A B = avgLink d0 B A := by
  unfold avgLink
  rw [UP.S_swap d0 hd A B, Rat.mul_comm]

theorem link_D_eq {d0 : Nat → Nat → Rat} {s : UP.St} (hl : UP.Link d0 s) {i j : Nat} (hi : i ∈ s.act) (hj : j ∈ s.act)
    (hij : i ≠ j) : s.D i j = avgLink d0 (s.mem i) (s.mem j) :=
  isAvg_eq (hl.avg i j hi hj hij) (hl.ne i hi) (hl.ne j hj)

/-- average-linkage clustering from its definition, as a run from (`act`, `cl`) to (`act'`, `cl'`): each event
    merges two distinct active clusters whose average linkage is minimal among all active pairs, at height
    half that average -/
inductive AvgRun (d0 : Nat → Nat → Rat) : List Nat → (Nat → List Nat) → List Ev → List Nat → (Nat → List Nat) → Prop
  | nil (act : List Nat) (cl : Nat → List Nat) : AvgRun d0 act cl [] act cl
  | cons (act : List Nat) (cl : Nat → List Nat) (a b : Nat) (evs : List Ev) (act' : List Nat) (cl' : Nat → List Nat) :
      a ∈ act → b ∈ act → a ≠ b →
      (∀ j k, j ∈ act → k ∈ act → j ≠ k → avgLink d0 (cl a) (cl b) ≤ avgLink d0 (cl j) (cl k)) →
      AvgRun d0 (act.erase b) (memAfter cl a b) evs act' cl' →
      AvgRun d0 act cl (⟨a, b, avgLink d0 (cl a) (cl b) / 2, cl a, cl b⟩ :: evs) act' cl'

theorem AvgRun.append {d0 : Nat → Nat → Rat} {act1 act2 act3 : List Nat} {cl1 cl2 cl3 : Nat → List Nat} {e1 e2 : List Ev}
    (h1 : AvgRun d0 act1 cl1 e1 act2 cl2) (h2 : AvgRun d0 act2 cl2 e2 act3 cl3) :
    AvgRun d0 act1 cl1 (e1 ++ e2) act3 cl3 := by
  induction h1 with
  | nil => exact h2
  | cons act cl a b evs act' cl' ha hb hab hmin _ ih =>
    exact AvgRun.cons act cl a b (evs ++ e2) act3 cl3 ha hb hab hmin (ih h2)

/-- with two clusters left theirs is the only pair -/
theorem pair_cases {act : List Nat} {k1 k2 : Nat} (hp : act.Perm [k1, k2]) {j k : Nat} (hj : j ∈ act) (hk : k ∈ act)
    (hjk : j ≠ k) : (j = k1 ∧ k = k2) ∨ (j = k2 ∧ k = k1) := by
  have hj' := hp.mem_iff.1 hj
  have hk' := hp.mem_iff.1 hk
  simp only [List.mem_cons, List.not_mem_nil, or_false] at hj' hk'
  rcases hj' with ej | ej <;> rcases hk' with ek | ek
  · exact absurd (ej.trans ek.symm) hjk
  · exact Or.inl ⟨ej, ek⟩
  · exact Or.inr ⟨ej, ek⟩
  · exact absurd (ej.trans ek.symm) hjk

/-- ... so joining them is one more step of average-linkage clustering, down to one cluster -/
theorem AvgRun.last {d0 : Nat → Nat → Rat} (hd : ∀ x y, d0 x y = d0 y x) {act : List Nat} (cl : Nat → List Nat) {k1 k2 : Nat}
    (hp : act.Perm [k1, k2]) (hne : k1 ≠ k2) :
    AvgRun d0 act cl [⟨k1, k2, avgLink d0 (cl k1) (cl k2) / 2, cl k1, cl k2⟩] [k1] (memAfter cl k1 k2) := by
  have he : act.erase k2 = [k1] := by
    have := hp.erase k2
    rw [List.erase_cons_tail (by simpa using hne), List.erase_cons_head] at this
    exact List.perm_singleton.1 this
  rw [← he]
  refine AvgRun.cons _ _ k1 k2 [] _ _ (hp.mem_iff.2 (by simp)) (hp.mem_iff.2 (by simp)) hne (fun j k hj hk hjk => ?_)
    (AvgRun.nil _ _)
  rcases pair_cases hp hj hk hjk with ⟨rfl, rfl⟩ | ⟨rfl, rfl⟩
  · exact Rat.le_refl
  · rw [avgLink_symm hd]; exact Rat.le_refl

/-- when the minimum is unambiguous the step of average-linkage clustering is determined: any other pair that
    also minimises the average linkage is the same unordered pair (so the merged member set and the height
    are the same; only the choice of which index survives is free) -/
theorem avg_step_unique (d0 : Nat → Nat → Rat) (act : List Nat) (cl : Nat → List Nat) (a b a' b' : Nat)
    (ha : a ∈ act) (hb : b ∈ act) (hab : a ≠ b) (ha' : a' ∈ act) (hb' : b' ∈ act) (hab' : a' ≠ b')
    (hmin : ∀ j k, j ∈ act → k ∈ act → j ≠ k → avgLink d0 (cl a) (cl b) ≤ avgLink d0 (cl j) (cl k))
    (hmin' : ∀ j k, j ∈ act → k ∈ act → j ≠ k → avgLink d0 (cl a') (cl b') ≤ avgLink d0 (cl j) (cl k))
    (huniq : ∀ j k, j ∈ act → k ∈ act → j ≠ k → avgLink d0 (cl j) (cl k) = avgLink d0 (cl a) (cl b) →
      (j = a ∧ k = b) ∨ (j = b ∧ k = a)) :
    ((a' = a ∧ b' = b) ∨ (a' = b ∧ b' = a)) ∧ avgLink d0 (cl a') (cl b') = avgLink d0 (cl a) (cl b) := by
  have e : avgLink d0 (cl a') (cl b') = avgLink d0 (cl a) (cl b) :=
    Rat.le_antisymm (hmin' a b ha hb hab) (hmin a' b' ha' hb' hab')
  exact ⟨huniq a' b' ha' hb' hab' e, e⟩

/-! ## the internal nodes of a tree as (leaf names, height above the leaves) -/

mutual
def nodeInfo : URose → List (List (Option String) × Rat)
  | .node _ _ ks => if ks.isEmpty then [] else (leafNamesL ks, (leafDepthsL ks).headD 0) :: nodeInfoL ks
def nodeInfoL : List URose → List (List (Option String) × Rat)
  | [] => []
  | k :: ks => nodeInfo k ++ nodeInfoL ks
end

theorem nodeInfo_leaf (n : Option String) (l : Option Rat) : nodeInfo (.node n l []) = [] := by
  rw [nodeInfo]; rfl

theorem nodeInfo_setLen (t : URose) (l : Option Rat) : nodeInfo (t.setLen l) = nodeInfo t := by
  cases t; rw [URose.setLen, nodeInfo, nodeInfo]

theorem nodeInfo_merge (a b : URose) (la lb : Rat) :
    nodeInfo (mergeTrees a b la lb) =
      (leafNames a ++ leafNames b, ((leafDepths a).map (fun d => la + d) ++ (leafDepths b).map (fun d => lb + d)).headD 0) ::
        (nodeInfo a ++ nodeInfo b) := by
  rw [mergeTrees, nodeInfo]
  simp only [List.isEmpty_cons, Bool.false_eq_true, ↓reduceIte]
  rw [nodeInfoL, nodeInfoL, nodeInfoL, leafNamesL_cons, leafNamesL_cons, leafNamesL_nil, leafDepthsL_cons, leafDepthsL_cons,
    leafDepthsL_nil, nodeInfo_setLen, nodeInfo_setLen]
  simp

/-- the per-cluster invariant used here: shape and depth together -/
def ShapeDepthQ (taxa : List String) (t : URose) (A : List Nat) (h : Rat) : Prop := ShapeQ taxa t A h ∧ DepthQ t A h

theorem qmerge_shapeDepth (taxa : List String) : QMerge (ShapeDepthQ taxa) := by
  intro ta tb A B ha hb h qa qb hA hB h1 h2
  exact ⟨qmerge_shape taxa ta tb A B ha hb h qa.1 qb.1 hA hB h1 h2, qmerge_depth ta tb A B ha hb h qa.2 qb.2 hA hB h1 h2⟩

theorem qinit_shapeDepth (taxa : List String) : QInit (ShapeDepthQ taxa) taxa :=
  fun i hi => ⟨qinit_shape taxa i hi, qinit_depth taxa i hi⟩

/-- what an event says about the tree: the names of the merged members, and the height -/
def evInfo (taxa : List String) (e : Ev) : List (Option String) × Rat :=
  ((e.A ++ e.B).map (fun i => some (nameOf taxa i)), e.height)

theorem nodeInfo_merge_Q (taxa : List String) (ta tb : URose) (A B : List Nat) (ha hb h : Rat)
    (qa : ShapeDepthQ taxa ta A ha) (qb : leafNames tb = B.map (fun i => some (nameOf taxa i))) (hA : A ≠ []) :
    nodeInfo (mergeTrees ta tb (h - ha) (h - hb)) =
      ((A ++ B).map (fun i => some (nameOf taxa i)), h) :: (nodeInfo ta ++ nodeInfo tb) := by
  rw [nodeInfo_merge, qa.1.2, qb, List.map_append]
  have hlen : (leafDepths ta).length = A.length := by rw [leafDepths_length, qa.1.2, List.length_map]
  match hd : leafDepths ta, hlen with
  | [], hlen => exact absurd (List.length_eq_zero_iff.1 hlen.symm) hA
  | d :: ds, _ =>
    have : d = ha := qa.2 d (by rw [hd]; simp)
    subst this
    simp only [List.map_cons, List.cons_append, List.headD_cons]
    rw [Rat.sub_add_cancel]


/-- the internal nodes of the live cluster trees -/
def liveNodes (n : Nat) (st : St) : List (List (Option String) × Rat) :=
  (actOf n st).flatMap (fun i => nodeInfo (st.clusters.getD i default))

theorem Stepped.nodes {d0 : Nat → Nat → Rat} {taxa : List String} {n : Nat} {st st' : St} {mem} {a b : Nat} {dab : Rat}
    (hI : LInv d0 n st mem) (s : Stepped n st st' a b dab) (hC : CInv (ShapeDepthQ taxa) n st mem) :
    (liveNodes n st').Perm (evInfo taxa ⟨a, b, dab / 2, mem a, mem b⟩ :: liveNodes n st) := by
  have hnd := actOf_nodup n st
  have ha' : a ∈ (actOf n st).erase b := (mem_erase_nodup hnd).2 ⟨s.act_a, s.ne⟩
  have hnew : nodeInfo (st'.clusters.getD a default) = evInfo taxa ⟨a, b, dab / 2, mem a, mem b⟩ ::
      (nodeInfo (st.clusters.getD a default) ++ nodeInfo (st.clusters.getD b default)) := by
    rw [s.clusters, getD_set, hI.wf.szK, if_pos ⟨rfl, s.an⟩]
    exact nodeInfo_merge_Q taxa _ _ _ _ _ _ _ (hC a s.an s.la) (hC b s.bn s.lb).1.2 (hI.link.ne a s.act_a)
  -- the live indices are `b`, `a` and the rest before, `a` and the rest after; the trees of the rest are untouched
  have hrest : (((actOf n st).erase b).erase a).flatMap (fun i => nodeInfo (st'.clusters.getD i default)) =
      (((actOf n st).erase b).erase a).flatMap (fun i => nodeInfo (st.clusters.getD i default)) := by
    rw [List.flatMap_def, List.flatMap_def]
    congr 1
    apply List.map_congr_left
    intro i hi
    have hia : i ≠ a := ((mem_erase_nodup (hnd.erase b)).1 hi).2
    rw [s.clusters, getD_set, if_neg (fun e => hia e.1.symm)]
  unfold liveNodes
  rw [s.act' hI.wf]
  -- bring `a` to the front of the new live list and `b`, `a` to the front of the old one, then compare piece by piece
  refine ((List.perm_cons_erase ha').flatMap_right _).trans ?_
  refine .trans ?_ ((((List.perm_cons_erase s.act_b).trans ((List.perm_cons_erase ha').cons b)).flatMap_right _).symm.cons _)
  rw [List.flatMap_cons, List.flatMap_cons, List.flatMap_cons, hnew, hrest, List.cons_append, List.append_assoc]
  exact (List.perm_append_comm_assoc _ _ _).cons _

theorem Stepped.avg_event {d0 : Nat → Nat → Rat} {n : Nat} {st st' : St} {mem} {a b : Nat} {dab : Rat}
    (hI : LInv d0 n st mem) (s : Stepped n st st' a b dab) :
    dab = avgLink d0 (mem a) (mem b) ∧
    ∀ j k, j ∈ actOf n st → k ∈ actOf n st → j ≠ k → avgLink d0 (mem a) (mem b) ≤ avgLink d0 (mem j) (mem k) := by
  obtain ⟨hD, hmin⟩ := s.min_act
  have e1 : dab = avgLink d0 (mem a) (mem b) := by
    rw [← hD]; exact link_D_eq hI.link s.act_a s.act_b s.ne
  refine ⟨e1, fun j k hj hk hjk => ?_⟩
  have := hmin j k hj hk hjk
  rwa [hD, e1, show Dof st j k = _ from link_D_eq hI.link hj hk hjk] at this

theorem Run.avgRun {d0 : Nat → Nat → Rat} {n : Nat} {st st' : St} {mem mem' : Nat → List Nat} {evs : List Ev}
    (r : Run d0 n st mem evs st' mem') : AvgRun d0 (actOf n st) mem evs (actOf n st') mem' := by
  induction r with
  | nil _ => exact AvgRun.nil _ _
  | cons hI _ _ s _ _ _ ih =>
    obtain ⟨e1, hmin⟩ := s.avg_event hI
    rw [s.act' hI.wf] at ih
    rw [e1]
    exact AvgRun.cons _ _ _ _ _ _ _ s.act_a s.act_b s.ne hmin ih

theorem Run.nodes {d0 : Nat → Nat → Rat} {taxa : List String} {n : Nat} {st st' : St} {mem mem' : Nat → List Nat}
    {evs : List Ev} (r : Run d0 n st mem evs st' mem') (hC : CInv (ShapeDepthQ taxa) n st mem) :
    (liveNodes n st').Perm (evs.map (evInfo taxa) ++ liveNodes n st) := by
  induction r with
  | nil _ => exact .refl _
  | cons hI _ _ s h1 h2 _ ih =>
    have hC1 := s.cinv hI.wf hC fun qa qb =>
      qmerge_shapeDepth taxa _ _ _ _ _ _ _ qa qb (hI.link.ne _ s.act_a) (hI.link.ne _ s.act_b) h1 h2
    exact (ih hC1).trans (((s.nodes hI hC).append_left _).trans List.perm_middle)

/-- `upgma` instrumented: the complete list of merge events, the final join (in root-child order) included -/
def upgmaTr (taxa : List String) (v : Array Rat) : Res (List Ev) :=
  match loopTr taxa.length (initSt taxa v) (fun i => [i]) [] with
  | .ok (st, mem, hist) =>
    match st.rootKids with
    | [k1, k2] =>
      match st.dm.getD (cell k1 k2) none with
      | some dab => .ok (hist ++ [⟨k1, k2, dab / 2, mem k1, mem k2⟩])
      | none => .err "NonFinite"
    | _ => .err "IndexError"
  | .err k => .err k
  | .panic => .panic

theorem upgmaTr_ok {taxa : List String} {v : Array Rat} {st : St} {mem : Nat → List Nat} {evs : List Ev}
    {k1 k2 : Nat} {dab : Rat} (hl : loopTr taxa.length (initSt taxa v) (fun i => [i]) [] = .ok (st, mem, evs))
    (hrk : st.rootKids = [k1, k2]) (hdm : st.dm.getD (cell k1 k2) none = some dab) :
    upgmaTr taxa v = .ok (evs ++ [⟨k1, k2, dab / 2, mem k1, mem k2⟩]) := by
  simp only [upgmaTr, hl, hrk, hdm]

theorem init_nodes (taxa : List String) (v : Array Rat) : liveNodes taxa.length (initSt taxa v) = [] := by
  unfold liveNodes
  rw [init_act]
  apply List.flatMap_eq_nil_iff.2
  intro i hi
  rw [init_cluster taxa v i (List.mem_range.1 hi), nodeInfo_leaf]

theorem upgma_average_linkage (taxa : List String) (v : Array Rat) (h2 : 2 ≤ taxa.length) (hv : v.size = T taxa.length)
    (hpos : ∀ k, k < v.size → 0 ≤ v.getD k 0) :
    ∃ t m tie dy evs k cl, upgma taxa v = .ok (t, m, tie, dy) ∧ upgmaTr taxa v = .ok evs ∧
      AvgRun (d0of v) (List.range taxa.length) (fun i => [i]) evs [k] cl ∧
      (cl k).Perm (List.range taxa.length) ∧ evs.length = taxa.length - 1 ∧
      (nodeInfo t).Perm (evs.map (evInfo taxa)) := by
  obtain ⟨st, mem, evs, hl, hloop, hr, hn2⟩ := upgma_run taxa v h2 hv hpos
  have hI := hr.linv
  have hC := hr.cinv (qmerge_shapeDepth taxa) (init_cinv taxa v (qinit_shapeDepth taxa))
  have hN := hr.nodes (init_cinv taxa v (qinit_shapeDepth taxa))
  rw [init_nodes, List.append_nil] at hN
  have hrun := hr.avgRun
  have hlen := hr.length
  obtain ⟨k1, k2, dab, fj⟩ := final_join taxa v st mem hloop hI hn2
  obtain ⟨hne, hk1, hk2, hP, hrk, hD, hdm, _, _, hup, hperm⟩ := fj
  have hdab : dab = avgLink (d0of v) (mem k1) (mem k2) := by
    rw [← hD]; exact link_D_eq hI.link hk1 hk2 hne
  -- the final join is one more step of average-linkage clustering: its pair is the only one left
  have hlast := AvgRun.last (d0of_symm v) mem hP hne
  rw [← hdab] at hlast
  have hrun' := hrun.append hlast
  rw [init_act] at hrun'
  refine ⟨_, _, _, _, _, k1, memAfter mem k1 k2, hup, upgmaTr_ok hl hrk hdm, hrun', ?_, ?_, ?_⟩
  · simp only [memAfter, ↓reduceIte]; exact hperm
  · rw [show (initSt taxa v).nClusters = taxa.length from rfl, hn2] at hlen
    rw [List.length_append]
    exact Nat.eq_sub_of_add_eq hlen
  · -- ... and adds one node, above the nodes of the two live cluster trees
    have hF := hP.flatMap_right (fun i => nodeInfo (st.clusters.getD i default))
    simp only [List.flatMap_cons, List.flatMap_nil, List.append_nil] at hF
    rw [List.map_append, nodeInfo_merge_Q taxa _ _ _ _ _ _ _ (hC.act hk1) (hC.act hk2).1.2 (hI.link.ne k1 hk1)]
    exact ((hF.symm.trans hN).cons _).trans (List.perm_append_singleton _ _).symm

/-- non-vacuity of the hypotheses (the model's events on this input: `(1,0)` at height 1, then `(2,1)` at height 2) -/
example : 2 ≤ ["a", "b", "c"].length ∧ (#[2, 4, 4] : Array Rat).size = T ["a", "b", "c"].length ∧
    ∀ k, k < (#[2, 4, 4] : Array Rat).size → 0 ≤ (#[2, 4, 4] : Array Rat).getD k 0 := hyps_example

end UPG
