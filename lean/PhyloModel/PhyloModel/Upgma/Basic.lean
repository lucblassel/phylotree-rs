import PhyloModel.Misc.ListLemmas
/-! Mathematical core of UPGMA: the size-weighted update of the code computes the average linkage of the merged cluster
    (`avg_update`), and a weighted mean of two values is at least their common lower bound (`wavg_ge`: why merge heights
    never decrease) -/
namespace UP

def sumL (l : List Rat) : Rat := l.foldr (· + ·) 0

@[simp] theorem sumL_nil : sumL [] = 0 := rfl
@[simp] theorem sumL_cons (x : Rat) (l : List Rat) : sumL (x :: l) = x + sumL l := rfl
theorem sumL_append (a b : List Rat) : sumL (a ++ b) = sumL a + sumL b := List.sum_append

variable (d0 : Nat → Nat → Rat)

/-- total original distance between two member lists -/
def S (A B : List Nat) : Rat := sumL (A.map (fun x => sumL (B.map (fun y => d0 x y))))

theorem S_append_left (A A' B : List Nat) : S d0 (A ++ A') B = S d0 A B + S d0 A' B := by
  simp [S, sumL_append]

/-- average-linkage distance stated without division -/
def IsAvg (v : Rat) (A B : List Nat) : Prop := v * ((A.length : Rat) * (B.length : Rat)) = S d0 A B

theorem avg_update (A B X : List Nat) (dax dbx : Rat) (hA : A ≠ []) (hB : B ≠ []) (hX : X ≠ [])
    (ha : IsAvg d0 dax A X) (hb : IsAvg d0 dbx B X) :
    IsAvg d0 (((A.length : Rat) * dax + (B.length : Rat) * dbx) / ((A.length : Rat) + (B.length : Rat)))
      (A ++ B) X := by
  unfold IsAvg at *
  rw [S_append_left, ← ha, ← hb]
  have hla : (0 : Rat) < (A.length : Rat) := Rat.natCast_pos.mpr (List.length_pos_iff.mpr hA)
  have hlb : (0 : Rat) < (B.length : Rat) := Rat.natCast_pos.mpr (List.length_pos_iff.mpr hB)
  have hsum : (A.length : Rat) + (B.length : Rat) ≠ 0 := by grind
  simp only [List.length_append, Rat.natCast_add]
  grind

end UP

namespace UP
theorem wavg_ge (ca cb p q m : Rat) (ha : 0 < ca) (hb : 0 < cb) (hp : m ≤ p) (hq : m ≤ q) :
    m ≤ (ca * p + cb * q) / (ca + cb) := by
  have h1 : ca * m ≤ ca * p := Rat.mul_le_mul_of_nonneg_left hp (Rat.le_of_lt ha)
  have h2 : cb * m ≤ cb * q := Rat.mul_le_mul_of_nonneg_left hq (Rat.le_of_lt hb)
  have hs : 0 < ca + cb := by grind
  have h3 : m * (ca + cb) ≤ ca * p + cb * q := by grind
  -- by contradiction with the strict version that core provides
  apply Rat.not_lt.mp
  intro hlt
  have := (Rat.div_lt_iff hs).mp hlt
  grind

theorem half_sub_nonneg {h d : Rat} (H : 2 * h ≤ d) : 0 ≤ d / 2 - h := by grind
end UP
