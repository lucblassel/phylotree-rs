import PhyloModel.Upgma.AvgLink
/-! # C15 — ultrametric input: UPGMA reproduces the matrix (abstract part)

Under the three-point condition on the original distances, every cross distance between two active clusters
equals the stored cluster distance (`U`); the invariant is kept by merging a pair at minimal distance (`merge_U`). -/
namespace UPG
open MX Tri MXS

/-- three-point (ultrametric) condition on taxa below `n`, stated without `max` -/
def Ultra (d0 : Nat → Nat → Rat) (n : Nat) : Prop :=
  ∀ x y z, x < n → y < n → z < n → d0 x z ≤ d0 x y ∨ d0 x z ≤ d0 y z

/-- every original distance between members of two different active clusters equals the stored distance -/
def U (d0 : Nat → Nat → Rat) (s : UP.St) : Prop :=
  ∀ i j, i ∈ s.act → j ∈ s.act → i ≠ j → ∀ x, x ∈ s.mem i → ∀ y, y ∈ s.mem j → d0 x y = s.D i j

theorem Agree.U {d0 : Nat → Nat → Rat} {s t : UP.St} (ag : Agree s t) (hU : U d0 t) : U d0 s := by
  intro i j hi hj hij x hx y hy
  rw [ag.act] at hi hj
  rw [ag.mem i hi] at hx
  rw [ag.mem j hj] at hy
  rw [ag.D i j hi hj hij]
  exact hU i j hi hj hij x hx y hy

theorem wavg_same (ca cb w : Rat) (ha : 0 < ca) (hb : 0 < cb) : (ca * w + cb * w) / (ca + cb) = w := by
  have h : ca + cb ≠ 0 := by grind
  rw [← Rat.add_mul, Rat.mul_comm, Rat.mul_div_cancel h]

/-- under the three-point condition, the two clusters of a minimal pair are equally far from any third one -/
theorem U_third {d0 : Nat → Nat → Rat} {n : Nat} (hd : ∀ x y, d0 x y = d0 y x) (hu : Ultra d0 n) (s : UP.St)
    (a b j : Nat) (hl : UP.Link d0 s) (hp : Part n s) (hU : U d0 s) (ha : a ∈ s.act) (hb : b ∈ s.act) (hj : j ∈ s.act)
    (hab : a ≠ b) (hja : j ≠ a) (hjb : j ≠ b)
    (hmin : ∀ j k, j ∈ s.act → k ∈ s.act → j ≠ k → s.D a b ≤ s.D j k) : s.D a j = s.D b j := by
  obtain ⟨p, hp1⟩ := List.exists_mem_of_ne_nil _ (hl.ne a ha)
  obtain ⟨q, hq1⟩ := List.exists_mem_of_ne_nil _ (hl.ne b hb)
  obtain ⟨r, hr1⟩ := List.exists_mem_of_ne_nil _ (hl.ne j hj)
  have hpn := hp.lt a ha p hp1
  have hqn := hp.lt b hb q hq1
  have hrn := hp.lt j hj r hr1
  have e1 : d0 p q = s.D a b := hU a b ha hb hab p hp1 q hq1
  have e2 : d0 p r = s.D a j := hU a j ha hj (Ne.symm hja) p hp1 r hr1
  have e3 : d0 q r = s.D b j := hU b j hb hj (Ne.symm hjb) q hq1 r hr1
  have m1 := hmin a j ha hj (Ne.symm hja)
  have m2 := hmin b j hb hj (Ne.symm hjb)
  have u1 := hu p q r hpn hqn hrn
  have u2 := hu q p r hqn hpn hrn
  rw [e2, e1, e3] at u1
  rw [e3, hd q p, e1, e2] at u2
  apply Rat.le_antisymm
  · rcases u1 with u | u
    · exact Rat.le_trans u m2
    · exact u
  · rcases u2 with u | u
    · exact Rat.le_trans u m1
    · exact u

theorem merge_U {d0 : Nat → Nat → Rat} {n : Nat} (hd : ∀ x y, d0 x y = d0 y x) (hu : Ultra d0 n) (s : UP.St) (a b : Nat)
    (hl : UP.Link d0 s) (hp : Part n s) (hU : U d0 s) (ha : a ∈ s.act) (hb : b ∈ s.act) (hab : a ≠ b)
    (hmin : ∀ j k, j ∈ s.act → k ∈ s.act → j ≠ k → s.D a b ≤ s.D j k) : U d0 (UP.merge s a b) := by
  have hmem := UP.mem_merge_act hl.nodup a b
  have hla : (0 : Rat) < ((s.mem a).length : Rat) := Rat.natCast_pos.mpr (List.length_pos_iff.mpr (hl.ne a ha))
  have hlb : (0 : Rat) < ((s.mem b).length : Rat) := Rat.natCast_pos.mpr (List.length_pos_iff.mpr (hl.ne b hb))
  -- pairs whose second cluster is not the new one; the others follow by symmetry
  have key : ∀ i j, i ∈ (UP.merge s a b).act → j ∈ (UP.merge s a b).act → i ≠ j → j ≠ a →
      ∀ x, x ∈ (UP.merge s a b).mem i → ∀ y, y ∈ (UP.merge s a b).mem j → d0 x y = (UP.merge s a b).D i j := by
    intro i j hi hj hij hja x hx y hy
    obtain ⟨hi1, hib⟩ := (hmem i).1 hi
    obtain ⟨hj1, hjb⟩ := (hmem j).1 hj
    simp only [UP.merge, hja, ↓reduceIte] at hy
    by_cases hia : i = a
    · -- the new cluster: both halves are at the common distance from `j`, and so is their weighted mean
      have h3 := U_third hd hu s a b j hl hp hU ha hb hj1 hab hja hjb hmin
      simp only [UP.merge, hia, ↓reduceIte, List.mem_append] at hx
      simp only [UP.merge]
      rw [if_pos ⟨hia, hja⟩, ← h3, wavg_same _ _ _ hla hlb]
      rcases hx with hx | hx
      · exact hU a j ha hj1 (Ne.symm hja) x hx y hy
      · rw [h3]; exact hU b j hb hj1 (Ne.symm hjb) x hx y hy
    · simp only [UP.merge, hia, ↓reduceIte] at hx
      simp only [UP.merge]
      rw [if_neg (fun e => hia e.1), if_neg (fun e => hja e.1)]
      exact hU i j hi1 hj1 hij x hx y hy
  intro i j hi hj hij x hx y hy
  by_cases hja : j = a
  · rw [hd x y, (UP.merge_link d0 hd s a b hl ha hb hab).symm i j hi hj]
    exact key j i hj hi (Ne.symm hij) (fun e => hij (e.trans hja.symm)) y hy x hx
  · exact key i j hi hj hij hja x hx y hy

end UPG
