import PhyloModel.Matrix.Upgma
import PhyloModel.Matrix.StoreLemmas
import PhyloModel.Upgma.Step
/-! # C15 — one iteration of the executable UPGMA loop: what `minCell` returns and what `step` writes

`UPG.step` (Matrix/Upgma.lean, the transcription of the `while n_clusters > 2` body of
`DistanceMatrix::upgma`) is related to `UP.merge` (Upgma/Step.lean).  The abstraction `absSt` (Upgma/Refine.lean) reads
the active indices off the `merged` flags, the distances off the triangular vector through `MX.cell`, the heights
off `heights`; the member lists are ghost data carried next to the state.  This file: what `minCell` returns and what
`step` writes, field by field; of the bookkeeping fields `margin`, `tie`, `dyadic` only `tie` is recorded
(`step_ok_fields`). -/
namespace UPG
open MX Tri MXS


theorem getD_set {α : Type} (arr : Array α) (p q : Nat) (v d : α) :
    (arr.setIfInBounds p v).getD q d = if p = q ∧ p < arr.size then v else arr.getD q d := by
  simp only [Array.getD_setIfInBounds, eq_comm (a := q)]

theorem getD_lt_of_ne {α : Type} (arr : Array α) (q : Nat) (d : α) (h : arr.getD q d ≠ d) : q < arr.size := by
  apply Classical.byContradiction; intro hq
  apply h
  simp only [Array.getD_eq_getD_getElem?]
  have : arr[q]? = none := by simp; omega
  simp [this]

theorem getD_map_some (v : Array Rat) (k : Nat) : (v.map some).getD k none = v[k]? := by
  simp only [Array.getD_eq_getD_getElem?, Array.getElem?_map]
  cases v[k]? <;> rfl

theorem map_erase_of_inj {α β : Type} [DecidableEq α] [DecidableEq β] (f : α → β) (x : α) :
    ∀ l : List α, (∀ y, y ∈ l → f y = f x → y = x) → (l.map f).erase (f x) = (l.erase x).map f
  | [], _ => rfl
  | y :: l, h => by
    by_cases hy : y = x
    · subst hy; simp
    · have hf : f y ≠ f x := fun e => hy (h y (by simp) e)
      rw [List.map_cons, List.erase_cons_tail (by simpa using hf), List.erase_cons_tail (by simpa using hy), List.map_cons,
        map_erase_of_inj f x l (fun z hz => h z (by simp [hz]))]

theorem filter_range_mid (p : Nat → Bool) (n m : Nat) (hm : n < m) (h0 : p 0 = false)
    (h1 : ∀ i, 1 ≤ i → i ≤ n → p i = true) (h2 : ∀ i, n < i → i < m → p i = false) :
    (List.range m).filter p = (List.range n).map (· + 1) := by
  have e : List.range m = List.range' 0 1 ++ (List.range' 1 n ++ List.range' (1 + n) (m - (n + 1))) := by
    rw [List.range'_append_1, List.range'_append_1, List.range_eq_range']
    congr 1; omega
  rw [e, List.filter_append, List.filter_append]
  have f1 : (List.range' 0 1).filter p = [] := by
    apply List.filter_eq_nil_iff.2
    intro i hi
    simp only [List.mem_range'_1] at hi
    have : i = 0 := by omega
    subst this; simp [h0]
  have f2 : (List.range' 1 n).filter p = List.range' 1 n := by
    apply List.filter_eq_self.2
    intro i hi
    simp only [List.mem_range'_1] at hi
    exact h1 i hi.1 (by omega)
  have f3 : (List.range' (1 + n) (m - (n + 1))).filter p = [] := by
    apply List.filter_eq_nil_iff.2
    intro i hi
    simp only [List.mem_range'_1] at hi
    rw [h2 i (by omega) (by omega)]; simp
  rw [f1, f2, f3, List.nil_append, List.append_nil]
  apply List.ext_getElem
  · simp
  · intro i h1 h2
    simp [Nat.add_comm]

def minStep (dm : Array Cell) (acc : Option ((Nat × Nat) × Cell)) (k : Nat) : Option ((Nat × Nat) × Cell) :=
  let v := dm.getD k none
  match acc with
  | none => some (invIdx k, v)
  | some a => if cellLt v a.2 then some (invIdx k, v) else some a

theorem minCell_eq (dm : Array Cell) : minCell dm = (List.range dm.size).foldl (minStep dm) none := by
  unfold minCell
  congr 1

theorem cellLt_irrefl (x : Cell) : cellLt x x = false := by
  cases x with
  | none => rfl
  | some a => simp [cellLt, Rat.lt_irrefl]

/-- `a ≤ x` and `v < a` give `v ≤ x` -/
theorem cellLt_not_lt_of_lt_of_le (v a x : Cell) (h1 : cellLt v a = true) (h2 : cellLt x a = false) : cellLt x v = false := by
  cases v <;> cases a <;> cases x <;> simp_all [cellLt] <;> grind

theorem cellLt_asymm (v a : Cell) (h1 : cellLt v a = true) : cellLt a v = false :=
  cellLt_not_lt_of_lt_of_le v a a h1 (cellLt_irrefl a)

/-- `v < a` and `a ≤ x` give `v < x` -/
theorem cellLt_of_lt_of_le (v a x : Cell) (h1 : cellLt v a = true) (h2 : cellLt x a = false) : cellLt v x = true := by
  cases v <;> cases a <;> cases x <;> simp_all [cellLt] <;> grind

theorem minFold_first (dm : Array Cell) : ∀ m,
    ∃ k, k ≤ m ∧ (List.range (m + 1)).foldl (minStep dm) none = some (invIdx k, dm.getD k none) ∧
      (∀ k', k' ≤ m → cellLt (dm.getD k' none) (dm.getD k none) = false) ∧
      (∀ k', k' < k → cellLt (dm.getD k none) (dm.getD k' none) = true)
  | 0 => ⟨0, Nat.le_refl 0, rfl, fun k' hk' => by rw [Nat.le_zero.1 hk']; exact cellLt_irrefl _, fun k' hk' => by omega⟩
  | m + 1 => by
    obtain ⟨k, hk, hfold, hmin, hfirst⟩ := minFold_first dm m
    rw [List.range_succ, List.foldl_append, hfold]
    simp only [List.foldl_cons, List.foldl_nil, minStep]
    by_cases hlt : cellLt (dm.getD (m + 1) none) (dm.getD k none) = true
    · rw [if_pos hlt]
      refine ⟨m + 1, Nat.le_refl _, rfl, fun k' hk' => ?_, fun k' hk' => cellLt_of_lt_of_le _ _ _ hlt (hmin k' (by omega))⟩
      by_cases hk'm : k' = m + 1
      · rw [hk'm]; exact cellLt_irrefl _
      · exact cellLt_not_lt_of_lt_of_le _ _ _ hlt (hmin k' (by omega))
    · rw [if_neg hlt]
      refine ⟨k, by omega, rfl, fun k' hk' => ?_, hfirst⟩
      by_cases hk'm : k' = m + 1
      · rw [hk'm]; exact Bool.eq_false_iff.2 hlt
      · exact hmin k' (by omega)

/-- `DistanceMatrix::min` returns the first cell (in cell order) attaining the minimum -/
theorem minCell_first (dm : Array Cell) (h : 0 < dm.size) :
    ∃ k, k < dm.size ∧ minCell dm = some (invIdx k, dm.getD k none) ∧
      (∀ k', k' < dm.size → cellLt (dm.getD k' none) (dm.getD k none) = false) ∧
      (∀ k', k' < k → cellLt (dm.getD k none) (dm.getD k' none) = true) := by
  obtain ⟨k, hk, hfold, hmin, hfirst⟩ := minFold_first dm (dm.size - 1)
  rw [Nat.sub_add_cancel h] at hfold
  exact ⟨k, by omega, by rw [minCell_eq]; exact hfold, fun k' hk' => hmin k' (by omega), hfirst⟩

theorem minCell_none (dm : Array Cell) (h : dm.size = 0) : minCell dm = none := by
  rw [minCell_eq, h]; rfl

theorem minCell_some {dm : Array Cell} {a b : Nat} {c : Cell} (h : minCell dm = some ((a, b), c)) :
    b < a ∧ (∀ n, dm.size = T n → a < n) ∧ dm.getD (cell a b) none = c ∧
      ∀ k, k < dm.size → cellLt (dm.getD k none) c = false := by
  have hpos : 0 < dm.size := by
    apply Classical.byContradiction; intro hc
    rw [minCell_none dm (by omega)] at h
    cases h
  obtain ⟨k, hk, hk2, hkmin, _⟩ := minCell_first dm hpos
  rw [h] at hk2
  injection hk2 with hk2
  injection hk2 with hk3 hk4
  obtain ⟨g1, g2⟩ := invIdx_spec k
  rw [← hk3] at g1 g2
  have hcell : cell a b = k := by simp only [cell, g1, ↓reduceIte]; exact g2
  rw [hcell, hk4]
  refine ⟨g1, fun n hn => ?_, rfl, hkmin⟩
  have := invIdx_lt n k (hn ▸ hk)
  rw [← hk3] at this; exact this


def newCell (dm : Array Cell) (ca cb : Rat) (a b x : Nat) : Cell :=
  match dm.getD (cell x a) none, dm.getD (cell x b) none with
  | some dax, some dbx => some ((ca * dax + cb * dbx) / (ca + cb))
  | _, _ => none

def dmBody (old : Array Cell) (merged : Array Bool) (ca cb : Rat) (a b : Nat) (dm : Array Cell) (x : Nat) : Array Cell :=
  if merged.getD x true then dm else
  let dm1 := if x != a && x != b then dm.setIfInBounds (cell a x) (newCell old ca cb a b x) else dm
  if x != b then dm1.setIfInBounds (cell b x) none else dm1

def stepDm (st : St) (a b : Nat) : Array Cell :=
  (List.range st.merged.size).foldl
    (dmBody st.dm (st.merged.setIfInBounds b true) (st.card.getD a 0 : Nat) (st.card.getD b 0 : Nat) a b) st.dm

theorem step_ok_fields (st st' : St) (h : step st = .ok st') :
    ∃ a b dab, minCell st.dm = some ((a, b), some dab) ∧ st.merged.getD a true = false ∧ st.merged.getD b true = false ∧
      st'.dm = stepDm st a b ∧ st'.merged = st.merged.setIfInBounds b true ∧
      st'.heights = st.heights.setIfInBounds a (dab / 2) ∧
      st'.card = st.card.setIfInBounds a (st.card.getD a 0 + st.card.getD b 0) ∧
      st'.clusters = st.clusters.setIfInBounds a (mergeTrees (st.clusters.getD a default) (st.clusters.getD b default)
        (dab / 2 - st.heights.getD a 0) (dab / 2 - st.heights.getD b 0)) ∧
      st'.rootKids = ((st.rootKids.erase a).erase b) ++ [a] ∧ st'.nClusters = st.nClusters - 1 ∧
      st'.tie = (st.tie || decide ((st.dm.toList.filter (fun v => v == some dab)).length > 1)) := by
  unfold step at h
  -- rewriting with the value of the minimum first keeps `split` away from the whole body
  cases hmin : minCell st.dm with
  | none => rw [hmin] at h; cases h
  | some p =>
    obtain ⟨⟨a, b⟩, c⟩ := p
    rw [hmin] at h
    cases c with
    | none => dsimp only at h; split at h <;> cases h
    | some dab =>
      dsimp only at h
      by_cases hm : (st.merged.getD a true || st.merged.getD b true) = true
      · rw [if_pos hm] at h; cases h
      · rw [if_neg hm] at h
        injection h with h
        subst h
        simp only [Bool.or_eq_true, not_or, Bool.not_eq_true] at hm
        refine ⟨a, b, dab, rfl, hm.1, hm.2, ?_, rfl, rfl, rfl, rfl, rfl, rfl, rfl⟩
        simp only [stepDm]
        congr 1
        funext dm x
        simp only [dmBody, newCell]
        cases st.dm.getD (cell x a) none <;> cases st.dm.getD (cell x b) none <;> rfl

theorem step_ok_of (st : St) (a b : Nat) (dab : Rat) (hmin : minCell st.dm = some ((a, b), some dab))
    (ha : st.merged.getD a true = false) (hb : st.merged.getD b true = false) : ∃ st', step st = .ok st' := by
  unfold step
  rw [hmin]
  simp only [ha, hb, Bool.or_self, Bool.false_eq_true, ↓reduceIte]
  exact ⟨_, rfl⟩

end UPG
