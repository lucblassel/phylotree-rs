import PhyloModel.Dist.Tree
/-! # Integer-weighted mirror of the rose-level distance-matrix core

The arena fold `DMF.dmFast` computes with scaled integers (`Int`), the rose-level mathematics of
`Dist/Basic.lean` is stated over `Rat`.  This file defines the same per-node caches and contributions over
the id-only rose tree `AR.RTI` with an integer weight function `w : Nat → Int` (the length of the edge above
a node) and proves that casting to `Rat` gives exactly `DM.cache` / `DM.pairs` of the tree `toRT w t`.
It also splits `pairs` into the contributions made AT each node (`crossWL` of the node's children), which is
the shape in which the fold produces them. -/
namespace DMW
open AR

def shiftI (d : Int) (c : List (Nat × Int)) : List (Nat × Int) := c.map (fun p => (p.1, d + p.2))

mutual
/-- `subtree_distances` of a node in scaled integers -/
def cacheW (w : Nat → Int) : RTI → List (Nat × Int)
  | .node i [] => [(i, 0)]
  | .node _ (k :: ks) => cacheWL w (k :: ks)
def cacheWL (w : Nat → Int) : List RTI → List (Nat × Int)
  | [] => []
  | k :: ks => shiftI (w (rid k)) (cacheW w k) ++ cacheWL w ks
end

def crossI (c rest : List (Nat × Int)) : List ((Nat × Nat) × Int) :=
  c.flatMap (fun p => rest.map (fun q => ((p.1, q.1), p.2 + q.2)))

/-- the contributions made while processing ONE node whose children are `ks` -/
def crossWL (w : Nat → Int) : List RTI → List ((Nat × Nat) × Int)
  | [] => []
  | k :: ks => crossI (shiftI (w (rid k)) (cacheW w k)) (cacheWL w ks) ++ crossWL w ks

mutual
def pairsW (w : Nat → Int) : RTI → List ((Nat × Nat) × Int)
  | .node _ ks => pairsWL w ks
def pairsWL (w : Nat → Int) : List RTI → List ((Nat × Nat) × Int)
  | [] => []
  | k :: ks => pairsW w k ++ (crossI (shiftI (w (rid k)) (cacheW w k)) (cacheWL w ks) ++ pairsWL w ks)
end

def castC (c : List (Nat × Int)) : List (Nat × Rat) := c.map (fun p => (p.1, ((p.2 : Int) : Rat)))
def castP (c : List ((Nat × Nat) × Int)) : List ((Nat × Nat) × Rat) := c.map (fun p => (p.1, ((p.2 : Int) : Rat)))

theorem cacheW_leaf (w) (i : Nat) : cacheW w (.node i []) = [(i, 0)] := by rw [cacheW]
theorem cacheW_cons (w) (i : Nat) (k : RTI) (ks : List RTI) : cacheW w (.node i (k :: ks)) = cacheWL w (k :: ks) := by
  rw [cacheW]
theorem cacheWL_nil (w) : cacheWL w [] = [] := by rw [cacheWL]
theorem cacheWL_cons (w) (k : RTI) (ks : List RTI) :
    cacheWL w (k :: ks) = shiftI (w (rid k)) (cacheW w k) ++ cacheWL w ks := by rw [cacheWL]
theorem pairsW_node (w) (i : Nat) (ks : List RTI) : pairsW w (.node i ks) = pairsWL w ks := by rw [pairsW]
theorem pairsWL_nil (w) : pairsWL w [] = [] := by rw [pairsWL]
theorem pairsWL_cons (w) (k : RTI) (ks : List RTI) :
    pairsWL w (k :: ks) = pairsW w k ++ (crossI (shiftI (w (rid k)) (cacheW w k)) (cacheWL w ks) ++ pairsWL w ks) := by
  rw [pairsWL]

theorem cacheW_node_eq (w : Nat → Int) (i : Nat) (ks : List RTI) :
    cacheW w (.node i ks) = (if ks.isEmpty then [(i, 0)] else []) ++ cacheWL w ks := by
  cases ks with
  | nil => rw [cacheW_leaf, cacheWL_nil]; simp
  | cons k ks => rw [cacheW_cons]; simp

theorem cacheWL_map (w : Nat → Int) (tr : Nat → RTI) : ∀ cs : List Nat, (∀ c ∈ cs, rid (tr c) = c) →
    cacheWL w (cs.map tr) = cs.flatMap (fun c => shiftI (w c) (cacheW w (tr c)))
  | [], _ => by simp [cacheWL_nil]
  | c :: cs, h => by
    rw [List.map_cons, cacheWL_cons, List.flatMap_cons, h c (by simp),
      cacheWL_map w tr cs (fun c' hc' => h c' (by simp [hc']))]

theorem castC_append (c d : List (Nat × Int)) : castC (c ++ d) = castC c ++ castC d := by
  simp [castC]
theorem castP_append (c d : List ((Nat × Nat) × Int)) : castP (c ++ d) = castP c ++ castP d := by
  simp [castP]

theorem castC_shiftI (d : Int) (c : List (Nat × Int)) : castC (shiftI d c) = DM.shift ((d : Int) : Rat) (castC c) := by
  simp only [castC, shiftI, DM.shift, List.map_map]
  apply List.map_congr_left
  intro p _
  simp only [Function.comp_def, Prod.mk.injEq, true_and]
  rw [Rat.intCast_add, Rat.add_comm]

theorem castP_crossI (c r : List (Nat × Int)) : castP (crossI c r) = DM.cross (castC c) (castC r) := by
  simp only [castP, crossI, DM.cross, castC, List.map_flatMap, List.flatMap_map, List.map_map, Function.comp_def,
    Rat.intCast_add]

mutual
theorem cache_toRT (w) : ∀ t : RTI, DM.cache (toRT w t) = castC (cacheW w t)
  | .node i [] => by rw [toRT_node, toRTL_nil, cacheW_leaf]; simp [DM.cache, castC]
  | .node i (k :: ks) => by
    rw [toRT_node, toRTL_cons, cacheW_cons, DM.cache, ← toRTL_cons]
    exact cacheL_toRTL w (k :: ks)
theorem cacheL_toRTL (w) : ∀ ks : List RTI, DM.cacheL (toRTL w ks) = castC (cacheWL w ks)
  | [] => by rw [toRTL_nil, cacheWL_nil]; simp [DM.cacheL, castC]
  | k :: ks => by
    rw [toRTL_cons, cacheWL_cons, DM.cacheL, castC_append, castC_shiftI, cache_toRT w k, cacheL_toRTL w ks, toRT_len]
end

mutual
theorem pairs_toRT (w) : ∀ t : RTI, DM.pairs (toRT w t) = castP (pairsW w t)
  | .node i ks => by rw [toRT_node, pairsW_node, DM.pairs]; exact pairsL_toRTL w ks
theorem pairsL_toRTL (w) : ∀ ks : List RTI, DM.pairsL (toRTL w ks) = castP (pairsWL w ks)
  | [] => by rw [toRTL_nil, pairsWL_nil]; simp [DM.pairsL, castP]
  | k :: ks => by
    rw [toRTL_cons, pairsWL_cons, DM.pairsL, castP_append, castP_append, castP_crossI, castC_shiftI,
      pairs_toRT w k, pairsL_toRTL w ks, cache_toRT w k, cacheL_toRTL w ks, toRT_len]
end

def ckeysI (c : List (Nat × Int)) : List Nat := c.map (·.1)

theorem ckeysI_shiftI (d : Int) (c : List (Nat × Int)) : ckeysI (shiftI d c) = ckeysI c := by
  simp [ckeysI, shiftI, List.map_map, Function.comp_def]

mutual
theorem ckeysI_cacheW (w) : ∀ t : RTI, ckeysI (cacheW w t) = leafR t
  | .node i [] => by rw [cacheW_leaf, leafR_leaf]; simp [ckeysI]
  | .node i (k :: ks) => by rw [cacheW_cons, leafR_cons]; exact ckeysI_cacheWL w (k :: ks)
theorem ckeysI_cacheWL (w) : ∀ ks : List RTI, ckeysI (cacheWL w ks) = leafRL ks
  | [] => by rw [cacheWL_nil, leafRL_nil]; simp [ckeysI]
  | k :: ks => by
    rw [cacheWL_cons, leafRL_cons, ← ckeysI_cacheW w k, ← ckeysI_cacheWL w ks]
    simp only [ckeysI, List.map_append]
    congr 1
    exact ckeysI_shiftI _ _
end

theorem flatMap_append_perm {α β : Type} (f g : α → List β) : ∀ l : List α,
    (l.flatMap (fun x => f x ++ g x)).Perm (l.flatMap f ++ l.flatMap g)
  | [] => by simp
  | x :: l => by
    simp only [List.flatMap_cons, List.append_assoc]
    apply List.Perm.append_left
    exact ((flatMap_append_perm f g l).append_left (g x)).trans (List.perm_append_comm_assoc _ _ _)

theorem flatMap_perm_left {α β : Type} (f g : α → List β) : ∀ l : List α, (∀ x ∈ l, (f x).Perm (g x)) →
    (l.flatMap f).Perm (l.flatMap g)
  | [], _ => by simp
  | x :: l, h => by
    simp only [List.flatMap_cons]
    exact List.Perm.append (h x (by simp)) (flatMap_perm_left f g l (fun y hy => h y (by simp [hy])))

theorem flatMap_comm_perm {α β γ : Type} (f : α → β → List γ) (l2 : List β) : ∀ l1 : List α,
    (l1.flatMap fun a => l2.flatMap fun b => f a b).Perm (l2.flatMap fun b => l1.flatMap fun a => f a b)
  | [] => by simp
  | a :: l1 => by
    simp only [List.flatMap_cons]
    refine ((flatMap_comm_perm f l2 l1).append_left _).trans ?_
    exact (flatMap_append_perm (fun b => f a b) (fun b => l1.flatMap fun a => f a b) l2).symm

mutual
/-- `pairs` = the contributions made at each node of the tree, over all nodes -/
theorem pairsW_perm (w) : ∀ t : RTI, (pairsW w t).Perm ((subs t).flatMap (fun s => crossWL w (rkids s)))
  | .node i ks => by
    rw [pairsW_node, subs_node, List.flatMap_cons]
    simp only [rkids]
    exact (pairsWL_perm w ks).trans List.perm_append_comm
theorem pairsWL_perm (w) : ∀ ks : List RTI,
    (pairsWL w ks).Perm ((subsL ks).flatMap (fun s => crossWL w (rkids s)) ++ crossWL w ks)
  | [] => by rw [pairsWL_nil, subsL_nil]; simp [crossWL]
  | k :: ks => by
    rw [pairsWL_cons, subsL_cons, List.flatMap_append, crossWL]
    have h1 := pairsW_perm w k
    have h2 := pairsWL_perm w ks
    refine (List.Perm.append h1 (List.Perm.append_left _ h2)).trans ?_
    simp only [List.append_assoc]
    exact List.Perm.append_left _ (List.perm_append_comm_assoc _ _ _)
end

end DMW
