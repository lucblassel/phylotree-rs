import PhyloModel.Dist.RecWalkCorrectRose
import PhyloModel.Arena.DistBase
/-! # The cells of `dmRecWalk` are the distances `Tree::get_distance` computes

The path length `pathW` / `DM.pathLen` of the represented tree, between two different tips, is the sum of branch
lengths that the executable model `AR.distance` of `Tree::get_distance` returns for the two slots (root paths, common
prefix dropped) -- provided every branch of the tree carries a length.  Hence the matrix `dmRecWalk` returns holds
`get_distance` of every pair of tips. -/
namespace DMF
open AR DMW

def pedgeOf (a : Arena) (i : Nat) : Option Int := (nd a i).pedge

theorem optAdd_some (x y : Int) : optAdd (some x) (some y) = some (x + y) := rfl

mutual
/-- the root path of a tip of the subtree `t` extends the root path of the root of `t`; the lengths along the
    extension add up to the depth of the tip in `t` -/
theorem depth_path {a : Arena} (hinv : Inv a) (x : Nat) : ∀ (t : RTI) (c : Nat) (lc : List Nat), Rep a c t →
    Path a lc c → x ∈ leafR t → allLensW a t = true →
    ∃ q d, Path a (lc ++ q) x ∧ depthW (wOf a 0) t x = some d ∧ optSum (q.map (pedgeOf a)) = some d
  | .node j [], c, lc, h, hp, hx, _ => by
    simp only [Rep] at h
    obtain ⟨rfl, _, _⟩ := h
    rw [leafR_leaf] at hx
    simp only [List.mem_singleton] at hx
    subst hx
    exact ⟨[], 0, by simpa using hp, by rw [depthW_leaf]; simp, rfl⟩
  | .node j (k :: ks), c, lc, h, hp, hx, hl => by
    simp only [Rep] at h
    obtain ⟨rfl, hlc, hk⟩ := h
    rw [leafR_cons] at hx
    rw [allLensW_node] at hl
    rw [depthW_cons]
    obtain ⟨k', q, d, _, _, h3, h4, h5⟩ := depth_pathL hinv x (k :: ks) _ c lc hk hp
      (fun c' hc' => (hinv.child_ok c c' hlc hc').2.1) hx hl
    exact ⟨rid k' :: q, d, h3, h4, h5⟩
theorem depth_pathL {a : Arena} (hinv : Inv a) (x : Nat) : ∀ (ks : List RTI) (cs : List Nat) (c : Nat)
    (lc : List Nat), RepL a cs ks → Path a lc c → (∀ c' ∈ cs, (nd a c').parent = some c) → x ∈ leafRL ks →
    allLensWL a ks = true →
    ∃ k q d, k ∈ ks ∧ x ∈ leafR k ∧ Path a (lc ++ rid k :: q) x ∧ depthWL (wOf a 0) ks x = some d ∧
      optSum ((rid k :: q).map (pedgeOf a)) = some d
  | [], _, _, _, _, _, _, hx, _ => by rw [leafRL_nil] at hx; simp at hx
  | k :: ks, cs, c, lc, h, hp, hpar, hx, hl => by
    obtain ⟨ck, cs, rfl, h⟩ := RepL.cons_inv h
    obtain rfl := rep_rid h.1
    rw [allLensWL_cons] at hl
    simp only [Bool.and_eq_true] at hl
    rw [depthWL_cons]
    by_cases hxk : x ∈ leafR k
    · obtain ⟨q, d, h1, h2, h3⟩ := depth_path hinv x k _ (lc ++ [rid k]) h.1
        (Path.step hp h.1.is_live (hpar _ (by simp))) hxk hl.1.2
      obtain ⟨l, hpe⟩ := Option.isSome_iff_exists.1 hl.1.1
      refine ⟨k, q, d + l, by simp, hxk, by simpa using h1, ?_, ?_⟩
      · rw [h2, wOf_some hpe]
      · rw [List.map_cons, optSum_cons, h3, pedgeOf, hpe, optAdd_some, Int.add_comm]
    · rw [leafRL_cons, List.mem_append] at hx
      have hx' : x ∈ leafRL ks := hx.resolve_left hxk
      obtain ⟨k', q, d, h1, h2, h3, h4, h5⟩ := depth_pathL hinv x ks cs c lc h.2 hp
        (fun c' hc' => hpar c' (by simp [hc'])) hx' hl.2
      refine ⟨k', q, d, by simp [h1], h2, h3, ?_, h5⟩
      rw [depthW_none _ k x hxk]
      exact h4
end

/-- two nodes whose root paths part after the common prefix `lc`: `get_distance` adds up the lengths along both tails -/
theorem distance_fork {a : Arena} (hinv : Inv a) {x y : Nat} (hxy : x ≠ y) {lc : List Nat} {cx cy : Nat}
    {qx qy : List Nat} (hc : cx ≠ cy) (px : Path a (lc ++ cx :: qx) x) (py : Path a (lc ++ cy :: qy) y) {sx sy : Int}
    (hx : optSum ((cx :: qx).map (pedgeOf a)) = some sx) (hy : optSum ((cy :: qy).map (pedgeOf a)) = some sy) :
    ∃ n, distance a x y = .ok (some (sx + sy), n) := by
  have hd := distance_of_paths hinv.toW px py hxy
  rw [distOf_split a lc (cx :: qx) (cy :: qy) (by
    intro u v hu hv; simp only [List.head?_cons, Option.some.injEq] at hu hv; rw [← hu, ← hv]; exact hc)] at hd
  have e : (cx :: qx ++ cy :: qy).map (fun i => (nd a i).pedge)
      = (cx :: qx).map (pedgeOf a) ++ (cy :: qy).map (pedgeOf a) := by
    rw [← List.map_append]; rfl
  rw [e, optSum_append, hx, hy, optAdd_some] at hd
  exact ⟨_, hd⟩

/-- `x` below the first of a list of sibling subtrees, `y` below a later one: the path length (the two legs through the
    common parent) is `get_distance`, for the pair in either order -/
theorem fork_distance {a : Arena} (hinv : Inv a) {x y : Nat} (hxy : x ≠ y) {k : RTI} {ks : List RTI} {cs : List Nat}
    {c : Nat} {lc : List Nat} (hk : Rep a (rid k) k) (hks : RepL a cs ks) (hp : Path a lc c)
    (hpar : ∀ c' ∈ rid k :: cs, (nd a c').parent = some c) (hl : allLensWL a (k :: ks) = true)
    (hxk : x ∈ leafR k) (hyk : y ∉ leafR k) (hy : y ∈ leafRL ks) :
    (∃ v n, pathWL (wOf a 0) (k :: ks) x y = some v ∧ distance a x y = .ok (some v, n)) ∧
      ∃ v n, pathWL (wOf a 0) (k :: ks) y x = some v ∧ distance a y x = .ok (some v, n) := by
  rw [allLensWL_cons] at hl
  simp only [Bool.and_eq_true] at hl
  obtain ⟨l, hpe⟩ := Option.isSome_iff_exists.1 hl.1.1
  obtain ⟨qx, dx, h1, h2, h3⟩ := depth_path hinv x k _ (lc ++ [rid k]) hk
    (Path.step hp hk.is_live (hpar _ (by simp))) hxk hl.1.2
  obtain ⟨ky, qy, Dy, g1, g2, g3, g4, g5⟩ := depth_pathL hinv y ks cs c lc hks hp
    (fun c' hc' => hpar c' (by simp [hc'])) hy hl.2
  have hne : rid k ≠ rid ky := by
    intro e
    rw [e] at hk
    exact hyk (rep_unique a ky k _ (repL_mem ks cs hks ky g1) hk ▸ g2)
  have e1 : optSum ((rid k :: qx).map (pedgeOf a)) = some (dx + wOf a 0 (rid k)) := by
    rw [List.map_cons, optSum_cons, h3, pedgeOf, hpe, optAdd_some, Int.add_comm, wOf_some hpe]
  have h1 : Path a (lc ++ rid k :: qx) x := by simpa using h1
  obtain ⟨n, hd⟩ := distance_fork hinv hxy hne h1 g3 e1 g5
  obtain ⟨n', hd'⟩ := distance_fork hinv (Ne.symm hxy) (Ne.symm hne) g3 h1 g5 e1
  rw [pathWL_cons, pathWL_cons, h2, depthW_none _ k y hyk, g4]
  exact ⟨⟨_, n, rfl, hd⟩, _, n', rfl, hd'⟩

mutual
/-- **path length = `get_distance`**: between two different tips of a represented tree all of whose branches carry a
    length -/
theorem pathW_distance {a : Arena} (hinv : Inv a) (x y : Nat) (hxy : x ≠ y) : ∀ (t : RTI) (c : Nat) (lc : List Nat),
    Rep a c t → Path a lc c → (leafR t).Nodup → x ∈ leafR t → y ∈ leafR t → allLensW a t = true →
    ∃ v n, pathW (wOf a 0) t x y = some v ∧ distance a x y = .ok (some v, n)
  | .node j [], c, lc, _, _, _, hx, hy, _ => by
    rw [leafR_leaf] at hx hy
    simp only [List.mem_singleton] at hx hy
    exact absurd (hx.trans hy.symm) hxy
  | .node j (k :: ks), c, lc, h, hp, hn, hx, hy, hl => by
    simp only [Rep] at h
    obtain ⟨rfl, hlc, hk⟩ := h
    rw [leafR_cons] at hx hy hn
    rw [allLensW_node] at hl
    rw [pathW_node]
    exact pathWL_distance hinv x y hxy (k :: ks) _ c lc hk hp
      (fun c' hc' => (hinv.child_ok c c' hlc hc').2.1) hn hx hy hl
theorem pathWL_distance {a : Arena} (hinv : Inv a) (x y : Nat) (hxy : x ≠ y) : ∀ (ks : List RTI) (cs : List Nat)
    (c : Nat) (lc : List Nat), RepL a cs ks → Path a lc c → (∀ c' ∈ cs, (nd a c').parent = some c) →
    (leafRL ks).Nodup → x ∈ leafRL ks → y ∈ leafRL ks → allLensWL a ks = true →
    ∃ v n, pathWL (wOf a 0) ks x y = some v ∧ distance a x y = .ok (some v, n)
  | [], _, _, _, _, _, _, _, hx, _, _ => by rw [leafRL_nil] at hx; simp at hx
  | k :: ks, cs, c, lc, h, hp, hpar, hn, hx, hy, hl => by
    obtain ⟨ck, cs, rfl, h⟩ := RepL.cons_inv h
    obtain rfl := rep_rid h.1
    have hl' := hl
    rw [allLensWL_cons] at hl'
    simp only [Bool.and_eq_true] at hl'
    rw [leafRL_cons, List.nodup_append] at hn
    rw [leafRL_cons, List.mem_append] at hx hy
    by_cases hxk : x ∈ leafR k <;> by_cases hyk : y ∈ leafR k
    · -- both below the same child
      obtain ⟨dx, hdx⟩ := depthW_some (wOf a 0) k x hxk
      obtain ⟨dy, hdy⟩ := depthW_some (wOf a 0) k y hyk
      rw [pathWL_cons, hdx, hdy]
      exact pathW_distance hinv x y hxy k _ (lc ++ [rid k]) h.1 (Path.step hp h.1.is_live (hpar _ (by simp))) hn.1
        hxk hyk hl'.1.2
    · -- `x` below this child, `y` below a later one
      exact (fork_distance hinv hxy h.1 h.2 hp hpar hl hxk hyk (hy.resolve_left hyk)).1
    · -- `y` below this child, `x` below a later one
      exact (fork_distance hinv (Ne.symm hxy) h.1 h.2 hp hpar hl hyk hxk (hx.resolve_left hxk)).2
    · -- both below later children
      rw [pathWL_cons, depthW_none _ k x hxk, depthW_none _ k y hyk]
      exact pathWL_distance hinv x y hxy ks cs c lc h.2 hp (fun c' hc' => hpar c' (by simp [hc'])) hn.2.1
        (hx.resolve_left hxk) (hy.resolve_left hyk) hl'.2
end

end DMF
