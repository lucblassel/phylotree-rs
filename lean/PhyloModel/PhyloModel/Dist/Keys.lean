import PhyloModel.Dist.Lemmas
import PhyloModel.Misc.ListLemmas
namespace DM

def prodPairs (l1 l2 : List Nat) : List (Nat × Nat) := l1.flatMap (fun a => l2.map (fun b => (a, b)))

def allPairs : List Nat → List (Nat × Nat)
  | [] => []
  | a :: l => l.map (fun b => (a, b)) ++ allPairs l

theorem prodPairs_cons (a : Nat) (l1 l2 : List Nat) :
    prodPairs (a :: l1) l2 = l2.map (fun b => (a, b)) ++ prodPairs l1 l2 := by
  simp [prodPairs]

theorem allPairs_append (l1 l2 : List Nat) :
    (allPairs (l1 ++ l2)).Perm (allPairs l1 ++ (prodPairs l1 l2 ++ allPairs l2)) := by
  induction l1 with
  | nil => simp [allPairs, prodPairs]
  | cons a l ih =>
    simp only [List.cons_append, allPairs, List.map_append, prodPairs_cons, List.append_assoc]
    apply List.Perm.append_left
    exact (ih.append_left _).trans (List.perm_append_comm_assoc _ _ _)

theorem allPairs_eq : ∀ l : List Nat, allPairs l = l.pairs
  | [] => rfl
  | a :: l => by rw [allPairs, List.pairs, allPairs_eq l]

theorem allPairs_mem (L : List Nat) (hn : L.Nodup) (a b : Nat) (h : (a, b) ∈ allPairs L) : a ∈ L ∧ b ∈ L ∧ a ≠ b := by
  rw [allPairs_eq] at h
  exact ⟨(List.mem_of_mem_pairs h).1, (List.mem_of_mem_pairs h).2, List.ne_of_mem_pairs hn h⟩

theorem allPairs_total (L : List Nat) (x y : Nat) (hx : x ∈ L) (hy : y ∈ L) (hxy : x ≠ y) :
    (x, y) ∈ allPairs L ∨ (y, x) ∈ allPairs L :=
  allPairs_eq L ▸ List.pairs_total hx hy hxy

def keys (l : List ((Nat × Nat) × Rat)) : List (Nat × Nat) := l.map (·.1)

theorem keys_cross (c r : List (Nat × Rat)) : keys (cross c r) = prodPairs (ckeys c) (ckeys r) := by
  simp only [keys, cross, prodPairs, ckeys, List.map_flatMap, List.flatMap_map, List.map_map, Function.comp_def]

mutual
theorem keys_pairs : ∀ t : RT, (keys (pairs t)).Perm (allPairs (leafIds t))
  | .node i _ [] => by simp [pairs, pairsL, keys, leafIds, allPairs]
  | .node _ _ (k :: ks) => by simp only [pairs, leafIds]; exact keys_pairsL (k :: ks)
theorem keys_pairsL : ∀ ks : List RT, (keys (pairsL ks)).Perm (allPairs (leafIdsL ks))
  | [] => by simp [pairsL, keys, leafIdsL, allPairs]
  | k :: ks => by
    have h1 := keys_pairs k
    have h2 := keys_pairsL ks
    simp only [pairsL, leafIdsL]
    refine List.Perm.trans ?_ (allPairs_append (leafIds k) (leafIdsL ks)).symm
    have hk : keys (pairs k ++ (cross (shift k.len (cache k)) (cacheL ks) ++ pairsL ks))
        = keys (pairs k) ++ (prodPairs (leafIds k) (leafIdsL ks) ++ keys (pairsL ks)) := by
      simp only [keys, List.map_append]
      congr 2
      have := keys_cross (shift k.len (cache k)) (cacheL ks)
      simp only [keys] at this
      rw [this, ckeys_shift, ckeys_cache, ckeys_cacheL]
    rw [hk]
    exact List.Perm.append h1 (List.Perm.append_left _ h2)
end

end DM
