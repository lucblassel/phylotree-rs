import PhyloModel.Dist.Basic
namespace DM

theorem mem_shift {d : Rat} {c : List (Nat × Rat)} {x : Nat} {v : Rat} :
    (x, v) ∈ shift d c ↔ ∃ v0, (x, v0) ∈ c ∧ v = v0 + d := by
  simp only [shift, List.mem_map, Prod.mk.injEq]
  constructor
  · rintro ⟨⟨a, b⟩, hm, h1, h2⟩; exact ⟨b, by simpa [← h1] using hm, h2.symm⟩
  · rintro ⟨v0, hm, rfl⟩; exact ⟨(x, v0), hm, rfl, rfl⟩

def ckeys (l : List (Nat × Rat)) : List Nat := l.map (·.1)

theorem ckeys_shift (d : Rat) (c : List (Nat × Rat)) : ckeys (shift d c) = ckeys c := by
  simp [ckeys, shift, List.map_map, Function.comp_def]

mutual
theorem ckeys_cache : ∀ t : RT, ckeys (cache t) = leafIds t
  | .node i _ [] => by simp [cache, ckeys, leafIds]
  | .node _ _ (k :: ks) => by simp only [cache, leafIds]; exact ckeys_cacheL (k :: ks)
theorem ckeys_cacheL : ∀ ks : List RT, ckeys (cacheL ks) = leafIdsL ks
  | [] => by simp [cacheL, ckeys, leafIdsL]
  | k :: ks => by
    have h1 := ckeys_cache k
    have h2 := ckeys_cacheL ks
    simp only [cacheL, leafIdsL]
    simp only [ckeys, List.map_append] at *
    rw [← h1, ← h2]
    congr 1
    exact ckeys_shift k.len (cache k)
end

theorem cache_mem_leaf (t : RT) (x : Nat) (d : Rat) (h : (x, d) ∈ cache t) : x ∈ leafIds t := by
  rw [← ckeys_cache]; exact List.mem_map.2 ⟨_, h, rfl⟩
theorem cacheL_mem_leaf (ks : List RT) (x : Nat) (d : Rat) (h : (x, d) ∈ cacheL ks) : x ∈ leafIdsL ks := by
  rw [← ckeys_cacheL]; exact List.mem_map.2 ⟨_, h, rfl⟩

mutual
/-- `depthTo t x` is defined exactly for the leaves of `t` -/
theorem depthTo_isSome : ∀ (t : RT) (x : Nat), (depthTo t x).isSome ↔ x ∈ leafIds t
  | .node i _ [], x => by
    simp only [depthTo, leafIds, List.mem_singleton]
    by_cases h : i = x <;> simp [h, eq_comm]
  | .node _ _ (k :: ks), x => by simp only [depthTo, leafIds]; exact depthToL_isSome (k :: ks) x
theorem depthToL_isSome : ∀ (ks : List RT) (x : Nat), (depthToL ks x).isSome ↔ x ∈ leafIdsL ks
  | [], _ => by simp [depthToL, leafIdsL]
  | k :: ks, x => by
    have h1 := depthTo_isSome k x
    have h2 := depthToL_isSome ks x
    simp only [depthToL, leafIdsL, List.mem_append, ← h1, ← h2]
    cases depthTo k x <;> simp
end

theorem depthToL_mem : ∀ (ks : List RT) (x : Nat) (d : Rat), depthToL ks x = some d → x ∈ leafIdsL ks :=
  fun ks x _ h => (depthToL_isSome ks x).1 (by rw [h]; rfl)

theorem mem_depthTo (t : RT) (x : Nat) (h : x ∈ leafIds t) : ∃ d, depthTo t x = some d :=
  Option.isSome_iff_exists.1 ((depthTo_isSome t x).2 h)

theorem mem_depthToL : ∀ (ks : List RT) (x : Nat), x ∈ leafIdsL ks → ∃ d, depthToL ks x = some d :=
  fun ks x h => Option.isSome_iff_exists.1 ((depthToL_isSome ks x).2 h)

theorem depthTo_none_of_not_mem (t : RT) (x : Nat) (h : x ∉ leafIds t) : depthTo t x = none :=
  Option.not_isSome_iff_eq_none.1 (fun hs => h ((depthTo_isSome t x).1 hs))

mutual
theorem cache_depthTo : ∀ (t : RT) (x : Nat) (d : Rat), (leafIds t).Nodup → (x, d) ∈ cache t →
    depthTo t x = some d
  | .node i _ [], x, d, _, h => by simp [cache] at h; simp [depthTo, h.1, h.2]
  | .node _ _ (k :: ks), x, d, hn, h => by
    simp only [cache] at h; simp only [leafIds] at hn; simp only [depthTo]
    exact cacheL_depthToL (k :: ks) x d hn h
theorem cacheL_depthToL : ∀ (ks : List RT) (x : Nat) (d : Rat), (leafIdsL ks).Nodup → (x, d) ∈ cacheL ks →
    depthToL ks x = some d
  | [], _, _, _, h => by simp [cacheL] at h
  | k :: ks, x, d, hn, h => by
    simp only [leafIdsL, List.nodup_append] at hn
    obtain ⟨hn1, hn2, hdisj⟩ := hn
    simp only [cacheL, List.mem_append] at h
    simp only [depthToL]
    rcases h with h | h
    · obtain ⟨v0, hm, rfl⟩ := mem_shift.1 h
      rw [cache_depthTo k x v0 hn1 hm]
    · have hx := cacheL_mem_leaf ks x d h
      have : x ∉ leafIds k := fun hk => hdisj x hk x hx rfl
      rw [depthTo_none_of_not_mem k x this]
      exact cacheL_depthToL ks x d hn2 h
end

mutual
theorem pairs_mem_leaf : ∀ (t : RT) (x y : Nat) (d : Rat), ((x, y), d) ∈ pairs t →
    x ∈ leafIds t ∧ y ∈ leafIds t
  | .node i _ [], x, y, d, h => by simp [pairs, pairsL] at h
  | .node _ _ (k :: ks), x, y, d, h => by
    simp only [pairs] at h; simp only [leafIds]; exact pairsL_mem_leaf (k :: ks) x y d h
theorem pairsL_mem_leaf : ∀ (ks : List RT) (x y : Nat) (d : Rat), ((x, y), d) ∈ pairsL ks →
    x ∈ leafIdsL ks ∧ y ∈ leafIdsL ks
  | [], _, _, _, h => by simp [pairsL] at h
  | k :: ks, x, y, d, h => by
    simp only [pairsL, List.mem_append] at h
    simp only [leafIdsL, List.mem_append]
    rcases h with h | h | h
    · have := pairs_mem_leaf k x y d h; exact ⟨Or.inl this.1, Or.inl this.2⟩
    · simp only [cross, List.mem_flatMap, List.mem_map, Prod.mk.injEq] at h
      obtain ⟨⟨a, da⟩, hma, ⟨b, db⟩, hmb, ⟨h1, h2⟩, _⟩ := h
      simp only at h1 h2; subst h1 h2
      obtain ⟨v0, hm, _⟩ := mem_shift.1 hma
      exact ⟨Or.inl (cache_mem_leaf k a v0 hm), Or.inr (cacheL_mem_leaf ks b db hmb)⟩
    · have := pairsL_mem_leaf ks x y d h; exact ⟨Or.inr this.1, Or.inr this.2⟩
end

mutual
theorem pairs_correct : ∀ (t : RT) (x y : Nat) (d : Rat), (leafIds t).Nodup → ((x, y), d) ∈ pairs t →
    pathLen t x y = some d
  | .node i _ [], x, y, d, _, h => by simp [pairs, pairsL] at h
  | .node _ _ (k :: ks), x, y, d, hn, h => by
    simp only [pairs] at h; simp only [leafIds] at hn; simp only [pathLen]
    exact pairsL_correct (k :: ks) x y d hn h
theorem pairsL_correct : ∀ (ks : List RT) (x y : Nat) (d : Rat), (leafIdsL ks).Nodup →
    ((x, y), d) ∈ pairsL ks → pathLenL ks x y = some d
  | [], _, _, _, _, h => by simp [pairsL] at h
  | k :: ks, x, y, d, hn, h => by
    simp only [leafIdsL, List.nodup_append] at hn
    obtain ⟨hn1, hn2, hdisj⟩ := hn
    simp only [pairsL, List.mem_append] at h
    simp only [pathLenL]
    rcases h with h | h | h
    · have hm := pairs_mem_leaf k x y d h
      obtain ⟨dx, hdx⟩ := mem_depthTo k x hm.1
      obtain ⟨dy, hdy⟩ := mem_depthTo k y hm.2
      rw [hdx, hdy]
      exact pairs_correct k x y d hn1 h
    · simp only [cross, List.mem_flatMap, List.mem_map, Prod.mk.injEq] at h
      obtain ⟨⟨a, da⟩, hma, ⟨b, db⟩, hmb, ⟨h1, h2⟩, h3⟩ := h
      simp only at h1 h2 h3; subst h1 h2 h3
      obtain ⟨v0, hm, rfl⟩ := mem_shift.1 hma
      have hb := cacheL_mem_leaf ks b db hmb
      have hbk : b ∉ leafIds k := fun hk => hdisj b hk b hb rfl
      rw [cache_depthTo k a v0 hn1 hm, depthTo_none_of_not_mem k b hbk,
          cacheL_depthToL ks b db hn2 hmb]
      simp
    · have hm := pairsL_mem_leaf ks x y d h
      have hxk : x ∉ leafIds k := fun hk => hdisj x hk x hm.1 rfl
      have hyk : y ∉ leafIds k := fun hk => hdisj y hk y hm.2 rfl
      rw [depthTo_none_of_not_mem k x hxk, depthTo_none_of_not_mem k y hyk]
      exact pairsL_correct ks x y d hn2 h
end

end DM
