import PhyloModel.Dist.RecWalkDefs
/-! # The fuel-based arena walk `walkF` computes the structural walk

Under the arena invariant, for a slot `c` that represents the tree `t` (`Rep a c t`):
* `walkF_down`: entered from its parent, the walk at `c` is `downW a t`;
* `walkF_upStep`: entered from the child `k`, the walk at `c` walks into the other children and then leaves `c` upward;
* `leaveUp_climb`: the walk that starts at the tip `x` of `t` is `upW a x t` followed by leaving `c` upward;
* `walkFrom_eq`: with the fuel `fuelOf a` of the executable model the walk from a tip of the tree below the root is
  `upW` of the whole tree -- the fuel is never exhausted (the walk never turns back, so it makes at most
  `depth x + height` nested calls). -/
namespace DMF
open AR DMW

abbrev Cache := List (Nat × Int)

def qrThen {α β : Type} (r : QR α) (k : α → Option (QR β)) : Option (QR β) :=
  match r with
  | .ok v => k v
  | .err e => some (.err e)
  | .panic => some .panic

/-- the walk leaves node `c` towards its parent (the last neighbour of the loop) -/
def leaveUp (f : Nat) (a : Arena) (c : Nat) (acc : Cache) (L : Int) : Option (QR Cache) :=
  match (nd a c).parent with
  | none => some (.ok acc)
  | some p =>
    match (nd a c).pedge with
    | none => some (.err "MissingBranchLengths")
    | some e => walkF f a p (some c) acc (L + e)

theorem walkF_succ (f : Nat) (a : Arena) (cur : Nat) (prev : Option Nat) (acc : Cache) (len : Int) :
    walkF (f + 1) a cur prev acc len =
      if !isLive a cur then some (.err "NodeNotFound") else
      if prev.isSome && (nd a cur).children.isEmpty then some (.ok (kvInsert acc cur len)) else
      if (nd a cur).children.any (fun c => !isLive a c) then some .panic else
      (neighbours a (nd a cur)).foldl
        (walkStep (fun nb acc' len' => walkF f a nb (some cur) acc' len') prev len) (some (.ok acc)) := rfl

theorem walkStep_stuck (rec : Nat → Cache → Int → Option (QR Cache)) (prev : Option Nat) (len : Int) :
    ∀ (l : List (Nat × Option Int)) (st : Option (QR Cache)), (∀ acc, st ≠ some (.ok acc)) →
      l.foldl (walkStep rec prev len) st = st
  | [], _, _ => rfl
  | nb :: l, st, h => by
    have h1 : walkStep rec prev len st nb = st := by
      unfold walkStep
      split
      · next acc => exact absurd rfl (h acc)
      · rfl
    rw [List.foldl_cons, h1]
    exact walkStep_stuck rec prev len l st h

theorem walkStep_skip (rec : Nat → Cache → Int → Option (QR Cache)) (p : Nat) (len : Int) (st : Option (QR Cache))
    (e : Option Int) : walkStep rec (some p) len st (p, e) = st := by
  unfold walkStep
  split
  · simp
  · rfl

theorem foldl_qrThen (rec : Nat → Cache → Int → Option (QR Cache)) (prev : Option Nat) (len : Int)
    (l : List (Nat × Option Int)) (r : QR Cache) :
    l.foldl (walkStep rec prev len) (some r) =
      qrThen r (fun acc => l.foldl (walkStep rec prev len) (some (.ok acc))) := by
  cases r with
  | ok acc => rfl
  | err e => exact walkStep_stuck rec prev len l _ (by intro acc h; cases h)
  | panic => exact walkStep_stuck rec prev len l _ (by intro acc h; cases h)

theorem repL_live {a : Arena} (ts : List RTI) (cs : List Nat) (h : RepL a cs ts) : ∀ c ∈ cs, live a c := by
  obtain ⟨rfl, hk⟩ := repL_iff.1 h
  intro c hc
  obtain ⟨k, hm, rfl⟩ := List.mem_map.1 hc
  exact (hk k hm).is_live

/-- the test for a removed child never fires on the roots of represented trees -/
theorem repL_none_removed {a : Arena} {ts : List RTI} {cs : List Nat} (h : RepL a cs ts) :
    cs.any (fun c => !isLive a c) = false := by
  rw [List.any_eq_false]
  intro c hc
  simp [(isLive_iff a c).2 (repL_live ts cs h c hc)]

theorem parent_not_child {a : Arena} (hinv : Inv a) {c p : Nat} (hl : live a c) (hp : (nd a c).parent = some p) :
    p ∉ (nd a c).children := by
  intro hm
  obtain ⟨_, _, hd1, _⟩ := hinv.child_ok c p hl hm
  obtain ⟨hlp, hcp⟩ := hinv.parent_ok c p hl hp
  obtain ⟨_, _, hd2, _⟩ := hinv.child_ok p c hlp hcp
  omega

theorem repL_split {a : Arena} (l : List RTI) (tk : RTI) (r : List RTI) (cs : List Nat) (h : RepL a cs (l ++ tk :: r)) :
    ∃ cl cr, cs = cl ++ rid tk :: cr ∧ RepL a cl l ∧ Rep a (rid tk) tk ∧ RepL a cr r := by
  obtain ⟨rfl, hk⟩ := repL_iff.1 h
  refine ⟨l.map RTI.id, r.map RTI.id, by rw [List.map_append, List.map_cons, rid_eq],
    repL_iff.2 ⟨rfl, fun k hm => hk k (by simp [hm])⟩, ?_, repL_iff.2 ⟨rfl, fun k hm => hk k (by simp [hm])⟩⟩
  rw [rid_eq]
  exact hk tk (by simp)

theorem heightL_append : ∀ (l1 l2 : List RTI), heightL (l1 ++ l2) = max (heightL l1) (heightL l2)
  | [], l2 => by simp [heightL]
  | k :: l1, l2 => by
    simp only [List.cons_append, heightL, heightL_append l1 l2, Nat.max_assoc]

theorem heightL_mid (l : List RTI) (k : RTI) (r : List RTI) :
    height k ≤ heightL (l ++ k :: r) ∧ heightL (l ++ r) ≤ heightL (l ++ k :: r) := by
  rw [heightL_append, heightL_append, heightL]
  exact ⟨Nat.le_trans (Nat.le_max_left _ _) (Nat.le_max_right _ _),
    Nat.max_le.2 ⟨Nat.le_max_left _ _, Nat.le_trans (Nat.le_max_right _ _) (Nat.le_max_right _ _)⟩⟩

theorem height_node (i : Nat) (ks : List RTI) : height (.node i ks) = 1 + heightL ks := by simp [height]

theorem succ_of_one_add_le {h g : Nat} (hg : 1 + h ≤ g) : ∃ g', g = g' + 1 := ⟨g - 1, by omega⟩

/-- the loop over the children: each call answers `downW` of its tree, the loop answers `downWL` of the list -/
theorem walkF_kids_of {a : Arena} (f cur : Nat) (prev : Option Nat) (L : Int) : ∀ (ks : List RTI) (acc : Cache),
    (∀ k ∈ ks, ∀ acc' L', walkF f a k.id (some cur) acc' L' = some (downW a k acc' L')) →
    (∀ k ∈ ks, some k.id ≠ prev) →
    ((ks.map RTI.id).map (fun c => (c, (nd a c).pedge))).foldl
      (walkStep (fun nb acc' len' => walkF f a nb (some cur) acc' len') prev L) (some (.ok acc))
      = some (downWL a ks acc L)
  | [], _, _, _ => rfl
  | k :: ks, acc, hrec, hprev => by
    rw [List.forall_mem_cons] at hrec hprev
    rw [List.map_cons, List.map_cons, List.foldl_cons, downWL_cons, rid_eq]
    have hne : (some k.id != prev) = true := by
      simp only [bne_iff_ne, ne_eq]; exact hprev.1
    simp only [walkStep, hne, ↓reduceIte]
    cases hp : (nd a k.id).pedge with
    | none => exact walkStep_stuck _ _ _ _ _ (by intro acc h; cases h)
    | some l =>
      simp only []
      rw [hrec.1, foldl_qrThen]
      cases hd : downW a k acc (L + l) with
      | ok acc1 => exact walkF_kids_of f cur prev L ks acc1 hrec.2 hprev.2
      | err e => rfl
      | panic => rfl

theorem walkF_down {a : Arena} (hinv : Inv a) : ∀ (t : RTI) (f c p : Nat) (acc : Cache) (L : Int), Rep a c t →
    height t ≤ f → (nd a c).parent = some p → walkF f a c (some p) acc L = some (downW a t acc L) := by
  intro t f c p acc L h hf hp
  refine Rep.fuel_ind (P := fun f c t => ∀ p acc L, (nd a c).parent = some p →
    walkF f a c (some p) acc L = some (downW a t acc L)) ?_ t f c h hf p acc L hp
  intro f c ks hl hc hk ih p acc L hp
  have hlive : isLive a c = true := (isLive_iff a c).2 hl
  rw [walkF_succ]
  simp only [hlive, Bool.not_true, Bool.false_eq_true, ↓reduceIte, Option.isSome_some, Bool.true_and]
  cases ks with
  | nil => rw [hc, downW_leaf]; simp
  | cons k ks =>
    have hrep : RepL a (nd a c).children (k :: ks) := repL_iff.2 ⟨hc, hk⟩
    have hne : (nd a c).children.isEmpty = false := by rw [hc]; rfl
    simp only [hne, repL_none_removed hrep, Bool.false_eq_true, ↓reduceIte]
    have hpc := parent_not_child hinv hl hp
    rw [neighbours, hp, hc, List.foldl_append,
      walkF_kids_of f c (some p) L (k :: ks) acc
        (fun k' hm acc' L' => ih k' hm c acc' L' (hinv.child_ok c k'.id hl (hc ▸ List.mem_map_of_mem hm)).2.1)
        (fun k' hm e => hpc (Option.some.inj e ▸ hc ▸ List.mem_map_of_mem hm)),
      List.foldl_cons, List.foldl_nil, walkStep_skip, downW_cons]

theorem walkF_kids {a : Arena} (hinv : Inv a) (ks : List RTI) (f cur : Nat) (prev : Option Nat) (cs : List Nat)
    (acc : Cache) (L : Int) (h : RepL a cs ks) (hf : heightL ks ≤ f) (hpar : ∀ c ∈ cs, (nd a c).parent = some cur)
    (hprev : ∀ c ∈ cs, some c ≠ prev) :
    (cs.map (fun c => (c, (nd a c).pedge))).foldl
      (walkStep (fun nb acc' len' => walkF f a nb (some cur) acc' len') prev L) (some (.ok acc))
      = some (downWL a ks acc L) := by
  obtain ⟨rfl, hk⟩ := repL_iff.1 h
  exact walkF_kids_of f cur prev L ks acc
    (fun k hm acc' L' => walkF_down hinv k f k.id cur acc' L' (hk k hm) (heightL_le.1 hf k hm)
      (hpar _ (List.mem_map_of_mem hm)))
    (fun k hm => hprev _ (List.mem_map_of_mem hm))

theorem walkF_upStep {a : Arena} (hinv : Inv a) (f c : Nat) (l : List RTI) (tk : RTI) (r : List RTI) (acc : Cache)
    (L : Int) (hl : live a c) (hk : RepL a (nd a c).children (l ++ tk :: r)) (hf : heightL (l ++ r) ≤ f) :
    walkF (f + 1) a c (some (rid tk)) acc L = qrThen (downWL a (l ++ r) acc L) (fun acc1 => leaveUp f a c acc1 L) := by
  obtain ⟨cl, cr, hcs, h1, h2, h3⟩ := repL_split l tk r _ hk
  have hlive : isLive a c = true := (isLive_iff a c).2 hl
  have hne : (nd a c).children.isEmpty = false := by rw [hcs]; cases cl <;> rfl
  have hnd : (cl ++ rid tk :: cr).Nodup := hcs ▸ hinv.nodup c
  have hno : rid tk ∉ cl ++ cr := (List.nodup_cons.1 (List.perm_middle.nodup_iff.1 hnd)).1
  have hkl : ∀ c' ∈ cl, some c' ≠ some (rid tk) :=
    fun c' hc' e => hno (Option.some.inj e ▸ List.mem_append_left cr hc')
  have hkr : ∀ c' ∈ cr, some c' ≠ some (rid tk) :=
    fun c' hc' e => hno (Option.some.inj e ▸ List.mem_append_right cl hc')
  have hpar : ∀ c' ∈ (nd a c).children, (nd a c').parent = some c := fun c' hc' => (hinv.child_ok c c' hl hc').2.1
  rw [heightL_append] at hf
  obtain ⟨hf1, hf2⟩ := Nat.max_le.1 hf
  rw [walkF_succ]
  simp only [hlive, hne, repL_none_removed hk, Bool.not_true, Bool.false_eq_true, ↓reduceIte, Bool.and_false]
  rw [neighbours, hcs, List.map_append, List.map_cons, List.foldl_append, List.foldl_append, List.foldl_cons]
  rw [walkF_kids hinv l f c (some (rid tk)) cl acc L h1 hf1
    (fun c' hc' => hpar c' (by rw [hcs]; simp [hc'])) hkl, walkStep_skip, downWL_append, ← List.foldl_append,
    foldl_qrThen]
  cases hd1 : downWL a l acc L with
  | err e => rfl
  | panic => rfl
  | ok acc1 =>
    simp only [qrThen, QR.bind_ok]
    rw [List.foldl_append, walkF_kids hinv r f c (some (rid tk)) cr acc1 L h3 hf2
      (fun c' hc' => hpar c' (by rw [hcs]; simp [hc'])) hkr, foldl_qrThen]
    cases hd2 : downWL a r acc1 L with
    | err e => rfl
    | panic => rfl
    | ok acc2 =>
      simp only [qrThen, leaveUp]
      cases hp : (nd a c).parent with
      | none => rfl
      | some p =>
        have hpk : (some p != some (rid tk)) = true := by
          simp only [bne_iff_ne, ne_eq, Option.some.injEq]
          intro e
          exact parent_not_child hinv hl hp (by rw [hcs, e]; simp)
        simp only [List.foldl_cons, List.foldl_nil, walkStep, hpk, ↓reduceIte]
        cases (nd a c).pedge <;> rfl

mutual
/-- fuel: the climb from `x` up to `c` nests `depth x - depth c` calls, so fuel `f` at `x` is fuel `g` at `c` when
    `f + depth c = g + depth x` -/
theorem leaveUp_climb {a : Arena} (hinv : Inv a) (x : Nat) : ∀ (t : RTI) (c f g : Nat) (acc : Cache), Rep a c t →
    x ∈ leafR t → f + (nd a c).depth = g + (nd a x).depth → height t ≤ g →
    leaveUp f a x acc 0 = qrThen (upW a x t acc) (fun r => leaveUp g a c r.1 r.2)
  | .node j [], c, f, g, acc, h, hx, hfg, _ => by
    simp only [Rep] at h
    obtain ⟨rfl, _, _⟩ := h
    rw [leafR_leaf] at hx
    simp only [List.mem_singleton] at hx
    subst hx
    have : f = g := by omega
    subst this
    rw [upW_leaf]
    rfl
  | .node j (k :: ks), c, f, g, acc, h, hx, hfg, hg => by
    simp only [Rep] at h
    obtain ⟨rfl, hl, hk⟩ := h
    rw [leafR_cons] at hx
    rw [height_node] at hg
    rw [upW_cons]
    exact leaveUp_climbL hinv x [] (k :: ks) c f g acc hl hk hx hfg hg
theorem leaveUp_climbL {a : Arena} (hinv : Inv a) (x : Nat) : ∀ (left right : List RTI) (c f g : Nat) (acc : Cache),
    live a c → RepL a (nd a c).children (left ++ right) → x ∈ leafRL right →
    f + (nd a c).depth = g + (nd a x).depth → 1 + heightL (left ++ right) ≤ g →
    leaveUp f a x acc 0 = qrThen (upWL a x left right acc) (fun r => leaveUp g a c r.1 r.2)
  | left, [], c, f, g, acc, _, _, hx, _, _ => by rw [leafRL_nil] at hx; simp at hx
  | left, k :: ks, c, f, g, acc, hl, hk, hx, hfg, hg => by
    rw [upWL_cons]
    by_cases hxk : x ∈ leafR k
    · simp only [hxk, ↓reduceIte]
      obtain ⟨cl, cr, hcs, h1, h2, h3⟩ := repL_split left k ks _ hk
      have hmem : rid k ∈ (nd a c).children := by rw [hcs]; simp
      obtain ⟨hlk, hpk, hdk, _⟩ := hinv.child_ok c (rid k) hl hmem
      obtain ⟨hh, hh'⟩ := heightL_mid left k ks
      obtain ⟨g', rfl⟩ := succ_of_one_add_le hg
      rw [leaveUp_climb hinv x k (rid k) f (g' + 1 + 1) acc h2 hxk (by omega) (by omega)]
      cases hu : upW a x k acc with
      | ok r =>
        simp only [qrThen, QR.bind_ok]
        rw [leaveUp, hpk]
        cases hp : (nd a (rid k)).pedge with
        | none => rfl
        | some e =>
          simp only []
          rw [walkF_upStep hinv (g' + 1) c left k ks r.1 (r.2 + e) hl hk (by omega)]
          cases downWL a (left ++ ks) r.1 (r.2 + e) <;> rfl
      | err e => rfl
      | panic => rfl
    · simp only [hxk, ↓reduceIte]
      rw [leafRL_cons, List.mem_append] at hx
      have hx' : x ∈ leafRL ks := hx.resolve_left hxk
      exact leaveUp_climbL hinv x (left ++ [k]) ks c f g acc hl
        (by rwa [List.append_assoc, List.singleton_append]) hx' hfg
        (by rwa [List.append_assoc, List.singleton_append])
end

/-- the first call `distance_matrix_recursive_impl(tip, None, ..)` at a tip: nothing is written, the walk leaves the
    tip towards its parent -/
theorem walkF_tip {a : Arena} (f x : Nat) (acc : Cache) (hl : live a x) (hc : (nd a x).children = []) :
    walkF (f + 1) a x none acc 0 = leaveUp f a x acc 0 := by
  have hlive : isLive a x = true := (isLive_iff a x).2 hl
  rw [walkF_succ]
  simp only [hlive, hc, Bool.not_true, Bool.false_eq_true, ↓reduceIte, Option.isSome_none, Bool.false_and,
    List.any_nil, neighbours, List.map_nil, List.nil_append, leaveUp]
  cases (nd a x).parent with
  | none => rfl
  | some p =>
    simp only [List.foldl_cons, List.foldl_nil, walkStep]
    cases (nd a x).pedge <;> simp

theorem walkFrom_eq {a : Arena} (hinv : Inv a) {r : Nat} {t : RTI} (hgr : getRoot a = some r) (ht : Rep a r t)
    {x : Nat} (hx : x ∈ leafR t) :
    walkFrom a x = (upW a x t []) >>= fun p => .ok p.1 := by
  obtain ⟨hlx, hcx⟩ := leafR_spec t r ht x hx
  have hroot := getRoot_spec hgr
  have hdx := depth_lt_size hinv x hlx
  have hd0 : (nd a r).depth = 0 := hinv.root_depth r hroot.1 hroot.2
  have hsz : szR t ≤ a.size := szR_le_size hinv.toW t r ht
  have hht := height_le_szR t
  have e : fuelOf a = (2 * a.size + 2) + 1 := rfl
  rw [walkFrom, e, walkF_tip _ x [] hlx hcx,
    leaveUp_climb hinv x t r (2 * a.size + 2) (2 * a.size + 2 - (nd a x).depth) [] ht hx (by omega) (by omega)]
  cases upW a x t [] with
  | ok p => simp only [qrThen, leaveUp, hroot.2, QR.bind_ok]
  | err e => rfl
  | panic => rfl

end DMF
