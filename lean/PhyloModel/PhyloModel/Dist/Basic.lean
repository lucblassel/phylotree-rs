/-! Rose-level form of `distance_matrix` (src/tree/tree_impl.rs): per-node caches `subtree_distances`, the pair
contributions, and the LCA-based path length they are compared with. -/
namespace DM

inductive RT where | node (id : Nat) (len : Rat) (kids : List RT)

def RT.len : RT → Rat | .node _ l _ => l
def RT.id : RT → Nat | .node i _ _ => i

def shift (d : Rat) (c : List (Nat × Rat)) : List (Nat × Rat) := c.map (fun p => (p.1, p.2 + d))

mutual
/-- `subtree_distances` of a node: leaf ↦ distance from the node -/
def cache : RT → List (Nat × Rat)
  | .node i _ [] => [(i, 0)]
  | .node _ _ (k :: ks) => cacheL (k :: ks)
def cacheL : List RT → List (Nat × Rat)
  | [] => []
  | k :: ks => shift k.len (cache k) ++ cacheL ks
end

def cross (c rest : List (Nat × Rat)) : List ((Nat × Nat) × Rat) :=
  c.flatMap (fun p => rest.map (fun q => ((p.1, q.1), p.2 + q.2)))

mutual
/-- all contributions `pairwise_vec[idx(l1,l2)] += d1 + d2`, in processing order irrelevant -/
def pairs : RT → List ((Nat × Nat) × Rat)
  | .node _ _ ks => pairsL ks
def pairsL : List RT → List ((Nat × Nat) × Rat)
  | [] => []
  | k :: ks => pairs k ++ (cross (shift k.len (cache k)) (cacheL ks) ++ pairsL ks)
end

mutual
/-- distance from the root of `t` down to leaf `x` -/
def depthTo : RT → Nat → Option Rat
  | .node i _ [], x => if i = x then some 0 else none
  | .node _ _ (k :: ks), x => depthToL (k :: ks) x
def depthToL : List RT → Nat → Option Rat
  | [], _ => none
  | k :: ks, x => match depthTo k x with
    | some d => some (d + k.len)
    | none => depthToL ks x
end

mutual
/-- textbook path length between two leaves: descend to the deepest node containing both -/
def pathLen : RT → Nat → Nat → Option Rat
  | .node _ _ ks, x, y => pathLenL ks x y
def pathLenL : List RT → Nat → Nat → Option Rat
  | [], _, _ => none
  | k :: ks, x, y =>
    match depthTo k x, depthTo k y with
    | some _, some _ => pathLen k x y
    | some dx, none => (depthToL ks y).map (fun dy => (dx + k.len) + dy)
    | none, some dy => (depthToL ks x).map (fun dx => dx + (dy + k.len))
    | none, none => pathLenL ks x y
end

mutual
def leafIds : RT → List Nat
  | .node i _ [] => [i]
  | .node _ _ (k :: ks) => leafIdsL (k :: ks)
def leafIdsL : List RT → List Nat
  | [] => []
  | k :: ks => leafIds k ++ leafIdsL ks
end

end DM
