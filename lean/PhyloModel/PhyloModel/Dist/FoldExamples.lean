import PhyloModel.Dist.FoldCorrect
/-! Non-vacuity of the hypotheses of `DMF.dmFast_correct` / `C08.dm_fast_correct_forest` / `dmFast_ok`: a concrete
    arena built with the model's own constructors, `(x:2,(y:5,z:7))` with the inner edge WITHOUT a length
    (counted as `unit = 10`), satisfies the invariant, has one root, and `dmFast` returns the expected matrix. -/
namespace DMF
open AR DMW

def ex0 : Arena := (add #[] none).1
def ex1 : Arena := (addChildNamed ex0 0 (some 2) (some "x")).1
def ex2 : Arena := (addChildNamed ex1 0 none none).1
def ex3 : Arena := (addChildNamed ex2 2 (some 5) (some "y")).1
def ex4 : Arena := (addChildNamed ex3 2 (some 7) (some "z")).1

theorem ex4_good : Good ex4 :=
  addChildNamed_good _ _ _ (addChildNamed_good _ _ _ (addChildNamed_good _ _ _ (addChildNamed_good _ _ _
    (add_good none empty_good))))

theorem ex4_oneRoot : AtMostOneRoot ex4 :=
  addChildNamed_oneRoot _ _ _ (addChildNamed_oneRoot _ _ _ (addChildNamed_oneRoot _ _ _ (addChildNamed_oneRoot _ _ _
    (add_empty_oneRoot none))))

theorem leaves_ex4 : leaves ex4 = [1, 3, 4] := by decide

theorem leafOrder_ex4 : leafOrder ex4 = [1, 3, 4] := by
  rw [leafOrder, leaves_ex4]
  have n1 : (nd ex4 1).name = some "x" := by decide
  have n3 : (nd ex4 3).name = some "y" := by decide
  have n4 : (nd ex4 4).name = some "z" := by decide
  have h : ([1, 3, 4] : List Nat).Pairwise (fun x y => nameLe (nd ex4 x).name (nd ex4 y).name = true) := by
    simp [n1, n3, n4, nameLe]
  exact List.mergeSort_of_pairwise h

theorem dmFast_ex4 : dmFast ex4 10 = .ok (["x", "y", "z"], [17, 19, 12]) := by
  rw [dmFast_eq, leafOrder_ex4]
  rfl

example : ∃ a names cells, Inv a ∧ AtMostOneRoot a ∧ dmFast a 10 = .ok (names, cells) ∧ cells.length = 3 :=
  ⟨ex4, _, _, ex4_good.1, ex4_oneRoot, dmFast_ex4, rfl⟩

/-- totality instantiated (its hypotheses are decidable facts about the example) -/
example : ∃ names cells, dmFast ex4 10 = .ok (names, cells) :=
  dmFast_ok ex4 10 ex4_good.1 (by decide) (by decide)

/-- the main theorem instantiated: the path length between taxon 1 (`y`, slot 3) and taxon 0 (`x`, slot 1)
    in the abstracted tree is the cell `(1, 0)` of the returned vector, `17 = 5 + 10 + 2` -/
example : ∃ t, absRoot ex4 = .ok t ∧ DM.pathLen (absDM 10 t) 3 1 = some 17 := by
  obtain ⟨t, h1, _, _, _, _, _, h7⟩ := dmFast_correct ex4 10 ex4_good.1 ex4_oneRoot _ _ dmFast_ex4
  refine ⟨t, h1, ?_⟩
  have := h7 1 0 (by omega) (by rw [leafOrder_ex4]; decide)
  simp only [leafOrder_ex4] at this
  simpa [MX.cell, Tri.idx] using this

end DMF
