import PhyloModel.Dist.FoldRose
import PhyloModel.Dist.FoldExamples
/-! Non-vacuity of `DMF.dmFast_eq_dmRose`, and a kernel-checked counterexample showing that its hypothesis
    "the tips have pairwise different names" is needed: in the arena `d4` (tree `((A:1,B:2):3,A:4)` whose
    first-listed tip `A` has the HIGHER slot index) the two definitions order the two taxa named `A`
    differently and return different vectors. -/
namespace DMF
open AR DMW

/-- the hypotheses of `dmFast_eq_dmRose` hold for the three-taxon example of `FoldExamples.lean` -/
example : Inv ex4 ∧ AtMostOneRoot ex4 ∧
    (∀ x ∈ leaves ex4, ∀ y ∈ leaves ex4, (nd ex4 x).name = (nd ex4 y).name → x = y) ∧
    dmRose ex4 10 = .ok (["x", "y", "z"], [17, 19, 12]) := by
  have hd : ∀ x ∈ leaves ex4, ∀ y ∈ leaves ex4, (nd ex4 x).name = (nd ex4 y).name → x = y := by
    rw [leaves_ex4]; decide
  refine ⟨ex4_good.1, ex4_oneRoot, hd, ?_⟩
  rw [← dmFast_eq_dmRose ex4 10 ex4_good.1 ex4_oneRoot hd, dmFast_ex4]

def d0 : Arena := (add #[] none).1
def d1 : Arena := (addChildNamed d0 0 (some 3) none).1
def d2 : Arena := (addChildNamed d1 0 (some 4) (some "A")).1
def d3 : Arena := (addChildNamed d2 1 (some 1) (some "A")).1
def d4 : Arena := (addChildNamed d3 1 (some 2) (some "B")).1

def d4tree : Rose := .node 0 none none 0
    [.node 1 none (some 3) 1 [.node 3 (some "A") (some 1) 2 [], .node 4 (some "B") (some 2) 2 []],
     .node 2 (some "A") (some 4) 1 []]

theorem absRoot_d4 : absRoot d4 = .ok d4tree := by rfl

theorem leafOrder_d4 : leafOrder d4 = [2, 3, 4] := by
  have hl : leaves d4 = [2, 3, 4] := by decide
  rw [leafOrder, hl]
  have n2 : (nd d4 2).name = some "A" := by decide
  have n3 : (nd d4 3).name = some "A" := by decide
  have n4 : (nd d4 4).name = some "B" := by decide
  have h : ([2, 3, 4] : List Nat).Pairwise (fun x y => nameLe (nd d4 x).name (nd d4 y).name = true) := by
    simp [n2, n3, n4, nameLe]
  exact List.mergeSort_of_pairwise h

theorem dmFast_d4 : dmFast d4 10 = .ok (["A", "A", "B"], [8, 9, 3]) := by
  rw [dmFast_eq, leafOrder_d4]
  rfl

theorem dmRose_d4 : dmRose d4 10 = .ok (["A", "A", "B"], [8, 3, 9]) := by
  rw [AR.dmRose_eq 10 absRoot_d4, matrixOf_eq]
  have ht : tipsWithNames d4tree = [(3, some "A"), (4, some "B"), (2, some "A")] := by rfl
  have hs : ([(3, some "A"), (4, some "B"), (2, some "A")] : List (Nat × Option String)).mergeSort
      tipLe = [(3, some "A"), (2, some "A"), (4, some "B")] := by
    simp [List.mergeSort, tipLe, nameLe, List.MergeSort.Internal.splitInTwo]
  rw [ht, hs]
  -- what is left is closed; `Rat` arithmetic is irreducible by default, so plain `rfl` stops at it
  with_unfolding_all rfl

/-- the hypothesis "pairwise different names" of `dmFast_eq_dmRose` cannot be dropped -/
example : Inv d4 ∧ AtMostOneRoot d4 ∧ dmFast d4 10 ≠ dmRose d4 10 := by
  refine ⟨?_, ?_, ?_⟩
  · exact (addChildNamed_good _ _ _ (addChildNamed_good _ _ _ (addChildNamed_good _ _ _ (addChildNamed_good _ _ _
      (add_good none empty_good))))).1
  · exact addChildNamed_oneRoot _ _ _ (addChildNamed_oneRoot _ _ _ (addChildNamed_oneRoot _ _ _
      (addChildNamed_oneRoot _ _ _ (add_empty_oneRoot none))))
  · rw [dmFast_d4, dmRose_d4]
    simp
end DMF
