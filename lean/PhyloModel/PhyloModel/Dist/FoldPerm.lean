import PhyloModel.Dist.FoldStep
/-! # The contributions of one iteration, as a permutation of the rose-level `crossWL`

The loop of `dmStep` enumerates (pair of children) × (leaf of the first) × (leaf of the second); the
rose-level definition enumerates (child) × (leaf of the child) × (leaf of any later child).  Both list the
same contributions (`stepCs_perm`). -/
namespace DMF
open AR DMW

theorem shiftI_perm (d : Int) {m m' : List (Nat × Int)} (h : m.Perm m') : (shiftI d m).Perm (shiftI d m') :=
  h.map _

theorem crossI_perm {A A' B B' : List (Nat × Int)} (hA : A.Perm A') (hB : B.Perm B') :
    (crossI A B).Perm (crossI A' B') := by
  simp only [crossI]
  refine (hA.flatMap_right _).trans ?_
  apply flatMap_perm_left
  intro p _
  exact hB.map _

theorem crossI_flatMap_right (A : List (Nat × Int)) (S : Nat → List (Nat × Int)) (cs : List Nat) :
    (crossI A (cs.flatMap S)).Perm (cs.flatMap (fun c => crossI A (S c))) := by
  simp only [crossI, List.map_flatMap]
  exact flatMap_comm_perm (fun p c => (S c).map (fun q => ((p.1, q.1), p.2 + q.2))) cs A

theorem stepCs_perm (w : Nat → Int) (tr : Nat → RTI) (m : Nat → List (Nat × Int)) : ∀ cs : List Nat,
    (∀ c ∈ cs, rid (tr c) = c) → (∀ c ∈ cs, (m c).Perm (cacheW w (tr c))) →
    (stepCs w m cs).Perm (crossWL w (cs.map tr))
  | [], _, _ => by simp [stepCs, pairsOfList, crossWL]
  | c :: cs, hr, hm => by
    have hr' : ∀ c' ∈ cs, rid (tr c') = c' := fun c' hc' => hr c' (by simp [hc'])
    have hm' : ∀ c' ∈ cs, (m c').Perm (cacheW w (tr c')) := fun c' hc' => hm c' (by simp [hc'])
    have ih := stepCs_perm w tr m cs hr' hm'
    simp only [stepCs] at ih
    simp only [stepCs, pairsOfList, List.flatMap_append, List.flatMap_map, List.map_cons, crossWL]
    refine List.Perm.append ?_ ih
    -- the pairs with first child `c`: gather the later children's leaves into one list, then replace the caches
    rw [hr c (by simp), cacheWL_map w tr cs hr']
    exact (crossI_flatMap_right _ (fun c' => shiftI (w c') (m c')) cs).symm.trans
      (crossI_perm (shiftI_perm _ (hm c (by simp)))
        (flatMap_perm_left _ _ cs (fun c' hc' => shiftI_perm _ (hm' c' hc'))))

end DMF
