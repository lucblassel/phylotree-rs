import PhyloModel.Dist.RecWalk
import PhyloModel.Dist.Tree
/-! # The walk of `distance_matrix_recursive_impl`, by structural recursion on the represented tree: definitions

`downW a t acc L` : the walk INTO the subtree `t` (coming from its parent) with accumulated length `L`.
`upW a x t acc`   : the part of the walk that starts at the tip `x` of `t` and stays inside `t`: it climbs from `x` to
                    the root of `t`, at every node on the way walking into the other subtrees; it returns the cache
                    and the length accumulated at the root of `t`.
`RecWalkCorrectArena` shows that the fuelled arena walk computes them, `RecWalkCorrectRose` what they record. -/
namespace DMF
open AR DMW

theorem bind_ok_inv {α β : Type} {r : QR α} {f : α → QR β} {v : β} (h : (r >>= f) = .ok v) :
    ∃ u, r = .ok u ∧ f u = .ok v := by
  cases r with
  | ok u => exact ⟨u, rfl, h⟩
  | err e => cases h
  | panic => cases h

mutual
def downW (a : Arena) : RTI → List (Nat × Int) → Int → QR (List (Nat × Int))
  | .node i [], acc, L => .ok (kvInsert acc i L)
  | .node _ (k :: ks), acc, L => downWL a (k :: ks) acc L
def downWL (a : Arena) : List RTI → List (Nat × Int) → Int → QR (List (Nat × Int))
  | [], acc, _ => .ok acc
  | k :: ks, acc, L =>
    match (nd a (rid k)).pedge with
    | none => .err "MissingBranchLengths"
    | some l => (downW a k acc (L + l)) >>= fun acc1 => downWL a ks acc1 L
end

theorem downW_leaf (a) (i : Nat) (acc L) : downW a (.node i []) acc L = .ok (kvInsert acc i L) := rfl
theorem downW_cons (a) (i : Nat) (k : RTI) (ks : List RTI) (acc L) :
    downW a (.node i (k :: ks)) acc L = downWL a (k :: ks) acc L := rfl
theorem downWL_nil (a) (acc L) : downWL a [] acc L = .ok acc := rfl
theorem downWL_cons (a) (k : RTI) (ks : List RTI) (acc L) :
    downWL a (k :: ks) acc L = match (nd a (rid k)).pedge with
      | none => .err "MissingBranchLengths"
      | some l => (downW a k acc (L + l)) >>= fun acc1 => downWL a ks acc1 L := rfl

theorem downWL_append (a) : ∀ (l1 l2 : List RTI) (acc : List (Nat × Int)) (L : Int),
    downWL a (l1 ++ l2) acc L = (downWL a l1 acc L) >>= fun acc1 => downWL a l2 acc1 L
  | [], l2, acc, L => by rw [downWL_nil]; rfl
  | k :: l1, l2, acc, L => by
    rw [List.cons_append, downWL_cons, downWL_cons]
    cases (nd a (rid k)).pedge with
    | none => rfl
    | some l =>
      simp only []
      cases downW a k acc (L + l) with
      | ok acc1 => simp only [QR.bind_ok]; exact downWL_append a l1 l2 acc1 L
      | err e => rfl
      | panic => rfl

mutual
def upW (a : Arena) (x : Nat) : RTI → List (Nat × Int) → QR (List (Nat × Int) × Int)
  | .node _ [], acc => .ok (acc, 0)
  | .node _ (k :: ks), acc => upWL a x [] (k :: ks) acc
def upWL (a : Arena) (x : Nat) : List RTI → List RTI → List (Nat × Int) → QR (List (Nat × Int) × Int)
  | _, [], _ => .err "panic-unreachable"
  | left, k :: ks, acc =>
    if x ∈ leafR k then
      (upW a x k acc) >>= fun r =>
        match (nd a (rid k)).pedge with
        | none => .err "MissingBranchLengths"
        | some e => (downWL a (left ++ ks) r.1 (r.2 + e)) >>= fun acc2 => .ok (acc2, r.2 + e)
    else upWL a x (left ++ [k]) ks acc
end

theorem upW_leaf (a) (x i : Nat) (acc) : upW a x (.node i []) acc = .ok (acc, 0) := rfl
theorem upW_cons (a) (x i : Nat) (k : RTI) (ks : List RTI) (acc) :
    upW a x (.node i (k :: ks)) acc = upWL a x [] (k :: ks) acc := rfl
theorem upWL_nil (a) (x : Nat) (left : List RTI) (acc) : upWL a x left [] acc = .err "panic-unreachable" := rfl
theorem upWL_cons (a) (x : Nat) (left : List RTI) (k : RTI) (ks : List RTI) (acc) :
    upWL a x left (k :: ks) acc =
      if x ∈ leafR k then
        (upW a x k acc) >>= fun r =>
          match (nd a (rid k)).pedge with
          | none => .err "MissingBranchLengths"
          | some e => (downWL a (left ++ ks) r.1 (r.2 + e)) >>= fun acc2 => .ok (acc2, r.2 + e)
      else upWL a x (left ++ [k]) ks acc := rfl

end DMF
