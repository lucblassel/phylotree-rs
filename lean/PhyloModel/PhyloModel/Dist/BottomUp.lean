import PhyloModel.Arena.LevelFacts
/-! # Reversed level order is a bottom-up order

In level order every node's children occur LATER than the node (`levelorder_after`), hence in the REVERSED
level order -- the order `Tree::distance_matrix` walks -- every node's children have been processed before
the node itself.  No depth argument is needed. -/
namespace AR

theorem levelorder_bottomUp {a : Arena} (hinv : Inv a) (x : Nat) (hl : live a x) :
    ∃ l, levelorder a x = some l ∧ l.reverse.Nodup ∧ (∀ v, v ∈ l.reverse ↔ ∃ k, BelowK a x v k) ∧
      ∀ l₁ v l₂, l.reverse = l₁ ++ v :: l₂ → ∀ c ∈ (nd a v).children, c ∈ l₁ := by
  obtain ⟨l, h1, h2, h3, _⟩ := levelorder_closed hinv x hl
  exact ⟨l, h1, (List.reverse_perm l).nodup_iff.2 h2, fun v => by rw [List.mem_reverse]; exact h3 v,
    (levelorder_after h1).reverse⟩

/-- non-vacuity: level order of a three-leaf tree built with the model's constructors -/
example :
    let a0 := (add #[] none).1
    let a1 := (addChildNamed a0 0 (some 2) (some "x")).1
    let a2 := (addChildNamed a1 0 none none).1
    let a3 := (addChildNamed a2 2 (some 5) (some "y")).1
    let a4 := (addChildNamed a3 2 (some 7) (some "z")).1
    levelorder a4 0 = some [0, 1, 2, 3, 4] := by decide

end AR
