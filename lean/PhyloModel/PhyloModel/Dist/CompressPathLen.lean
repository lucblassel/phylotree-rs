import PhyloModel.Dist.CompressReach
namespace DM

theorem pathLen_node (i : Nat) (l : Rat) (ks : List RT) (x y : Nat) :
    pathLen (.node i l ks) x y = pathLenL ks x y := by rw [pathLen]
theorem pathLenL_nil (x y : Nat) : pathLenL [] x y = none := by rw [pathLenL]

/-- `pathLenL` looks at a child only through `reach`: whether the leaf lies below it and, if so, how far it is from
    the common parent -- the two things `comp` keeps -/
theorem pathLenL_cons (k : RT) (ks : List RT) (x y : Nat) :
    pathLenL (k :: ks) x y = match reach k x, reach k y with
      | some _, some _ => pathLen k x y
      | some rx, none => (depthToL ks y).map (fun dy => rx + dy)
      | none, some ry => (depthToL ks x).map (fun dx => dx + ry)
      | none, none => pathLenL ks x y := by
  rw [pathLenL, reach, reach]
  cases depthTo k x <;> cases depthTo k y <;> rfl

mutual
theorem pathLen_none : ∀ (t : RT) (x y : Nat), depthTo t x = none ∨ depthTo t y = none → pathLen t x y = none
  | .node i l [], x, y, _ => by rw [pathLen_node, pathLenL_nil]
  | .node i l (k :: ks), x, y, h => by
    rw [pathLen_node]; rw [depthTo_cons, depthTo_cons] at h; exact pathLenL_none (k :: ks) x y h
theorem pathLenL_none : ∀ (ks : List RT) (x y : Nat), depthToL ks x = none ∨ depthToL ks y = none →
    pathLenL ks x y = none
  | [], x, y, _ => pathLenL_nil x y
  | k :: ks, x, y, h => by
    rw [depthToL_cons_reach, depthToL_cons_reach] at h
    rw [pathLenL_cons]
    generalize reach k x = rx at h ⊢
    generalize reach k y = ry at h ⊢
    match rx, ry with
    | none, none => exact pathLenL_none ks x y h
    | none, some _ => exact congrArg (Option.map _) (h.resolve_right (by simp) : depthToL ks x = none)
    | some _, none => exact congrArg (Option.map _) (h.resolve_left (by simp) : depthToL ks y = none)
    | some _, some _ => exact absurd h (by simp)
end

theorem pathLen_none_left : ∀ (t : RT) (x y : Nat), depthTo t x = none → pathLen t x y = none :=
  fun t x y h => pathLen_none t x y (Or.inl h)

-- C11: compress keeps every leaf-to-leaf path length
mutual
theorem pathLen_comp : ∀ (t : RT) (x y : Nat), pathLen (comp t) x y = pathLen t x y
  | .node i l [], x, y => by rw [comp]
  | .node i l [c], x, y => by
    have e1 : pathLen (comp (.node i l [c])) x y = pathLen (comp c) x y := by
      rw [comp]; cases comp c; rfl
    rw [e1, pathLen_comp c x y, pathLen_node, pathLenL_cons, pathLenL_nil, depthToL_nil, depthToL_nil, reach, reach]
    -- the unary node passes the question on to its child, or answers `none` exactly when the child does
    cases hx : depthTo c x with
    | none => rw [pathLen_none_left c x y hx]; cases depthTo c y <;> rfl
    | some dx =>
      cases hy : depthTo c y with
      | none => exact pathLen_none c x y (Or.inr hy)
      | some dy => rfl
  | .node i l (k1 :: k2 :: ks), x, y => by
    rw [comp, pathLen_node, pathLen_node, pathLenL_comp (k1 :: k2 :: ks) x y]
theorem pathLenL_comp : ∀ (ks : List RT) (x y : Nat), pathLenL (compL ks) x y = pathLenL ks x y
  | [], x, y => by rw [compL]
  | k :: ks, x, y => by
    rw [compL, pathLenL_cons, pathLenL_cons, reach_comp, reach_comp, depthToL_comp, depthToL_comp,
      pathLen_comp k x y, pathLenL_comp ks x y]
end

end DM
