import PhyloModel.Dist.FoldInv
import PhyloModel.Dist.Taxa
/-! # `DMF.dmFast` returns the path lengths

The executable arena fold `DMF.dmFast` (the transcription of `Tree::distance_matrix`: reversed level order,
per-slot `subtree_distances` caches, keyed accumulation into the triangular vector) is tied to the rose-level
mathematics of `Dist/{Basic,Lemmas,Keys}.lean`: under the arena invariant every cell of the returned vector is
the path length `DM.pathLen` between the two taxa of the cell, in the tree `absRoot a` represents. -/
namespace DMF
open AR DMW

def idxIn (order : List Nat) (leaf : Nat) : Option Nat :=
  let i := order.findIdx (· == leaf); if i < order.length then some i else none

theorem dmFast_eq (a : Arena) (unit : Int) : dmFast a unit =
    (if (leafOrder a).any (fun l => (nd a l).name.isNone) then .err "UnnamedLeaves" else do
      let r ← root a
      let lo ← QR.ofOpt (levelorder a r) "NodeNotFound"
      let st ← lo.reverse.foldl (dmStep a unit (idxIn (leafOrder a))) (.ok (st0 a (Tri.T (leafOrder a).length)))
      pure ((leafOrder a).map (fun l => ((nd a l).name).getD ""), st.pw.toList)) := rfl

theorem idxIn_mem {order : List Nat} {x : Nat} (h : x ∈ order) :
    ∃ i, idxIn order x = some i ∧ ∃ hi : i < order.length, order[i] = x := by
  have hlt : order.findIdx (· == x) < order.length := List.findIdx_lt_length_of_exists ⟨x, h, by simp⟩
  refine ⟨order.findIdx (· == x), by simp only [idxIn, hlt, ↓reduceIte], hlt, ?_⟩
  have := List.findIdx_getElem (p := (· == x)) (xs := order) (w := hlt)
  simpa using this

theorem idxIn_getElem {order : List Nat} (hn : order.Nodup) {i : Nat} (hi : i < order.length) :
    idxIn order order[i] = some i := by
  obtain ⟨k, hk, hkl, he⟩ := idxIn_mem (List.getElem_mem hi)
  rw [hk, (List.getElem_inj hn).1 he]

theorem keyOf_inj (order : List Nat) : KeyInj (keyOf (idxIn order)) order := by
  intro x y x' y' hx hy hx' hy' hxy hxy' e
  obtain ⟨i, hi, hil, rfl⟩ := idxIn_mem hx
  obtain ⟨j, hj, hjl, rfl⟩ := idxIn_mem hy
  obtain ⟨i', hi', hil', rfl⟩ := idxIn_mem hx'
  obtain ⟨j', hj', hjl', rfl⟩ := idxIn_mem hy'
  simp only [keyOf, hi, hj, hi', hj', Option.getD_some] at e
  have hij : i ≠ j := fun e => hxy (by subst e; rfl)
  have hij' : i' ≠ j' := fun e => hxy' (by subst e; rfl)
  rcases MX.cell_inj hij hij' e with ⟨rfl, rfl⟩ | ⟨rfl, rfl⟩
  · exact Or.inl ⟨rfl, rfl⟩
  · exact Or.inr ⟨rfl, rfl⟩

theorem keyOf_symm (idxOf : Nat → Option Nat) (x y : Nat) : keyOf idxOf (x, y) = keyOf idxOf (y, x) := by
  simp only [keyOf]
  by_cases h : (idxOf x).getD 0 = (idxOf y).getD 0
  · rw [h]
  · exact MX.cell_symm _ _ h

open Classical in
noncomputable def trOf (a : Arena) (v : Nat) : RTI :=
  if h : ∃ t, Rep a v t then Classical.choose h else .node 0 []

theorem trOf_spec {a : Arena} (v : Nat) (t : RTI) (h : Rep a v t) : trOf a v = t := by
  have hex : ∃ t, Rep a v t := ⟨t, h⟩
  simp only [trOf, hex, ↓reduceDIte]
  exact rep_unique a _ _ v (Classical.choose_spec hex) h

theorem toList_getD (pw : Array Int) (k : Nat) : pw.toList.getD k 0 = pw.getD k 0 := by
  simp [Array.getD_eq_getD_getElem?, List.getD_eq_getElem?_getD]

/-- under the invariant, from the root `r` the loop of `distance_matrix` runs to completion: `dmFast` answers with
    the vector `cells` (unless a tip is unnamed), and the cell of the taxa `j < i` holds the keyed sum of the rose-level
    contributions `pairsW` of the tree `t` the root represents -/
theorem dmFast_root {a : Arena} (unit : Int) (hinv : Inv a) {r : Nat} {t : RTI} (hgr : getRoot a = some r)
    (ht : Rep a r t) :
    ∃ cells, dmFast a unit = (if (leafOrder a).any (fun l => (nd a l).name.isNone) then .err "UnnamedLeaves"
        else .ok ((leafOrder a).map (fun l => ((nd a l).name).getD ""), cells)) ∧
      cells.length = Tri.T (leafOrder a).length ∧
      ∀ (i j : Nat) (hj : j < i) (hi : i < (leafOrder a).length), cells.getD (MX.cell i j) 0
        = csum (keyOf (idxIn (leafOrder a))) (pairsW (wOf a unit) t)
            (keyOf (idxIn (leafOrder a)) ((leafOrder a)[i], (leafOrder a)[j]'(Nat.lt_trans hj hi))) := by
  obtain ⟨lo, hlo, hlond, hlomem, _⟩ := levelorder_closed hinv r (getRoot_spec hgr).1
  have hrep : ∀ v ∈ lo, Rep a v (trOf a v) := by
    intro v hv
    obtain ⟨k, hb⟩ := (hlomem v).1 hv
    obtain ⟨tv, htv, _⟩ := rep_total hinv v hb.is_live
    rw [trOf_spec v tv htv]; exact htv
  have hidx : ∀ v ∈ lo, ∀ x ∈ leafR (trOf a v), (idxIn (leafOrder a) x).isSome := by
    intro v hv x hx
    obtain ⟨i, hi, _⟩ := idxIn_mem ((leafOrder_perm a).mem_iff.2 (mem_leaves.2 (leafR_spec _ v (hrep v hv) x hx)))
    simp [hi]
  obtain ⟨st, hst, hfinv⟩ := fold_inv (unit := unit) (idxOf := idxIn (leafOrder a)) (N := Tri.T (leafOrder a).length)
    trOf_spec lo (levelorder_after hlo) hrep (fun v hv => leafR_nodup hinv.toW (hrep v hv)) hidx
  -- the contributions, node by node, are those of `pairsW`
  have hcs : (lo.flatMap (crossAt a unit (trOf a))).Perm (pairsW (wOf a unit) t) := by
    have hperm : lo.Perm (pre t) := by
      rw [List.perm_ext_iff_of_nodup hlond (pre_nodup hinv.toW t r ht)]
      intro v
      rw [hlomem v, mem_pre_iff hinv.toW t r ht v]
    refine (hperm.flatMap_right _).trans ?_
    rw [pre_eq_subs, List.flatMap_map]
    refine (flatMap_perm_left _ (fun s => crossWL (wOf a unit) (rkids s)) _ ?_).trans (pairsW_perm _ t).symm
    intro s hs
    simp only [crossAt]
    rw [trOf_spec (rid s) s (subs_rep t r ht s hs)]
  refine ⟨st.pw.toList, ?_, by rw [Array.length_toList, hfinv.pwsize], fun i j hj hi => ?_⟩
  · rw [dmFast_eq]
    simp only [root, hgr, QR.ofOpt, QR.bind_ok, hlo, hst, QR.pure_eq]
  · rw [toList_getD, hfinv.pw_ok _ (MX.cell_lt (Nat.ne_of_gt hj) hi (Nat.lt_trans hj hi)), csum_perm _ hcs]
    simp only [keyOf, idxIn_getElem (leafOrder_nodup a), Option.getD_some]

/-- what `dmFast` returns, in terms of the id-only tree `t` the root slot represents -/
theorem dmFast_core (a : Arena) (unit : Int) (hinv : Inv a) (names : List String) (cells : List Int)
    (h : dmFast a unit = .ok (names, cells)) :
    ∃ r t, getRoot a = some r ∧ Rep a r t ∧ absRoot a = .ok (roseOf a t) ∧
      names = (leafOrder a).map (fun l => ((nd a l).name).getD "") ∧
      (∀ l ∈ leafOrder a, (nd a l).name.isSome) ∧
      cells.length = Tri.T (leafOrder a).length ∧
      (leafR t).Nodup ∧
      (∀ x, x ∈ leafR t → x ∈ leafOrder a) ∧
      ∀ (i j : Nat) (hj : j < i) (hi : i < (leafOrder a).length),
        ((leafOrder a)[i] ∈ leafR t ∧ (leafOrder a)[j]'(Nat.lt_trans hj hi) ∈ leafR t →
          DM.pathLen (toRT (wOf a unit) t) (leafOrder a)[i] ((leafOrder a)[j]'(Nat.lt_trans hj hi))
            = some (((cells.getD (MX.cell i j) 0 : Int)) : Rat)) ∧
        (¬ ((leafOrder a)[i] ∈ leafR t ∧ (leafOrder a)[j]'(Nat.lt_trans hj hi) ∈ leafR t) →
          cells.getD (MX.cell i j) 0 = 0) := by
  cases hgr : getRoot a with
  | none =>
    rw [dmFast_eq] at h
    split at h
    · cases h
    · simp [root, hgr, QR.ofOpt] at h
  | some r =>
    obtain ⟨t, ht, habs⟩ := root_rep hinv hgr
    obtain ⟨cells', hF, hlen, hpw⟩ := dmFast_root unit hinv hgr ht
    rw [hF] at h
    split at h
    · cases h
    next hnamed =>
    simp only [QR.ok.injEq, Prod.mk.injEq] at h
    obtain ⟨rfl, rfl⟩ := h
    have hleafnd := leafR_nodup hinv.toW ht
    have hleafO : ∀ x ∈ leafR t, x ∈ leafOrder a := fun x hx =>
      (leafOrder_perm a).mem_iff.2 (mem_leaves.2 (leafR_spec t r ht x hx))
    refine ⟨r, t, rfl, ht, habs, rfl, named_of_not_any hnamed, hlen, hleafnd, hleafO, ?_⟩
    · intro i j hj hi
      have hxy := (leafOrder_pair a hj hi).1
      rw [hpw i j hj hi]
      exact ⟨fun ⟨hx, hy⟩ => csum_pairs_pathLen (wOf a unit) t hleafnd _ (leafOrder a) hleafO (keyOf_inj _)
          (keyOf_symm _) _ _ hx hy hxy,
        fun hout => csum_pairs_zero (wOf a unit) t hleafnd _ (leafOrder a) hleafO (keyOf_inj _) _ _
          (List.getElem_mem hi) (List.getElem_mem _) hxy hout⟩

/-- **Main theorem.**  For an arena satisfying the invariant and holding one tree (at most one parentless live
    slot): if the executable transcription `dmFast` of `Tree::distance_matrix` returns `(names, cells)` then
    `absRoot a` is a tree `t`, its tips are exactly the taxa `leafOrder a` (the live tips stably sorted by name,
    as `dmFast` orders them), `names` are their names, the vector has `n(n-1)/2` cells, and the cell of every
    pair `j < i` is the path length `DM.pathLen` between taxon `i` and taxon `j` in `t` (lengths in the scaled
    integers of the model, a missing length counted as `unit`). -/
theorem dmFast_correct (a : Arena) (unit : Int) (hinv : Inv a) (h1 : AtMostOneRoot a) (names : List String)
    (cells : List Int) (h : dmFast a unit = .ok (names, cells)) :
    ∃ t, absRoot a = .ok t ∧
      names = (leafOrder a).map (fun l => ((nd a l).name).getD "") ∧
      (∀ l ∈ leafOrder a, (nd a l).name.isSome) ∧
      cells.length = Tri.T (leafOrder a).length ∧
      (DM.leafIds (absDM unit t)).Nodup ∧
      (∀ x, x ∈ DM.leafIds (absDM unit t) ↔ x ∈ leafOrder a) ∧
      ∀ (i j : Nat) (hj : j < i) (hi : i < (leafOrder a).length),
        DM.pathLen (absDM unit t) (leafOrder a)[i] ((leafOrder a)[j]'(Nat.lt_trans hj hi))
          = some (((cells.getD (MX.cell i j) 0 : Int)) : Rat) := by
  obtain ⟨r, t, hgr, ht, h2, h3, h4, h5, h6, h7, h8⟩ := dmFast_core a unit hinv names cells h
  have hall : ∀ x, x ∈ leafOrder a → x ∈ leafR t := fun x hx =>
    (leafR_perm_leaves hinv h1 hgr ht).mem_iff.2 ((leafOrder_perm a).mem_iff.1 hx)
  refine ⟨roseOf a t, h2, h3, h4, h5, ?_, ?_, ?_⟩
  · rw [absDM_roseOf, leafIds_toRT]; exact h6
  · rw [absDM_roseOf, leafIds_toRT]; exact fun x => ⟨h7 x, hall x⟩
  · intro i j hj hi
    rw [absDM_roseOf]
    exact (h8 i j hj hi).1 ⟨hall _ (List.getElem_mem hi), hall _ (List.getElem_mem _)⟩

/-- **Totality.**  Under the invariant `dmFast` never panics and never reports `NodeNotFound`,
    `MissingBranchLengths` or the `unwrap` failure: it returns a matrix unless a tip is unnamed
    (`UnnamedLeaves`) or the arena has no live slot (`RootNotFound`). -/
theorem dmFast_total (a : Arena) (unit : Int) (hinv : Inv a) :
    (dmFast a unit = .err "UnnamedLeaves" ∧ ∃ l ∈ leaves a, (nd a l).name = none) ∨
    (dmFast a unit = .err "RootNotFound" ∧ getRoot a = none ∧ ∀ i, ¬ live a i) ∨
    (∃ names cells, dmFast a unit = .ok (names, cells)) := by
  rw [dmFast_eq]
  split
  next hun =>
    refine Or.inl ⟨rfl, ?_⟩
    simp only [List.any_eq_true, Option.isNone_iff_eq_none] at hun
    obtain ⟨l, hl, hn⟩ := hun
    exact ⟨l, (leafOrder_perm a).mem_iff.1 hl, hn⟩
  next hnamed =>
    cases hgr : getRoot a with
    | none =>
      exact Or.inr (Or.inl ⟨by simp [root, hgr, QR.ofOpt], rfl, no_root_no_live hinv hgr⟩)
    | some r =>
      obtain ⟨t, ht, _⟩ := root_rep hinv hgr
      obtain ⟨cells, hF, _⟩ := dmFast_root unit hinv hgr ht
      rw [dmFast_eq] at hF
      simp only [hnamed] at hF
      exact Or.inr (Or.inr ⟨_, cells, hF⟩)

theorem dmFast_ok (a : Arena) (unit : Int) (hinv : Inv a) (hroot : (getRoot a).isSome)
    (hnamed : ∀ l ∈ leaves a, (nd a l).name.isSome) : ∃ names cells, dmFast a unit = .ok (names, cells) := by
  rcases dmFast_total a unit hinv with ⟨_, l, hl, hn⟩ | ⟨_, hn, _⟩ | h
  · have := hnamed l hl; simp [hn] at this
  · simp [hn] at hroot
  · exact h

end DMF
