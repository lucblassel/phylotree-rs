import PhyloModel.Dist.FoldCorrect
/-! # The two executable definitions agree: `dmFast a unit = dmRose a unit`

`DMF.dmRose` computes the matrix from the rose tree `absRoot a` by structural recursion (`DM.pairs`).  Under the
invariant, for an arena holding one tree whose tips carry pairwise different names, it returns exactly what the
arena fold `DMF.dmFast` returns.  (With two tips of the SAME name the two definitions may order these two taxa
differently -- `dmFast` breaks the tie by slot index as the crate's stable sort of `get_leaves()` does,
`dmRose` by position in the tree -- so the hypothesis cannot be dropped.) -/
namespace DMF
open AR DMW

theorem contrib_aux (key : Nat × Nat → Nat) (k x y : Nat) : ∀ (P : List ((Nat × Nat) × Int)) (s0 : Rat),
    (∀ c ∈ P, (((c.1.1 == x && c.1.2 == y) || (c.1.1 == y && c.1.2 == x)) = true ↔ key c.1 = k)) →
    ((castP P).filter (fun p => (p.1.1 == x && p.1.2 == y) || (p.1.1 == y && p.1.2 == x))).foldl
      (fun s p => s + p.2) s0 = s0 + ((csum key P k : Int) : Rat)
  | [], s0, _ => by simp [castP, csum_nil, Rat.add_zero]
  | c :: P, s0, h => by
    have hc := h c (by simp)
    have ih := contrib_aux key k x y P
    have hP : ∀ c' ∈ P, (((c'.1.1 == x && c'.1.2 == y) || (c'.1.1 == y && c'.1.2 == x)) = true ↔ key c'.1 = k) :=
      fun c' hc' => h c' (by simp [hc'])
    have hcast : castP (c :: P) = (c.1, ((c.2 : Int) : Rat)) :: castP P := rfl
    rw [hcast, List.filter_cons, csum_cons]
    by_cases hk : key c.1 = k
    · have hq := hc.2 hk
      simp only [hq, ↓reduceIte, List.foldl_cons, hk]
      rw [ih _ hP, Rat.intCast_add, Rat.add_assoc]
    · have hq : ((c.1.1 == x && c.1.2 == y) || (c.1.1 == y && c.1.2 == x)) = false :=
        Bool.eq_false_iff.2 (fun hb => hk (hc.1 hb))
      simp only [hq, hk, ↓reduceIte, Bool.false_eq_true]
      rw [ih _ hP, Int.zero_add]

/-- the filter of `dmRose` for two different tips selects exactly the contributions keyed to their cell -/
theorem contrib_pairs (w : Nat → Int) (t : RTI) (hn : (leafR t).Nodup) (key : Nat × Nat → Nat) (O : List Nat)
    (hO : ∀ x ∈ leafR t, x ∈ O) (hinj : KeyInj key O) (hsym : ∀ a b, key (a, b) = key (b, a)) {x y : Nat}
    (hx : x ∈ O) (hy : y ∈ O) (hxy : x ≠ y) :
    contrib (DM.pairs (toRT w t)) x y = some ((csum key (pairsW w t) (key (x, y)) : Int) : Rat) := by
  rw [pairs_toRT, contrib, contrib_aux key (key (x, y)) x y _ 0, Rat.zero_add]
  intro c hc
  have hm : c.1 ∈ DM.allPairs (leafR t) := (pairsW_keys w t).mem_iff.1 (List.mem_map.2 ⟨c, hc, rfl⟩)
  obtain ⟨⟨u, v⟩, d⟩ := c
  obtain ⟨hu, hv, huv⟩ := DM.allPairs_mem _ hn u v hm
  simp only [Bool.or_eq_true, Bool.and_eq_true, beq_iff_eq]
  constructor
  · rintro (⟨rfl, rfl⟩ | ⟨rfl, rfl⟩)
    · rfl
    · exact hsym _ _
  · exact fun e => hinj u v x y (hO u hu) (hO v hv) hx hy huv hxy e

/-- **The two executable definitions agree** on an arena that satisfies the invariant, holds one tree, and
    whose tips have pairwise different names (an unnamed tip counts as a name of its own). -/
theorem dmFast_eq_dmRose (a : Arena) (unit : Int) (hinv : Inv a) (h1 : AtMostOneRoot a)
    (hdist : ∀ x ∈ leaves a, ∀ y ∈ leaves a, (nd a x).name = (nd a y).name → x = y) :
    dmFast a unit = dmRose a unit := by
  cases hgr : getRoot a with
  | none => simp [dmFast_eq, leafOrder_noroot hinv hgr, dmRose, absRoot, root, hgr, QR.ofOpt]
  | some r =>
    obtain ⟨t, ht, habs⟩ := root_rep hinv hgr
    obtain ⟨cells, hF, hlen, hpw⟩ := dmFast_root unit hinv hgr ht
    have hperm := leafR_perm_leaves hinv h1 hgr ht
    have hleafO : ∀ x ∈ leafR t, x ∈ leafOrder a := fun x hx =>
      (leafOrder_perm a).mem_iff.2 (hperm.mem_iff.1 hx)
    have hany : ((leafR t).map (fun i => (i, (nd a i).name))).any (fun p => p.2.isNone)
        = (leafOrder a).any (fun l => (nd a l).name.isNone) := by
      rw [List.any_map]
      exact (hperm.trans (leafOrder_perm a).symm).any_eq
    rw [hF, AR.dmRose_eq unit habs, matrixOf_eq, tipsWithNames_roseOf, hany]
    split
    · rfl
    next hun =>
      have hsorted : ((leafR t).map (fun i => (i, (nd a i).name))).mergeSort tipLe
          = (leafOrder a).map (fun i => (i, (nd a i).name)) :=
        tips_mergeSort a hperm (fun x hx => named_of_not_any hun x ((leafOrder_perm a).mem_iff.2 hx)) hdist
      -- the cells: the sum `dmRose` forms for two taxa is the keyed sum the fold has accumulated in their cell
      rw [hsorted, cellsOf_ok _ _ (fun i j => ((cells.getD (Tri.T i + j) 0 : Int) : Rat)) (fun i j hj hi => by
        rw [List.length_map] at hi
        obtain ⟨hxy, _, _⟩ := leafOrder_pair a hj hi
        rw [getD_map_fst a _ i hi, getD_map_fst a _ j (Nat.lt_trans hj hi), absDM_roseOf,
          contrib_pairs _ t (leafR_nodup hinv.toW ht) _ _ hleafO (keyOf_inj _) (keyOf_symm _) (List.getElem_mem hi)
            (List.getElem_mem _) hxy,
          ← hpw i j hj hi, cell_of_lt hj])]
      simp only [QR.bind_ok, QR.pure_eq, List.map_map, List.length_map, ratToInt_intCast, Function.comp_def,
        rowMajor_of_getD cells _ hlen]

end DMF
