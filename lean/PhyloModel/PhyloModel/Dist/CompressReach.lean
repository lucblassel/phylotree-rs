import PhyloModel.Dist.Basic
/-! C11 on the rose tree: splicing out unary nodes (`comp`) keeps every root-to-leaf distance (`reach_comp`); the
    leaf-to-leaf path lengths follow in `Dist/CompressPathLen`. -/
namespace DM

def RT.kids : RT → List RT | .node _ _ ks => ks

mutual
/-- compress applied at a child position: a unary node is replaced by its (compressed) child, lengths added -/
def comp : RT → RT
  | .node i l [] => .node i l []
  | .node _ l [c] => .node (comp c).id (l + (comp c).len) (comp c).kids
  | .node i l (k1 :: k2 :: ks) => .node i l (compL (k1 :: k2 :: ks))
def compL : List RT → List RT
  | [] => []
  | k :: ks => comp k :: compL ks
end

/-- the root itself is never spliced -/
def compRoot : RT → RT | .node i l ks => .node i l (compL ks)

/-- distance from the parent of `t` down to leaf `x` -/
def reach (t : RT) (x : Nat) : Option Rat := (depthTo t x).map (· + t.len)

theorem depthTo_congr (i j : Nat) (l l' : Rat) (ks : List RT) (hk : ks ≠ []) (x : Nat) :
    depthTo (.node i l ks) x = depthTo (.node j l' ks) x := by
  cases ks with
  | nil => exact absurd rfl hk
  | cons k ks => simp only [depthTo]

theorem node_eta (t : RT) : RT.node t.id t.len t.kids = t := by cases t; rfl

theorem depthTo_len (i : Nat) (l l' : Rat) (ks : List RT) (x : Nat) :
    depthTo (.node i l ks) x = depthTo (.node i l' ks) x := by
  cases ks <;> simp only [depthTo]

theorem depthToL_cons_reach (k : RT) (ks : List RT) (x : Nat) :
    depthToL (k :: ks) x = (reach k x).orElse (fun _ => depthToL ks x) := by
  rw [depthToL, reach]
  cases depthTo k x <;> rfl

theorem depthTo_cons (i : Nat) (l : Rat) (k : RT) (ks : List RT) (x : Nat) :
    depthTo (.node i l (k :: ks)) x = depthToL (k :: ks) x := by rw [depthTo]
theorem depthToL_nil (x : Nat) : depthToL [] x = none := by rw [depthToL]

mutual
theorem reach_comp : ∀ (t : RT) (x : Nat), reach (comp t) x = reach t x
  | .node i l [], x => by simp [comp]
  | .node i l [c], x => by
    -- the spliced node has the id and kids of `comp c`, so it reaches the same leaves at the same depths
    have e1 : depthTo (.node (comp c).id (l + (comp c).len) (comp c).kids) x = depthTo (comp c) x := by
      rw [depthTo_len _ _ (comp c).len, node_eta]
    have e2 : depthTo (.node i l [c]) x = reach c x := by
      rw [depthTo_cons, depthToL_cons_reach, depthToL_nil]; cases reach c x <;> rfl
    rw [comp, reach, reach, e1, e2, ← reach_comp c x, reach]
    cases depthTo (comp c) x with
    | none => rfl
    | some d => simp [RT.len]; grind
  | .node i l (k1 :: k2 :: ks), x => by
    have hl : compL (k1 :: k2 :: ks) = comp k1 :: compL (k2 :: ks) := by rw [compL]
    have h : depthTo (.node i l (compL (k1 :: k2 :: ks))) x = depthTo (.node i l (k1 :: k2 :: ks)) x := by
      rw [hl, depthTo_cons, ← hl, depthToL_comp (k1 :: k2 :: ks) x, depthTo_cons]
    rw [comp, reach, h]; rfl
theorem depthToL_comp : ∀ (ks : List RT) (x : Nat), depthToL (compL ks) x = depthToL ks x
  | [], x => by simp [compL]
  | k :: ks, x => by
    have h1 := reach_comp k x
    have h2 := depthToL_comp ks x
    rw [compL, depthToL_cons_reach, depthToL_cons_reach, h1, h2]
end

end DM
