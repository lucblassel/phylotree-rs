import PhyloModel.Dist.Fold
import PhyloModel.Dist.CSum
import PhyloModel.Arena.QRLemmas
/-! # One iteration of the main loop of `dmFast`

`DMF.dmStep` at a node whose children all carry a correct `subtree_distances` cache (a permutation of the
integer cache `DMW.cacheW` of the child's tree) stores a correct cache at the node, leaves all other caches
alone, and adds to the triangular vector exactly the contributions `DMW.crossWL` of the node. -/
namespace DMF
open AR DMW

theorem kvInsert_fresh (m : List (Nat × Int)) (k : Nat) (v : Int) (h : k ∉ ckeysI m) :
    kvInsert m k v = (k, v) :: m := by
  simp only [kvInsert, List.cons.injEq, true_and, List.filter_eq_self]
  intro p hp
  simp only [bne_iff_ne, ne_eq]
  intro e
  exact h (by simp only [ckeysI, List.mem_map]; exact ⟨p, hp, e⟩)

theorem foldl_kvInsert_fresh (d : Int) : ∀ (sub acc : List (Nat × Int)), (ckeysI sub ++ ckeysI acc).Nodup →
    sub.foldl (fun cache p => kvInsert cache p.1 (d + p.2)) acc = (shiftI d sub).reverse ++ acc
  | [], acc, _ => by simp [shiftI]
  | p :: sub, acc, h => by
    have h0 : (p.1 :: (ckeysI sub ++ ckeysI acc)).Nodup := h
    have hp : p.1 ∉ ckeysI acc := fun hm => (List.nodup_cons.1 h0).1 (List.mem_append_right _ hm)
    have h' : (ckeysI sub ++ ckeysI ((p.1, d + p.2) :: acc)).Nodup := List.perm_middle.nodup_iff.2 h0
    rw [List.foldl_cons, kvInsert_fresh _ _ _ hp, foldl_kvInsert_fresh d sub _ h']
    simp [shiftI]

theorem kvGet_mem (m : List (Nat × Int)) (k : Nat) (v : Int) (hn : (ckeysI m).Nodup) (h : (k, v) ∈ m) :
    kvGet m k = some v := by
  rw [kvGet, List.find?_fst_of_mem (p := (k, v)) hn h]; rfl

/-! ### `dmStep` with its loop bodies named -/

def cacheBody (a : Arena) (unit : Int) (sd : Array (Option (List (Nat × Int)))) (cache : List (Nat × Int))
    (c : Nat) : QR (List (Nat × Int)) := do
  let cn ← get a c
  let clen := cn.pedge.getD unit
  let sub ← QR.ofOpt ((sd.getD c none)) "MissingBranchLengths"
  pure (sub.foldl (fun cache p => kvInsert cache p.1 (clen + p.2)) cache)

def pwCell (idxOf : Nat → Option Nat) (cache : List (Nat × Int)) (p1 p2 : Nat × Int) (pw : Array Int) :
    QR (Array Int) := do
  let d1 ← QR.ofOpt (kvGet cache p1.1) "panic-unwrap"
  let d2 ← QR.ofOpt (kvGet cache p2.1) "panic-unwrap"
  let i ← QR.ofOpt (idxOf p1.1) "NodeNotFound"
  let j ← QR.ofOpt (idxOf p2.1) "NodeNotFound"
  let k := MX.cell i j
  pure (pw.setIfInBounds k (pw.getD k 0 + (d1 + d2)))

def pwBody (sd : Array (Option (List (Nat × Int)))) (idxOf : Nat → Option Nat) (cache : List (Nat × Int))
    (pw : Array Int) (cc : Nat × Nat) : QR (Array Int) := do
  let s1 ← QR.ofOpt (sd.getD cc.1 none) "MissingBranchLengths"
  let s2 ← QR.ofOpt (sd.getD cc.2 none) "MissingBranchLengths"
  s1.foldlM (fun pw p1 => s2.foldlM (fun (pw : Array Int) p2 => pwCell idxOf cache p1 p2 pw) pw) pw

theorem dmStep_eq (a : Arena) (unit : Int) (idxOf : Nat → Option Nat) (st : FState) (node : Nat) :
    dmStep a unit idxOf (.ok st) node = (do
      let n ← get a node
      let cache0 : List (Nat × Int) := if n.children.isEmpty then [(node, 0)] else []
      let cache ← n.children.foldlM (cacheBody a unit st.sd) cache0
      let pw ← (pairsOfList n.children).foldlM (pwBody st.sd idxOf cache) st.pw
      pure { sd := st.sd.setIfInBounds node (some cache), pw := pw }) := rfl

theorem cacheBody_ok {a : Arena} {unit : Int} {sd : Array (Option (List (Nat × Int)))} {acc m : List (Nat × Int)}
    {c : Nat} (hl : live a c) (hs : sd.getD c none = some m) (hn : (ckeysI m ++ ckeysI acc).Nodup) :
    cacheBody a unit sd acc c = .ok ((shiftI (wOf a unit c) m).reverse ++ acc) := by
  have h1 : isLive a c = true := (isLive_iff a c).2 hl
  simp only [cacheBody, AR.get, h1, ↓reduceIte, hs, QR.ofOpt, QR.bind_ok, QR.pure_eq]
  rw [foldl_kvInsert_fresh _ _ _ hn]
  rfl

theorem perm_rev_mid {α : Type} (S acc R : List α) : ((S.reverse ++ acc) ++ R).Perm (acc ++ (S ++ R)) := by
  rw [List.append_assoc]
  exact ((List.reverse_perm S).append_right _).trans (List.perm_append_comm_assoc _ _ _)

theorem cacheLoop_ok {a : Arena} {unit : Int} {sd : Array (Option (List (Nat × Int)))} (m : Nat → List (Nat × Int)) :
    ∀ (cs : List Nat) (acc : List (Nat × Int)), (∀ c ∈ cs, live a c) → (∀ c ∈ cs, sd.getD c none = some (m c)) →
      (ckeysI acc ++ cs.flatMap (fun c => ckeysI (m c))).Nodup →
      ∃ cache, cs.foldlM (cacheBody a unit sd) acc = .ok cache ∧
        cache.Perm (acc ++ cs.flatMap (fun c => shiftI (wOf a unit c) (m c)))
  | [], acc, _, _, _ => ⟨acc, rfl, by simp⟩
  | c :: cs, acc, hl, hs, hn => by
    rw [List.flatMap_cons] at hn
    have hn1 : (ckeysI (m c) ++ ckeysI acc).Nodup :=
      List.perm_append_comm.nodup_iff.1 (((List.sublist_append_left _ _).append_left _).nodup hn)
    have hb := cacheBody_ok (unit := unit) (hl c (by simp)) (hs c (by simp)) hn1
    have hn2 : (ckeysI ((shiftI (wOf a unit c) (m c)).reverse ++ acc) ++ cs.flatMap (fun c => ckeysI (m c))).Nodup := by
      have e : ckeysI ((shiftI (wOf a unit c) (m c)).reverse ++ acc) = (ckeysI (m c)).reverse ++ ckeysI acc := by
        rw [← ckeysI_shiftI (wOf a unit c) (m c)]
        simp [ckeysI]
      rw [e, (perm_rev_mid _ _ _).nodup_iff]
      exact hn
    obtain ⟨cache, h1, h2⟩ := cacheLoop_ok m cs _ (fun c' hc' => hl c' (by simp [hc']))
      (fun c' hc' => hs c' (by simp [hc'])) hn2
    refine ⟨cache, ?_, ?_⟩
    · rw [List.foldlM_cons, hb]; exact h1
    · refine h2.trans ?_
      rw [List.flatMap_cons]
      exact perm_rev_mid _ _ _

/-- the cell of an (unordered) pair of leaf ids -/
def keyOf (idxOf : Nat → Option Nat) (p : Nat × Nat) : Nat := MX.cell ((idxOf p.1).getD 0) ((idxOf p.2).getD 0)

theorem pwCell_ok {idxOf : Nat → Option Nat} {cache : List (Nat × Int)} {p1 p2 : Nat × Int} {d1 d2 : Int}
    (h1 : kvGet cache p1.1 = some d1) (h2 : kvGet cache p2.1 = some d2) (hi : (idxOf p1.1).isSome)
    (hj : (idxOf p2.1).isSome) (pw : Array Int) :
    pwCell idxOf cache p1 p2 pw = .ok (addAt pw (keyOf idxOf (p1.1, p2.1)) (d1 + d2)) := by
  obtain ⟨i, hi⟩ := Option.isSome_iff_exists.1 hi
  obtain ⟨j, hj⟩ := Option.isSome_iff_exists.1 hj
  simp only [pwCell, h1, h2, hi, hj, QR.ofOpt, QR.bind_ok, QR.pure_eq, addAt, keyOf, Option.getD_some]

theorem pwBody_ok {sd : Array (Option (List (Nat × Int)))} {idxOf : Nat → Option Nat} {cache : List (Nat × Int)}
    {c1 c2 : Nat} {m1 m2 : List (Nat × Int)} {e1 e2 : Int}
    (hs1 : sd.getD c1 none = some m1) (hs2 : sd.getD c2 none = some m2)
    (hD1 : ∀ p ∈ m1, kvGet cache p.1 = some (e1 + p.2)) (hD2 : ∀ p ∈ m2, kvGet cache p.1 = some (e2 + p.2))
    (hI1 : ∀ p ∈ m1, (idxOf p.1).isSome) (hI2 : ∀ p ∈ m2, (idxOf p.1).isSome) (pw : Array Int) :
    pwBody sd idxOf cache pw (c1, c2) =
      .ok ((crossI (shiftI e1 m1) (shiftI e2 m2)).foldl (fun pw c => addAt pw (keyOf idxOf c.1) c.2) pw) := by
  simp only [pwBody, hs1, hs2, QR.ofOpt, QR.bind_ok]
  rw [foldlM_ok _ (fun pw p1 => m2.foldl (fun pw p2 =>
      addAt pw (keyOf idxOf (p1.1, p2.1)) ((e1 + p1.2) + (e2 + p2.2))) pw)]
  · simp only [crossI, shiftI, List.foldl_flatMap, List.foldl_map]
  · intro p1 hp1 b
    apply foldlM_ok
    intro p2 hp2 b'
    exact pwCell_ok (hD1 p1 hp1) (hD2 p2 hp2) (hI1 p1 hp1) (hI2 p2 hp2) b'

theorem pairsOfList_eq : ∀ cs : List Nat, pairsOfList cs = cs.pairs
  | [] => rfl
  | c :: cs => by rw [pairsOfList, List.pairs, pairsOfList_eq cs]

/-- the contributions one iteration makes, in the order the loop makes them -/
def stepCs (e : Nat → Int) (m : Nat → List (Nat × Int)) (cs : List Nat) : List ((Nat × Nat) × Int) :=
  (pairsOfList cs).flatMap (fun cc => crossI (shiftI (e cc.1) (m cc.1)) (shiftI (e cc.2) (m cc.2)))

theorem pwLoop_ok {sd : Array (Option (List (Nat × Int)))} {idxOf : Nat → Option Nat} {cache : List (Nat × Int)}
    (m : Nat → List (Nat × Int)) (e : Nat → Int) (cs : List Nat)
    (hs : ∀ c ∈ cs, sd.getD c none = some (m c))
    (hD : ∀ c ∈ cs, ∀ p ∈ m c, kvGet cache p.1 = some (e c + p.2))
    (hI : ∀ c ∈ cs, ∀ p ∈ m c, (idxOf p.1).isSome) (pw : Array Int) :
    (pairsOfList cs).foldlM (pwBody sd idxOf cache) pw =
      .ok ((stepCs e m cs).foldl (fun pw c => addAt pw (keyOf idxOf c.1) c.2) pw) := by
  rw [foldlM_ok _ (fun pw cc => (crossI (shiftI (e cc.1) (m cc.1)) (shiftI (e cc.2) (m cc.2))).foldl
      (fun pw c => addAt pw (keyOf idxOf c.1) c.2) pw)]
  · simp only [stepCs, List.foldl_flatMap]
  · intro cc hcc b
    obtain ⟨c1, c2⟩ := cc
    obtain ⟨h1, h2⟩ := List.mem_of_mem_pairs (pairsOfList_eq cs ▸ hcc)
    exact pwBody_ok (hs c1 h1) (hs c2 h2) (hD c1 h1) (hD c2 h2) (hI c1 h1) (hI c2 h2) b

end DMF
