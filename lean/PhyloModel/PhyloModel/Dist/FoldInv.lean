import PhyloModel.Dist.FoldPerm
import PhyloModel.Arena.LevelFacts
/-! # The loop invariant of `dmFast` and its preservation

`FInv … done cs st`: every slot of `done` carries a correct `subtree_distances` cache (a permutation of the
integer cache of the tree the slot represents) and cell `k` of the triangular vector holds the keyed sum of
the contributions `cs` made so far.  One iteration at a node all of whose children are done preserves it
(`dmStep_inv`); folding over a list in which children come after their parents (`After`) from its END
(= over the reversed level order from its start) therefore establishes it for the whole list (`fold_inv`). -/
namespace DMF
open AR DMW

structure FInv (a : Arena) (unit : Int) (idxOf : Nat → Option Nat) (tr : Nat → RTI) (N : Nat)
    (done : List Nat) (cs : List ((Nat × Nat) × Int)) (st : FState) : Prop where
  sdsize : st.sd.size = a.size
  pwsize : st.pw.size = N
  sd_ok : ∀ v ∈ done, ∃ m, st.sd.getD v none = some m ∧ m.Perm (cacheW (wOf a unit) (tr v))
  pw_ok : ∀ k, k < N → st.pw.getD k 0 = csum (keyOf idxOf) cs k

theorem ckeysI_perm {m m' : List (Nat × Int)} (h : m.Perm m') : (ckeysI m).Perm (ckeysI m') := h.map _

theorem dmStep_inv {a : Arena} {unit : Int} {idxOf : Nat → Option Nat} {tr : Nat → RTI} {N : Nat}
    (htr : ∀ v t, Rep a v t → tr v = t)
    {done : List Nat} {cs0 : List ((Nat × Nat) × Int)} {st : FState} (hinv : FInv a unit idxOf tr N done cs0 st)
    {v : Nat} (hrep : Rep a v (tr v)) (hch : ∀ c ∈ (nd a v).children, c ∈ done)
    (hnd : (leafR (tr v)).Nodup) (hidx : ∀ x ∈ leafR (tr v), (idxOf x).isSome) :
    ∃ st', dmStep a unit idxOf (.ok st) v = .ok st' ∧
      FInv a unit idxOf tr N (v :: done) (crossWL (wOf a unit) (rkids (tr v)) ++ cs0) st' := by
  -- the stored caches `m c` are only permutations of `cacheW`: every fact about them goes through `Perm.mem_iff` / `kvGet_mem`
  generalize hcs : (nd a v).children = cs at hch
  have hlv : live a v := hrep.is_live
  have htv : tr v = .node v (cs.map tr) := by
    cases h : tr v with
    | node j ks =>
      rw [h] at hrep; simp only [Rep] at hrep
      obtain ⟨rfl, _, hk⟩ := hrep
      rw [hcs] at hk
      rw [repL_map tr htr cs ks hk]
  have hrepL : RepL a cs (cs.map tr) := by
    rw [htv] at hrep; simp only [Rep] at hrep; rw [hcs] at hrep; exact hrep.2.2
  have hrc : ∀ c ∈ cs, Rep a c (tr c) := repL_map_mem tr cs hrepL
  have hrid : ∀ c ∈ cs, rid (tr c) = c := fun c hc => rep_rid (hrc c hc)
  have hlc : ∀ c ∈ cs, live a c := fun c hc => (hrc c hc).is_live
  let m : Nat → List (Nat × Int) := fun c => (st.sd.getD c none).getD []
  have hm : ∀ c ∈ cs, st.sd.getD c none = some (m c) ∧ (m c).Perm (cacheW (wOf a unit) (tr c)) := by
    intro c hc
    obtain ⟨mc, h1, h2⟩ := hinv.sd_ok c (hch c hc)
    have : m c = mc := by simp only [m, h1, Option.getD_some]
    rw [this]; exact ⟨h1, h2⟩
  have hkeys : ∀ c ∈ cs, (ckeysI (m c)).Perm (leafR (tr c)) := by
    intro c hc
    have := ckeysI_perm (hm c hc).2
    rwa [ckeysI_cacheW] at this
  rw [htv, leafR_node_eq, leafRL_map] at hnd hidx
  let cache0 : List (Nat × Int) := if cs.isEmpty then [(v, 0)] else []
  have hk0 : ckeysI cache0 = (if (cs.map tr).isEmpty then [v] else []) := by
    simp only [cache0, ckeysI, List.isEmpty_map]
    split <;> simp
  have hkperm : (ckeysI cache0 ++ cs.flatMap (fun c => ckeysI (m c))).Perm
      ((if (cs.map tr).isEmpty then [v] else []) ++ cs.flatMap (fun c => leafR (tr c))) := by
    rw [hk0]
    exact List.Perm.append_left _ (flatMap_perm_left _ _ cs hkeys)
  obtain ⟨cache, hcache, hcperm⟩ := cacheLoop_ok (a := a) (unit := unit) (sd := st.sd) m cs cache0 hlc
    (fun c hc => (hm c hc).1) (hkperm.nodup_iff.2 hnd)
  have hcW : cache.Perm (cacheW (wOf a unit) (tr v)) := by
    refine hcperm.trans ?_
    rw [htv, cacheW_node_eq, cacheWL_map _ tr cs hrid]
    simp only [List.isEmpty_map, cache0]
    exact List.Perm.append_left _ (flatMap_perm_left _ _ cs (fun c hc => shiftI_perm _ (hm c hc).2))
  have hckeys : (ckeysI cache).Perm ((if (cs.map tr).isEmpty then [v] else []) ++ cs.flatMap (fun c => leafR (tr c))) := by
    have := ckeysI_perm hcW
    rwa [ckeysI_cacheW, htv, leafR_node_eq, leafRL_map] at this
  have hcnd : (ckeysI cache).Nodup := hckeys.nodup_iff.2 hnd
  have hD : ∀ c ∈ cs, ∀ p ∈ m c, kvGet cache p.1 = some (wOf a unit c + p.2) := by
    intro c hc p hp
    apply kvGet_mem cache _ _ hcnd
    apply hcperm.mem_iff.2
    simp only [List.mem_append, List.mem_flatMap]
    refine Or.inr ⟨c, hc, ?_⟩
    simp only [shiftI, List.mem_map]
    exact ⟨p, hp, rfl⟩
  have hI : ∀ c ∈ cs, ∀ p ∈ m c, (idxOf p.1).isSome := by
    intro c hc p hp
    apply hidx
    simp only [List.mem_append, List.mem_flatMap]
    exact Or.inr ⟨c, hc, (hkeys c hc).mem_iff.1 (List.mem_map.2 ⟨p, hp, rfl⟩)⟩
  have hpw := pwLoop_ok (sd := st.sd) (idxOf := idxOf) (cache := cache) m (wOf a unit) cs
    (fun c hc => (hm c hc).1) hD hI st.pw
  have hget : AR.get a v = .ok (nd a v) := by
    simp only [AR.get, (isLive_iff a v).2 hlv, ↓reduceIte]
  refine ⟨{ sd := st.sd.setIfInBounds v (some cache), pw := (stepCs (wOf a unit) m cs).foldl (fun pw c => addAt pw (keyOf idxOf c.1) c.2) st.pw }, ?_, ?_⟩
  · rw [dmStep_eq, hget]
    simp only [QR.bind_ok, hcs]
    rw [hcache]
    simp only [QR.bind_ok]
    rw [hpw]
    simp only [QR.bind_ok, QR.pure_eq]
  · constructor
    · simp only [Array.size_setIfInBounds]; exact hinv.sdsize
    · simp only [accum_size]; exact hinv.pwsize
    · intro u hu
      simp only [Array.getD_setIfInBounds]
      by_cases huv : u = v
      · subst huv
        have : u < st.sd.size := by rw [hinv.sdsize]; exact hlv.1
        simp only [this, and_self, ↓reduceIte]
        exact ⟨cache, rfl, hcW⟩
      · simp only [huv, false_and, ↓reduceIte]
        simp only [List.mem_cons, huv, false_or] at hu
        exact hinv.sd_ok u hu
    · intro k hk
      simp only []
      rw [accum_getD _ _ _ k (by rw [hinv.pwsize]; exact hk), hinv.pw_ok k hk, csum_append, htv]
      simp only [rkids]
      rw [csum_perm _ (stepCs_perm (wOf a unit) tr m cs hrid (fun c hc => (hm c hc).2)) k]
      omega

def st0 (a : Arena) (N : Nat) : FState := { sd := Array.replicate a.size none, pw := Array.replicate N 0 }

theorem st0_inv (a : Arena) (unit : Int) (idxOf : Nat → Option Nat) (tr : Nat → RTI) (N : Nat) :
    FInv a unit idxOf tr N [] [] (st0 a N) := by
  constructor
  · simp [st0]
  · simp [st0]
  · intro v hv; simp at hv
  · intro k hk
    simp only [st0, csum_nil, Array.getD_eq_getD_getElem?]
    simp [hk]

def crossAt (a : Arena) (unit : Int) (tr : Nat → RTI) (v : Nat) : List ((Nat × Nat) × Int) :=
  crossWL (wOf a unit) (rkids (tr v))

theorem fold_inv {a : Arena} {unit : Int} {idxOf : Nat → Option Nat} {tr : Nat → RTI} {N : Nat}
    (htr : ∀ v t, Rep a v t → tr v = t) :
    ∀ (e : List Nat), After a e → (∀ v ∈ e, Rep a v (tr v)) → (∀ v ∈ e, (leafR (tr v)).Nodup) →
      (∀ v ∈ e, ∀ x ∈ leafR (tr v), (idxOf x).isSome) →
      ∃ st, e.reverse.foldl (dmStep a unit idxOf) (.ok (st0 a N)) = .ok st ∧
        FInv a unit idxOf tr N e (e.flatMap (crossAt a unit tr)) st
  | [], _, _, _, _ => ⟨st0 a N, rfl, st0_inv a unit idxOf tr N⟩
  | v :: e, haft, hrep, hnd, hidx => by
    obtain ⟨st, h1, h2⟩ := fold_inv htr e (fun L1 x L2 h => haft (v :: L1) x L2 (by rw [h]; rfl))
      (fun u hu => hrep u (by simp [hu])) (fun u hu => hnd u (by simp [hu])) (fun u hu => hidx u (by simp [hu]))
    obtain ⟨st', h3, h4⟩ := dmStep_inv htr h2 (hrep v (by simp)) (haft [] v e rfl) (hnd v (by simp)) (hidx v (by simp))
    refine ⟨st', ?_, ?_⟩
    · rw [List.reverse_cons, List.foldl_append, h1]
      exact h3
    · rw [List.flatMap_cons]; exact h4

end DMF
