import PhyloModel.Dist.FoldW
import PhyloModel.Misc.MatrixStore
/-! # Keyed sums of contributions and the triangular accumulator

`csum key cs k`: the sum of all contributions of `cs` whose pair is mapped to cell `k` by `key`.  The vector
`pairwise_vec` of `Tree::distance_matrix` is abstracted as "cell `k` holds `csum key cs k` for the list `cs` of
contributions made so far" (`accum_getD`).  When the keys of the contributions are pairwise distinct, a cell
holds the single contribution made for its pair (`csum_unique`); together with `DM.keys_pairs` and
`DM.pairs_correct` that is the path length (`csum_pairs_pathLen`). -/
namespace DMW
open AR

def csum (key : Nat × Nat → Nat) : List ((Nat × Nat) × Int) → Nat → Int
  | [], _ => 0
  | c :: cs, k => (if key c.1 = k then c.2 else 0) + csum key cs k

theorem csum_nil (key : Nat × Nat → Nat) (k : Nat) : csum key [] k = 0 := rfl
theorem csum_cons (key : Nat × Nat → Nat) (c : (Nat × Nat) × Int) (cs) (k : Nat) :
    csum key (c :: cs) k = (if key c.1 = k then c.2 else 0) + csum key cs k := rfl

theorem csum_append (key : Nat × Nat → Nat) : ∀ (l1 l2 : List ((Nat × Nat) × Int)) (k : Nat),
    csum key (l1 ++ l2) k = csum key l1 k + csum key l2 k
  | [], l2, k => by simp [csum_nil]
  | c :: l1, l2, k => by
    simp only [List.cons_append, csum_cons, csum_append key l1 l2 k]; omega

theorem csum_perm (key : Nat × Nat → Nat) {l1 l2 : List ((Nat × Nat) × Int)} (h : l1.Perm l2) (k : Nat) :
    csum key l1 k = csum key l2 k := by
  induction h with
  | nil => rfl
  | cons x _ ih => simp only [csum_cons, ih]
  | swap x y l => simp only [csum_cons]; omega
  | trans _ _ ih1 ih2 => rw [ih1, ih2]

theorem csum_none (key : Nat × Nat → Nat) : ∀ (cs : List ((Nat × Nat) × Int)) (k : Nat), (∀ c ∈ cs, key c.1 ≠ k) → csum key cs k = 0
  | [], _, _ => rfl
  | c :: cs, k, h => by
    have h1 : key c.1 ≠ k := h c (by simp)
    simp only [csum_cons, h1, ↓reduceIte, Int.zero_add]
    exact csum_none key cs k (fun c' hc' => h c' (by simp [hc']))

theorem csum_unique (key : Nat × Nat → Nat) : ∀ (cs : List ((Nat × Nat) × Int)), (cs.map (fun c => key c.1)).Nodup →
    ∀ c ∈ cs, csum key cs (key c.1) = c.2
  | [], _, c, hc => by simp at hc
  | c0 :: cs, hn, c, hc => by
    simp only [List.map_cons, List.nodup_cons, List.mem_map, not_exists, not_and] at hn
    simp only [List.mem_cons] at hc
    simp only [csum_cons]
    rcases hc with rfl | hc
    · simp only [↓reduceIte]
      rw [csum_none key cs _ (fun c' hc' => hn.1 c' hc')]; omega
    · have hne : key c0.1 ≠ key c.1 := fun e => hn.1 c hc e.symm
      simp only [hne, ↓reduceIte, Int.zero_add]
      exact csum_unique key cs hn.2 c hc

/-- `pairwise_vec[k] += d` -/
def addAt (pw : Array Int) (k : Nat) (d : Int) : Array Int := pw.setIfInBounds k (pw.getD k 0 + d)

@[simp] theorem addAt_size (pw : Array Int) (k : Nat) (d : Int) : (addAt pw k d).size = pw.size := by
  simp [addAt]

theorem addAt_getD (pw : Array Int) (k : Nat) (d : Int) (k' : Nat) (h : k' < pw.size) :
    (addAt pw k d).getD k' 0 = pw.getD k' 0 + (if k = k' then d else 0) := by
  simp only [addAt, Array.getD_eq_getD_getElem?, Array.getElem?_setIfInBounds]
  by_cases hk : k = k'
  · subst hk; simp [h]
  · simp [hk]

theorem accum_size (key : Nat × Nat → Nat) : ∀ (cs : List ((Nat × Nat) × Int)) (pw : Array Int),
    (cs.foldl (fun pw c => addAt pw (key c.1) c.2) pw).size = pw.size
  | [], pw => rfl
  | c :: cs, pw => by simp only [List.foldl_cons]; rw [accum_size key cs]; simp

theorem accum_getD (key : Nat × Nat → Nat) : ∀ (cs : List ((Nat × Nat) × Int)) (pw : Array Int) (k : Nat), k < pw.size →
    (cs.foldl (fun pw c => addAt pw (key c.1) c.2) pw).getD k 0 = pw.getD k 0 + csum key cs k
  | [], pw, k, _ => by simp [csum_nil]
  | c :: cs, pw, k, h => by
    simp only [List.foldl_cons, csum_cons]
    rw [accum_getD key cs _ k (by simpa using h), addAt_getD pw _ _ k h]
    omega

/-- `key` separates the unordered pairs of distinct elements of `O` -/
def KeyInj (key : Nat × Nat → Nat) (O : List Nat) : Prop :=
  ∀ a b a' b', a ∈ O → b ∈ O → a' ∈ O → b' ∈ O → a ≠ b → a' ≠ b' → key (a, b) = key (a', b') →
    (a = a' ∧ b = b') ∨ (a = b' ∧ b = a')

theorem allPairs_key_nodup (key : Nat × Nat → Nat) (O : List Nat) (hk : KeyInj key O) :
    ∀ (L : List Nat), L.Nodup → (∀ x ∈ L, x ∈ O) → ((DM.allPairs L).map key).Nodup
  | [], _, _ => by simp [DM.allPairs]
  | x :: L, hn, hsub => by
    simp only [List.nodup_cons] at hn
    have hxO : x ∈ O := hsub x (by simp)
    have hLO : ∀ y ∈ L, y ∈ O := fun y hy => hsub y (by simp [hy])
    simp only [DM.allPairs, List.map_append, List.map_map]
    rw [List.nodup_append]
    refine ⟨?_, allPairs_key_nodup key O hk L hn.2 hLO, ?_⟩
    · rw [List.nodup_iff_pairwise_ne, List.pairwise_map]
      refine List.Pairwise.imp_of_mem ?_ (List.nodup_iff_pairwise_ne.1 hn.2)
      intro y y' hy hy' hne e
      simp only [Function.comp_def] at e
      have hxy : x ≠ y := fun e => hn.1 (e ▸ hy)
      have hxy' : x ≠ y' := fun e => hn.1 (e ▸ hy')
      rcases hk x y x y' hxO (hLO y hy) hxO (hLO y' hy') hxy hxy' e with ⟨_, h2⟩ | ⟨h1, _⟩
      · exact hne h2
      · exact hxy' h1
    · intro k1 h1 k2 h2 e
      subst e
      simp only [List.mem_map, Function.comp_def] at h1 h2
      obtain ⟨y, hy, rfl⟩ := h1
      obtain ⟨⟨a', b'⟩, hab, e⟩ := h2
      obtain ⟨ha', hb', hne'⟩ := DM.allPairs_mem L hn.2 a' b' hab
      have hxy : x ≠ y := fun e => hn.1 (e ▸ hy)
      rcases hk a' b' x y (hLO a' ha') (hLO b' hb') hxO (hLO y hy) hne' hxy e with ⟨h1, _⟩ | ⟨_, h2⟩
      · exact hn.1 (h1 ▸ ha')
      · exact hn.1 (h2 ▸ hb')

theorem pairsW_keys (w : Nat → Int) (t : RTI) : ((pairsW w t).map (·.1)).Perm (DM.allPairs (leafR t)) := by
  have := DM.keys_pairs (toRT w t)
  rw [pairs_toRT, leafIds_toRT, DM.keys, castP, List.map_map] at this
  exact this

/-- `key` maps an (unordered) pair of leaves to its cell, injectively on the leaf list `O ⊇ leaves t`.  Then the
    cell of two distinct leaves of `t`, as the contributions of the fast algorithm on `t` fill it, holds their path length. -/
theorem csum_pairs_pathLen (w : Nat → Int) (t : RTI) (hn : (leafR t).Nodup) (key : Nat × Nat → Nat)
    (O : List Nat) (hO : ∀ x ∈ leafR t, x ∈ O) (hinj : KeyInj key O) (hsym : ∀ a b, key (a, b) = key (b, a))
    (x y : Nat) (hx : x ∈ leafR t) (hy : y ∈ leafR t) (hxy : x ≠ y) :
    DM.pathLen (toRT w t) x y = some (((csum key (pairsW w t) (key (x, y)) : Int)) : Rat) := by
  have hkeys := pairsW_keys w t
  have hnd : ((pairsW w t).map (fun c => key c.1)).Nodup := by
    have h1 := allPairs_key_nodup key O hinj (leafR t) hn hO
    have h2 : ((pairsW w t).map (fun c => key c.1)).Perm ((DM.allPairs (leafR t)).map key) := by
      have := hkeys.map key
      simpa [List.map_map, Function.comp_def] using this
    exact h2.nodup_iff.2 h1
  have hnd' : (DM.leafIds (toRT w t)).Nodup := by rw [leafIds_toRT]; exact hn
  have main : ∀ u v, (u, v) ∈ DM.allPairs (leafR t) →
      DM.pathLen (toRT w t) u v = some (((csum key (pairsW w t) (key (u, v)) : Int)) : Rat) := by
    intro u v huv
    have hm := hkeys.mem_iff.2 huv
    simp only [List.mem_map] at hm
    obtain ⟨c, hc, hc1⟩ := hm
    have hcu := csum_unique key _ hnd c hc
    rw [hc1] at hcu
    rw [hcu]
    have hp : (c.1, ((c.2 : Int) : Rat)) ∈ castP (pairsW w t) := List.mem_map.2 ⟨c, hc, rfl⟩
    rw [← pairs_toRT, hc1] at hp
    exact DM.pairs_correct _ u v _ hnd' hp
  rcases DM.allPairs_total (leafR t) x y hx hy hxy with h | h
  · exact main x y h
  · rw [pathLen_symm, hsym]; exact main y x h

theorem csum_pairs_zero (w : Nat → Int) (t : RTI) (hn : (leafR t).Nodup) (key : Nat × Nat → Nat)
    (O : List Nat) (hO : ∀ x ∈ leafR t, x ∈ O) (hinj : KeyInj key O)
    (x y : Nat) (hx : x ∈ O) (hy : y ∈ O) (hxy : x ≠ y) (hout : ¬ (x ∈ leafR t ∧ y ∈ leafR t)) :
    csum key (pairsW w t) (key (x, y)) = 0 := by
  apply csum_none
  intro c hc e
  have hm : c.1 ∈ DM.allPairs (leafR t) := (pairsW_keys w t).mem_iff.1 (List.mem_map.2 ⟨c, hc, rfl⟩)
  obtain ⟨⟨u, v⟩, d⟩ := c
  obtain ⟨hu, hv, huv⟩ := DM.allPairs_mem _ hn u v hm
  rcases hinj u v x y (hO u hu) (hO v hv) hx hy huv hxy e with ⟨rfl, rfl⟩ | ⟨rfl, rfl⟩
  · exact hout ⟨hu, hv⟩
  · exact hout ⟨hv, hu⟩

end DMW
