import PhyloModel.Arena.AbsRose
import PhyloModel.Arena.OpsInv
import PhyloModel.Arena.OneRoot
import PhyloModel.Arena.QRLemmas
import PhyloModel.Dist.Keys
import PhyloModel.Dist.Fold
/-! # The id-only tree `AR.RTI` a slot represents, as the distance-matrix proofs see it

Tips `leafR`, subtrees `subs`, the rational-weighted tree `toRT w t` and the decorated tree `roseOf a t` of an id-only
tree, and what `Rep a i t` says about them.  Both the fold (`FoldW` ... `FoldRose`) and the recursive walk
(`RecWalkDefs`, `RecWalkCorrect*`) rest on this file and on `Dist/Taxa`; neither rests on the other. -/
namespace DMW
open AR

def rid : RTI → Nat | .node i _ => i
def rkids : RTI → List RTI | .node _ ks => ks

mutual
def leafR : RTI → List Nat
  | .node i [] => [i]
  | .node _ (k :: ks) => leafRL (k :: ks)
def leafRL : List RTI → List Nat
  | [] => []
  | k :: ks => leafR k ++ leafRL ks
end

mutual
def subs : RTI → List RTI
  | .node i ks => .node i ks :: subsL ks
def subsL : List RTI → List RTI
  | [] => []
  | k :: ks => subs k ++ subsL ks
end

mutual
def toRT (w : Nat → Int) : RTI → DM.RT
  | .node i ks => .node i ((w i : Int) : Rat) (toRTL w ks)
def toRTL (w : Nat → Int) : List RTI → List DM.RT
  | [] => []
  | k :: ks => toRT w k :: toRTL w ks
end

theorem leafR_leaf (i : Nat) : leafR (.node i []) = [i] := by rw [leafR]
theorem leafR_cons (i : Nat) (k : RTI) (ks : List RTI) : leafR (.node i (k :: ks)) = leafRL (k :: ks) := by rw [leafR]
theorem leafRL_nil : leafRL [] = [] := by rw [leafRL]
theorem leafRL_cons (k : RTI) (ks : List RTI) : leafRL (k :: ks) = leafR k ++ leafRL ks := by rw [leafRL]
theorem subs_node (i : Nat) (ks : List RTI) : subs (.node i ks) = .node i ks :: subsL ks := by rw [subs]
theorem subsL_nil : subsL [] = [] := by rw [subsL]
theorem subsL_cons (k : RTI) (ks : List RTI) : subsL (k :: ks) = subs k ++ subsL ks := by rw [subsL]
theorem toRT_node (w) (i : Nat) (ks : List RTI) : toRT w (.node i ks) = .node i ((w i : Int) : Rat) (toRTL w ks) := by
  rw [toRT]
theorem toRTL_nil (w) : toRTL w [] = [] := by rw [toRTL]
theorem toRTL_cons (w) (k : RTI) (ks : List RTI) : toRTL w (k :: ks) = toRT w k :: toRTL w ks := by rw [toRTL]

theorem leafR_node_eq (i : Nat) (ks : List RTI) :
    leafR (.node i ks) = (if ks.isEmpty then [i] else []) ++ leafRL ks := by
  cases ks with
  | nil => rw [leafR_leaf, leafRL_nil]; simp
  | cons k ks => rw [leafR_cons]; simp

theorem leafRL_map (tr : Nat → RTI) : ∀ cs : List Nat, leafRL (cs.map tr) = cs.flatMap (fun c => leafR (tr c))
  | [] => by simp [leafRL_nil]
  | c :: cs => by rw [List.map_cons, leafRL_cons, List.flatMap_cons, leafRL_map tr cs]

theorem leafRL_append : ∀ (l1 l2 : List RTI), leafRL (l1 ++ l2) = leafRL l1 ++ leafRL l2
  | [], l2 => by rw [leafRL_nil]; rfl
  | k :: l1, l2 => by rw [List.cons_append, leafRL_cons, leafRL_cons, leafRL_append l1 l2, List.append_assoc]

theorem leafR_nonempty : ∀ t : RTI, ∃ x, x ∈ leafR t
  | .node i [] => ⟨i, by rw [leafR_leaf]; simp⟩
  | .node i (k :: ks) => by
    obtain ⟨x, hx⟩ := leafR_nonempty k
    exact ⟨x, by rw [leafR_cons, leafRL_cons]; simp [hx]⟩

theorem toRT_len (w) (k : RTI) : (toRT w k).len = ((w (rid k) : Int) : Rat) := by
  cases k with | node i ks => rw [toRT_node]; rfl

mutual
theorem leafIds_toRT (w) : ∀ t : RTI, DM.leafIds (toRT w t) = leafR t
  | .node i [] => by rw [toRT_node, toRTL_nil, leafR_leaf]; simp [DM.leafIds]
  | .node i (k :: ks) => by
    rw [toRT_node, toRTL_cons, leafR_cons, DM.leafIds, ← toRTL_cons]
    exact leafIdsL_toRTL w (k :: ks)
theorem leafIdsL_toRTL (w) : ∀ ks : List RTI, DM.leafIdsL (toRTL w ks) = leafRL ks
  | [] => by rw [toRTL_nil, leafRL_nil]; simp [DM.leafIdsL]
  | k :: ks => by rw [toRTL_cons, leafRL_cons, DM.leafIdsL, leafIds_toRT w k, leafIdsL_toRTL w ks]
end

theorem pre_rid (t : RTI) : pre t = rid t :: preL (rkids t) := by cases t; rfl

mutual
theorem subs_AR : ∀ t : RTI, subs t = AR.subs t
  | .node i ks => by rw [subs_node, AR.subs, subsL_AR ks]
theorem subsL_AR : ∀ ks : List RTI, subsL ks = AR.subsL ks
  | [] => by rw [subsL_nil, AR.subsL]
  | k :: ks => by rw [subsL_cons, AR.subsL, subs_AR k, subsL_AR ks]
end

theorem pre_eq_subs (t : RTI) : pre t = (subs t).map rid := by
  rw [subs_AR]; exact (subs_ids t).symm

theorem preL_eq_subsL : ∀ ks : List RTI, preL ks = (subsL ks).map rid := by
  intro ks
  rw [subsL_AR]; exact (subsL_ids ks).symm

theorem subs_rep {a : Arena} : ∀ (t : RTI) (i : Nat), Rep a i t → ∀ s ∈ subs t, Rep a (rid s) s := by
  intro t i h
  rw [subs_AR]; exact AR.subs_rep t i h

theorem subsL_rep {a : Arena} : ∀ (ks : List RTI) (cs : List Nat), RepL a cs ks → ∀ s ∈ subsL ks, Rep a (rid s) s := by
  intro ks cs h
  rw [subsL_AR]; exact AR.subsL_rep ks cs h

theorem repL_nil_inv {a : Arena} {cs : List Nat} (h : RepL a cs []) : cs = [] := (repL_iff.1 h).1

theorem repL_map {a : Arena} (tr : Nat → RTI) (htr : ∀ v t, Rep a v t → tr v = t) (cs : List Nat) (ks : List RTI)
    (h : RepL a cs ks) : ks = cs.map tr := by
  obtain ⟨rfl, hk⟩ := repL_iff.1 h
  rw [List.map_map]
  exact (List.map_id ks).symm.trans (List.map_congr_left fun k hm => (htr _ _ (hk k hm)).symm)

theorem repL_map_mem {a : Arena} (tr : Nat → RTI) : ∀ cs : List Nat, RepL a cs (cs.map tr) → ∀ c ∈ cs, Rep a c (tr c)
  | [], _, c, hc => by simp at hc
  | c0 :: cs, h, c, hc => by
    simp only [List.map_cons, RepL] at h
    simp only [List.mem_cons] at hc
    rcases hc with rfl | hc
    · exact h.1
    · exact repL_map_mem tr cs h.2 c hc

theorem rid_eq (t : RTI) : rid t = t.id := by cases t; rfl

theorem rep_rid {a : Arena} {i : Nat} {t : RTI} (h : Rep a i t) : rid t = i := h.id_eq

mutual
theorem leafR_sublist : ∀ t : RTI, (leafR t).Sublist (pre t)
  | .node i [] => by rw [leafR_leaf]; simp [pre, preL]
  | .node i (k :: ks) => by
    rw [leafR_cons, pre]
    exact List.Sublist.cons _ (leafRL_sublist (k :: ks))
theorem leafRL_sublist : ∀ ks : List RTI, (leafRL ks).Sublist (preL ks)
  | [] => by rw [leafRL_nil]; simp
  | k :: ks => by
    rw [leafRL_cons, preL]
    exact List.Sublist.append (leafR_sublist k) (leafRL_sublist ks)
end

theorem leafR_nodup {a : Arena} {r : Nat → Nat} (w : W a r) {t : RTI} {i : Nat} (h : Rep a i t) : (leafR t).Nodup :=
  (leafR_sublist t).nodup (pre_nodup w t i h)

mutual
theorem pathLen_symm : ∀ (t : DM.RT) (x y : Nat), DM.pathLen t x y = DM.pathLen t y x
  | .node _ _ ks, x, y => by simp only [DM.pathLen]; exact pathLenL_symm ks x y
theorem pathLenL_symm : ∀ (ks : List DM.RT) (x y : Nat), DM.pathLenL ks x y = DM.pathLenL ks y x
  | [], _, _ => by simp [DM.pathLenL]
  | k :: ks, x, y => by
    simp only [DM.pathLenL]
    cases hx : DM.depthTo k x <;> cases hy : DM.depthTo k y <;> simp only []
    · exact pathLenL_symm ks x y
    · congr 1; funext d; rw [Rat.add_comm]
    · congr 1; funext d; rw [Rat.add_comm]
    · exact pathLen_symm k x y
end

end DMW

namespace DMF
open AR DMW

theorem foldlM_ok {α β : Type} (f : β → α → QR β) (g : β → α → β) : ∀ (l : List α) (acc : β),
    (∀ x ∈ l, ∀ b, f b x = .ok (g b x)) → l.foldlM f acc = .ok (l.foldl g acc)
  | [], acc, _ => rfl
  | x :: l, acc, h => by
    rw [List.foldlM_cons, h x (by simp) acc]
    exact foldlM_ok f g l (g acc x) (fun y hy b => h y (by simp [hy]) b)

theorem kvGet_kvInsert (m : List (Nat × Int)) (k : Nat) (v : Int) (k' : Nat) :
    kvGet (kvInsert m k v) k' = if k' = k then some v else kvGet m k' := by
  simp only [kvGet, kvInsert, List.find?_cons]
  by_cases h : k' = k
  · subst h; simp
  · have h1 : (k == k') = false := by simp [Ne.symm h]
    simp only [h1, h, ↓reduceIte, List.find?_filter]
    congr 2
    funext p
    by_cases hp : p.1 = k'
    · simp [hp, h]
    · simp [hp]

/-- length of the edge above slot `c` as the loop reads it (a missing length counts as `unit`) -/
def wOf (a : Arena) (unit : Int) (c : Nat) : Int := (nd a c).pedge.getD unit

/-! ### the rose tree `absRoot` computes, from the id-only tree -/

mutual
def roseOf (a : Arena) : RTI → Rose
  | .node i ks => .node i (nd a i).name (nd a i).pedge (nd a i).depth (roseOfL a ks)
def roseOfL (a : Arena) : List RTI → List Rose
  | [] => []
  | k :: ks => roseOf a k :: roseOfL a ks
end

theorem roseOf_node (a : Arena) (i : Nat) (ks : List RTI) :
    roseOf a (.node i ks) = .node i (nd a i).name (nd a i).pedge (nd a i).depth (roseOfL a ks) := by rw [roseOf]
theorem roseOfL_nil (a : Arena) : roseOfL a [] = [] := by rw [roseOfL]
theorem roseOfL_cons (a : Arena) (k : RTI) (ks : List RTI) : roseOfL a (k :: ks) = roseOf a k :: roseOfL a ks := by
  rw [roseOfL]

mutual
theorem roseOf_eq_decorate (a : Arena) : ∀ t : RTI, roseOf a t = decorate a t
  | .node i ks => by rw [roseOf_node, decorate, roseOfL_eq_decorateL a ks]
theorem roseOfL_eq_decorateL (a : Arena) : ∀ ks : List RTI, roseOfL a ks = decorateL a ks
  | [] => by rw [roseOfL_nil, decorateL]
  | k :: ks => by rw [roseOfL_cons, decorateL, roseOf_eq_decorate a k, roseOfL_eq_decorateL a ks]
end

theorem absFL_rep (a : Arena) : ∀ (ts : List RTI) (f : Nat) (cs : List Nat), RepL a cs ts → heightL ts ≤ f →
    cs.mapM (fun c => absF f a c) = some (roseOfL a ts) := by
  intro ts f cs h hf
  rw [roseOfL_eq_decorateL]
  exact AR.absFL_rep a ts f cs h hf

theorem absDM_node (unit : Int) (i : Nat) (n : Option String) (l : Option Int) (d : Nat) (ks : List Rose) :
    absDM unit (.node i n l d ks) = .node i ((l.getD unit : Int) : Rat) (absDM.absDML unit ks) := by rw [absDM]
theorem absDML_nil (unit : Int) : absDM.absDML unit [] = [] := by rw [absDM.absDML]
theorem absDML_cons (unit : Int) (k : Rose) (ks : List Rose) :
    absDM.absDML unit (k :: ks) = absDM unit k :: absDM.absDML unit ks := by rw [absDM.absDML]

mutual
theorem absDM_roseOf (a : Arena) (unit : Int) : ∀ t : RTI, absDM unit (roseOf a t) = toRT (wOf a unit) t
  | .node i ks => by rw [roseOf_node, absDM_node, toRT_node, absDML_roseOfL a unit ks]; rfl
theorem absDML_roseOfL (a : Arena) (unit : Int) : ∀ ks : List RTI,
    absDM.absDML unit (roseOfL a ks) = toRTL (wOf a unit) ks
  | [] => by rw [roseOfL_nil, absDML_nil, toRTL_nil]
  | k :: ks => by rw [roseOfL_cons, absDML_cons, toRTL_cons, absDM_roseOf a unit k, absDML_roseOfL a unit ks]
end

mutual
/-- the tips of a represented tree are the childless slots of its pre-order, in that order -/
theorem leafR_eq_filter {a : Arena} : ∀ (t : RTI) (i : Nat), Rep a i t → leafR t = (pre t).filter (fun i => (nd a i).children.isEmpty)
  | .node j [], i, h => by
    simp only [Rep] at h
    obtain ⟨rfl, _, hk⟩ := h
    simp [leafR_leaf, pre, preL, repL_nil_inv hk]
  | .node j (k :: ks), i, h => by
    simp only [Rep] at h
    obtain ⟨rfl, _, hk⟩ := h
    obtain ⟨c, cs, hc, _⟩ := RepL.cons_inv hk
    rw [leafR_cons, pre, List.filter_cons, hc, leafRL_eq_filter (k :: ks) _ hk]
    rfl
theorem leafRL_eq_filter {a : Arena} : ∀ (ts : List RTI) (cs : List Nat), RepL a cs ts →
    leafRL ts = (preL ts).filter (fun i => (nd a i).children.isEmpty)
  | [], _, _ => by rw [leafRL_nil]; rfl
  | t :: ts, cs, h => by
    obtain ⟨c, cs, rfl, h⟩ := RepL.cons_inv h
    rw [leafRL_cons, preL, List.filter_append, leafR_eq_filter t c h.1, leafRL_eq_filter ts cs h.2]
end

theorem mem_leafR {a : Arena} {t : RTI} {i : Nat} (h : Rep a i t) {x : Nat} :
    x ∈ leafR t ↔ x ∈ pre t ∧ (nd a x).children = [] := by
  rw [leafR_eq_filter t i h, List.mem_filter, List.isEmpty_iff]

theorem mem_leafRL {a : Arena} {ts : List RTI} {cs : List Nat} (h : RepL a cs ts) {x : Nat} :
    x ∈ leafRL ts ↔ x ∈ preL ts ∧ (nd a x).children = [] := by
  rw [leafRL_eq_filter ts cs h, List.mem_filter, List.isEmpty_iff]

theorem leafR_spec {a : Arena} (t : RTI) (i : Nat) (h : Rep a i t) : ∀ x ∈ leafR t, live a x ∧ (nd a x).children = [] := by
  intro x hx
  obtain ⟨hp, hc⟩ := (mem_leafR h).1 hx
  rw [pre_eq_subs, List.mem_map] at hp
  obtain ⟨s, hs, rfl⟩ := hp
  exact ⟨(subs_rep t i h s hs).is_live, hc⟩

theorem leafRL_spec {a : Arena} : ∀ (ts : List RTI) (cs : List Nat), RepL a cs ts →
    ∀ x ∈ leafRL ts, live a x ∧ (nd a x).children = [] := by
  intro ts cs h x hx
  obtain ⟨hp, hc⟩ := (mem_leafRL h).1 hx
  rw [preL_eq_subsL, List.mem_map] at hp
  obtain ⟨s, hs, rfl⟩ := hp
  exact ⟨(subsL_rep ts cs h s hs).is_live, hc⟩

theorem leafRL_of_pre {a : Arena} : ∀ (ts : List RTI) (cs : List Nat), RepL a cs ts →
    ∀ x ∈ preL ts, (nd a x).children = [] → x ∈ leafRL ts :=
  fun _ _ h _ hx hc => (mem_leafRL h).2 ⟨hx, hc⟩

mutual
theorem tipsWithNames_roseOf (a : Arena) : ∀ t : RTI,
    tipsWithNames (roseOf a t) = (leafR t).map (fun i => (i, (nd a i).name))
  | .node i [] => by rw [roseOf_node, roseOfL_nil, tipsWithNames, leafR_leaf]; rfl
  | .node i (k :: ks) => by
    rw [roseOf_node, roseOfL_cons, tipsWithNames, ← roseOfL_cons, leafR_cons]
    exact tipsWithNamesL_roseOfL a (k :: ks)
theorem tipsWithNamesL_roseOfL (a : Arena) : ∀ ks : List RTI,
    tipsWithNamesL (roseOfL a ks) = (leafRL ks).map (fun i => (i, (nd a i).name))
  | [] => by rw [roseOfL_nil, tipsWithNamesL, leafRL_nil]; rfl
  | k :: ks => by
    rw [roseOfL_cons, tipsWithNamesL, leafRL_cons, List.map_append, tipsWithNames_roseOf a k,
      tipsWithNamesL_roseOfL a ks]
end

end DMF
