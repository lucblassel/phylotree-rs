import PhyloModel.Dist.RecWalkDefs
/-! # What the structural walk `downW` / `upW` (`Dist/RecWalkDefs`) records

Both refuse (`MissingBranchLengths`) exactly when a branch inside `t` lacks a length; otherwise `upW` records at every
other tip `y` of `t` the path length between `x` and `y`.  Lengths are read from the arena slots (`pedge`), the
semantics is stated with the integer mirrors `depthW` / `pathW` of `DM.depthTo` / `DM.pathLen`. -/
namespace DMF
open AR DMW

mutual
def depthW (w : Nat → Int) : RTI → Nat → Option Int
  | .node i [], x => if i = x then some 0 else none
  | .node _ (k :: ks), x => depthWL w (k :: ks) x
def depthWL (w : Nat → Int) : List RTI → Nat → Option Int
  | [], _ => none
  | k :: ks, x => match depthW w k x with
    | some d => some (d + w (rid k))
    | none => depthWL w ks x
end

mutual
def pathW (w : Nat → Int) : RTI → Nat → Nat → Option Int
  | .node _ ks, x, y => pathWL w ks x y
def pathWL (w : Nat → Int) : List RTI → Nat → Nat → Option Int
  | [], _, _ => none
  | k :: ks, x, y =>
    match depthW w k x, depthW w k y with
    | some _, some _ => pathW w k x y
    | some dx, none => (depthWL w ks y).map (fun dy => (dx + w (rid k)) + dy)
    | none, some dy => (depthWL w ks x).map (fun dx => dx + (dy + w (rid k)))
    | none, none => pathWL w ks x y
end

theorem depthW_leaf (w) (i x : Nat) : depthW w (.node i []) x = if i = x then some 0 else none := rfl
theorem depthW_cons (w) (i : Nat) (k : RTI) (ks : List RTI) (x : Nat) :
    depthW w (.node i (k :: ks)) x = depthWL w (k :: ks) x := rfl
theorem depthWL_nil (w) (x : Nat) : depthWL w [] x = none := rfl
theorem depthWL_cons (w) (k : RTI) (ks : List RTI) (x : Nat) :
    depthWL w (k :: ks) x = match depthW w k x with
      | some d => some (d + w (rid k))
      | none => depthWL w ks x := rfl
theorem pathW_node (w) (i : Nat) (ks : List RTI) (x y : Nat) : pathW w (.node i ks) x y = pathWL w ks x y := rfl
theorem pathWL_nil (w) (x y : Nat) : pathWL w [] x y = none := rfl
theorem pathWL_cons (w) (k : RTI) (ks : List RTI) (x y : Nat) :
    pathWL w (k :: ks) x y = match depthW w k x, depthW w k y with
      | some _, some _ => pathW w k x y
      | some dx, none => (depthWL w ks y).map (fun dy => (dx + w (rid k)) + dy)
      | none, some dy => (depthWL w ks x).map (fun dx => dx + (dy + w (rid k)))
      | none, none => pathWL w ks x y := rfl

def castO (o : Option Int) : Option Rat := o.map (fun z => ((z : Int) : Rat))

mutual
theorem depthTo_toRT (w) : ∀ (t : RTI) (x : Nat), DM.depthTo (toRT w t) x = castO (depthW w t x)
  | .node i [], x => by
    rw [toRT_node, toRTL_nil, depthW_leaf, DM.depthTo]
    by_cases h : i = x <;> simp [h, castO]
  | .node i (k :: ks), x => by
    rw [toRT_node, toRTL_cons, depthW_cons, DM.depthTo, ← toRTL_cons]
    exact depthToL_toRTL w (k :: ks) x
theorem depthToL_toRTL (w) : ∀ (ks : List RTI) (x : Nat), DM.depthToL (toRTL w ks) x = castO (depthWL w ks x)
  | [], x => by rw [toRTL_nil, depthWL_nil, DM.depthToL]; rfl
  | k :: ks, x => by
    rw [toRTL_cons, depthWL_cons, DM.depthToL, depthTo_toRT w k x, depthToL_toRTL w ks x, toRT_len]
    cases h : depthW w k x with
    | none => simp [castO]
    | some d => simp [castO, Rat.intCast_add]
end

mutual
theorem pathLen_toRT (w) : ∀ (t : RTI) (x y : Nat), DM.pathLen (toRT w t) x y = castO (pathW w t x y)
  | .node i ks, x, y => by
    rw [toRT_node, pathW_node, DM.pathLen]
    exact pathLenL_toRTL w ks x y
theorem pathLenL_toRTL (w) : ∀ (ks : List RTI) (x y : Nat), DM.pathLenL (toRTL w ks) x y = castO (pathWL w ks x y)
  | [], x, y => by rw [toRTL_nil, pathWL_nil, DM.pathLenL]; rfl
  | k :: ks, x, y => by
    rw [toRTL_cons, pathWL_cons, DM.pathLenL, depthTo_toRT w k x, depthTo_toRT w k y, depthToL_toRTL w ks x,
      depthToL_toRTL w ks y, toRT_len, pathLen_toRT w k x y, pathLenL_toRTL w ks x y]
    cases hx : depthW w k x <;> cases hy : depthW w k y <;> simp only [castO, Option.map_some, Option.map_none]
    · cases depthWL w ks x <;> simp [Rat.intCast_add]
    · cases depthWL w ks y <;> simp [Rat.intCast_add]
end

theorem pathW_symm (w : Nat → Int) (t : RTI) (x y : Nat) : pathW w t x y = pathW w t y x := by
  have h := pathLen_symm (toRT w t) x y
  rw [pathLen_toRT, pathLen_toRT] at h
  cases h1 : pathW w t x y <;> cases h2 : pathW w t y x <;> simp_all [castO]

theorem depthW_isSome (w) (t : RTI) (x : Nat) : (depthW w t x).isSome ↔ x ∈ leafR t := by
  rw [← leafIds_toRT w, ← DM.depthTo_isSome, depthTo_toRT, castO, Option.isSome_map]

theorem depthW_none (w) (t : RTI) (x : Nat) (h : x ∉ leafR t) : depthW w t x = none :=
  Option.not_isSome_iff_eq_none.1 (fun hs => h ((depthW_isSome w t x).1 hs))

theorem depthW_some (w) (t : RTI) (x : Nat) (h : x ∈ leafR t) : ∃ d, depthW w t x = some d :=
  Option.isSome_iff_exists.1 ((depthW_isSome w t x).2 h)

theorem depthWL_isSome (w) (ks : List RTI) (x : Nat) : (depthWL w ks x).isSome ↔ x ∈ leafRL ks := by
  rw [← leafIdsL_toRTL w, ← DM.depthToL_isSome, depthToL_toRTL, castO, Option.isSome_map]

theorem depthWL_some (w) : ∀ (ks : List RTI) (x : Nat), x ∈ leafRL ks → ∃ d, depthWL w ks x = some d :=
  fun ks x h => Option.isSome_iff_exists.1 ((depthWL_isSome w ks x).2 h)

/-- **path length through a list of sibling subtrees**: `x` is a tip of the subtree `k`; the path to a tip of the same
    subtree stays in it, the path to a tip `y` of another sibling is the two legs through the common parent -/
theorem pathWL_split (w) (k : RTI) (l2 : List RTI) (x : Nat) (dx : Int) (hdx : depthW w k x = some dx) :
    ∀ (l1 : List RTI), (leafRL (l1 ++ k :: l2)).Nodup →
      depthWL w (l1 ++ k :: l2) x = some (dx + w (rid k)) ∧
      (∀ y, y ∈ leafR k → pathWL w (l1 ++ k :: l2) x y = pathW w k x y) ∧
      (∀ y D, depthWL w (l1 ++ l2) y = some D → pathWL w (l1 ++ k :: l2) x y = some ((dx + w (rid k)) + D))
  | [], hn => by
    simp only [List.nil_append] at hn ⊢
    rw [leafRL_cons, List.nodup_append] at hn
    refine ⟨by rw [depthWL_cons, hdx], ?_, ?_⟩
    · intro y hy
      obtain ⟨dy, hdy⟩ := depthW_some w k y hy
      rw [pathWL_cons, hdx, hdy]
    · intro y D hD
      have hy2 : y ∈ leafRL l2 := (depthWL_isSome w l2 y).1 (by rw [hD]; rfl)
      have hyk : y ∉ leafR k := fun hc => hn.2.2 y hc y hy2 rfl
      rw [pathWL_cons, hdx, depthW_none w k y hyk, hD]
      rfl
  | k0 :: l1, hn => by
    have hxk : x ∈ leafR k := (depthW_isSome w k x).1 (by simp [hdx])
    simp only [List.cons_append] at hn ⊢
    rw [leafRL_cons, List.nodup_append] at hn
    obtain ⟨ih1, ih2, ih3⟩ := pathWL_split w k l2 x dx hdx l1 hn.2.1
    have hk0 : ∀ z, z ∈ leafR k → depthW w k0 z = none := fun z hz =>
      depthW_none w k0 z (fun hc => hn.2.2 z hc z (by rw [leafRL_append, leafRL_cons]; simp [hz]) rfl)
    have hdx0 := hk0 x hxk
    refine ⟨by rw [depthWL_cons, hdx0]; exact ih1, ?_, ?_⟩
    · intro y hy
      rw [pathWL_cons, hdx0, hk0 y hy]
      exact ih2 y hy
    · intro y D hD
      rw [depthWL_cons] at hD
      rw [pathWL_cons, hdx0]
      cases hdy : depthW w k0 y with
      | some dy =>
        rw [hdy] at hD
        cases hD
        simp only [ih1, Option.map_some]
      | none =>
        rw [hdy] at hD
        exact ih3 y D hD

mutual
def allLensW (a : Arena) : RTI → Bool
  | .node _ ks => allLensWL a ks
def allLensWL (a : Arena) : List RTI → Bool
  | [] => true
  | k :: ks => (nd a (rid k)).pedge.isSome && allLensW a k && allLensWL a ks
end

theorem allLensW_node (a) (i : Nat) (ks : List RTI) : allLensW a (.node i ks) = allLensWL a ks := rfl
theorem allLensWL_nil (a) : allLensWL a [] = true := rfl
theorem allLensWL_cons (a) (k : RTI) (ks : List RTI) :
    allLensWL a (k :: ks) = ((nd a (rid k)).pedge.isSome && allLensW a k && allLensWL a ks) := rfl

theorem allLensWL_append (a) : ∀ (l1 l2 : List RTI), allLensWL a (l1 ++ l2) = (allLensWL a l1 && allLensWL a l2)
  | [], l2 => by rw [allLensWL_nil]; rfl
  | k :: l1, l2 => by
    rw [List.cons_append, allLensWL_cons, allLensWL_cons, allLensWL_append a l1 l2]
    simp [Bool.and_assoc]

mutual
theorem allLensW_iff {a : Arena} : ∀ t : RTI, allLensW a t = true ↔ ∀ i ∈ preL (rkids t), (nd a i).pedge.isSome
  | .node j ks => by rw [allLensW_node]; exact allLensWL_iff ks
theorem allLensWL_iff {a : Arena} : ∀ ks : List RTI, allLensWL a ks = true ↔ ∀ i ∈ preL ks, (nd a i).pedge.isSome
  | [] => by simp [allLensWL_nil, preL]
  | k :: ks => by
    rw [allLensWL_cons, Bool.and_eq_true, Bool.and_eq_true, allLensW_iff k, allLensWL_iff ks, preL, pre_rid]
    simp only [List.mem_append, List.mem_cons]
    constructor
    · rintro ⟨⟨h1, h2⟩, h3⟩ i ((rfl | hi) | hi)
      · exact h1
      · exact h2 i hi
      · exact h3 i hi
    · exact fun h => ⟨⟨h _ (Or.inl (Or.inl rfl)), fun i hi => h i (Or.inl (Or.inr hi))⟩, fun i hi => h i (Or.inr hi)⟩
end

theorem roseOf_len (a : Arena) (t : RTI) : (roseOf a t).len = (nd a (rid t)).pedge := by
  cases t with | node i ks => rw [roseOf_node]; rfl

mutual
theorem allLens_roseOf (a : Arena) : ∀ t : RTI, allLens (roseOf a t) = allLensW a t
  | .node i ks => by rw [roseOf_node, allLens, allLensW_node]; exact allLensL_roseOfL a ks
theorem allLensL_roseOfL (a : Arena) : ∀ ks : List RTI, allLensL (roseOfL a ks) = allLensWL a ks
  | [] => by rw [roseOfL_nil, allLensL, allLensWL_nil]
  | k :: ks => by
    rw [roseOfL_cons, allLensL, allLensWL_cons, roseOf_len, allLens_roseOf a k, allLensL_roseOfL a ks]
end

mutual
theorem downW_dich (a : Arena) : ∀ (t : RTI) (acc : List (Nat × Int)) (L : Int),
    (allLensW a t = true ∧ ∃ acc', downW a t acc L = .ok acc') ∨
    (allLensW a t = false ∧ downW a t acc L = .err "MissingBranchLengths")
  | .node i [], acc, L => by
    left; rw [allLensW_node, allLensWL_nil, downW_leaf]; exact ⟨rfl, _, rfl⟩
  | .node i (k :: ks), acc, L => by
    rw [allLensW_node, downW_cons]; exact downWL_dich a (k :: ks) acc L
theorem downWL_dich (a : Arena) : ∀ (ks : List RTI) (acc : List (Nat × Int)) (L : Int),
    (allLensWL a ks = true ∧ ∃ acc', downWL a ks acc L = .ok acc') ∨
    (allLensWL a ks = false ∧ downWL a ks acc L = .err "MissingBranchLengths")
  | [], acc, L => by left; rw [allLensWL_nil, downWL_nil]; exact ⟨rfl, _, rfl⟩
  | k :: ks, acc, L => by
    rw [allLensWL_cons, downWL_cons]
    cases hp : (nd a (rid k)).pedge with
    | none => right; simp
    | some l =>
      simp only [Option.isSome_some, Bool.true_and]
      rcases downW_dich a k acc (L + l) with ⟨h1, acc1, h2⟩ | ⟨h1, h2⟩
      · rw [h1, h2]
        simp only [QR.bind_ok, Bool.true_and]
        exact downWL_dich a ks acc1 L
      · right; rw [h1, h2]; exact ⟨rfl, rfl⟩
end

mutual
theorem upW_dich (a : Arena) (x : Nat) : ∀ (t : RTI) (acc : List (Nat × Int)), x ∈ leafR t →
    (allLensW a t = true ∧ ∃ r, upW a x t acc = .ok r) ∨
    (allLensW a t = false ∧ upW a x t acc = .err "MissingBranchLengths")
  | .node i [], acc, _ => by
    left; rw [allLensW_node, allLensWL_nil, upW_leaf]; exact ⟨rfl, _, rfl⟩
  | .node i (k :: ks), acc, hx => by
    rw [leafR_cons] at hx
    rw [allLensW_node, upW_cons]
    exact upWL_dich a x [] (k :: ks) acc hx
theorem upWL_dich (a : Arena) (x : Nat) : ∀ (left right : List RTI) (acc : List (Nat × Int)), x ∈ leafRL right →
    (allLensWL a (left ++ right) = true ∧ ∃ r, upWL a x left right acc = .ok r) ∨
    (allLensWL a (left ++ right) = false ∧ upWL a x left right acc = .err "MissingBranchLengths")
  | left, [], acc, hx => by rw [leafRL_nil] at hx; simp at hx
  | left, k :: ks, acc, hx => by
    rw [upWL_cons]
    by_cases hk : x ∈ leafR k
    · simp only [hk, ↓reduceIte]
      have hsplit : allLensWL a (left ++ k :: ks)
          = ((nd a (rid k)).pedge.isSome && allLensW a k && allLensWL a (left ++ ks)) := by
        rw [allLensWL_append, allLensWL_cons, allLensWL_append, Bool.and_left_comm]
      rw [hsplit]
      rcases upW_dich a x k acc hk with ⟨h1, r, h2⟩ | ⟨h1, h2⟩
      · rw [h1, h2]
        simp only [QR.bind_ok]
        cases hp : (nd a (rid k)).pedge with
        | none => right; simp
        | some e =>
          simp only [Option.isSome_some, Bool.true_and]
          rcases downWL_dich a (left ++ ks) r.1 (r.2 + e) with ⟨h3, acc2, h4⟩ | ⟨h3, h4⟩
          · left; rw [h3, h4]; exact ⟨rfl, _, rfl⟩
          · right; rw [h3, h4]; exact ⟨rfl, rfl⟩
      · right; rw [h1, h2]; simp
    · simp only [hk, ↓reduceIte]
      rw [leafRL_cons, List.mem_append] at hx
      have hx' : x ∈ leafRL ks := hx.resolve_left hk
      have := upWL_dich a x (left ++ [k]) ks acc hx'
      rwa [List.append_assoc, List.singleton_append] at this
end

theorem wOf_some {a : Arena} {i : Nat} {l : Int} (h : (nd a i).pedge = some l) : wOf a 0 i = l := by
  simp [wOf, h]

mutual
theorem downW_sem (a : Arena) : ∀ (t : RTI) (acc acc' : List (Nat × Int)) (L : Int), (leafR t).Nodup →
    downW a t acc L = .ok acc' →
    ∀ y, (y ∈ leafR t → ∃ d, depthW (wOf a 0) t y = some d ∧ kvGet acc' y = some (L + d)) ∧
         (y ∉ leafR t → kvGet acc' y = kvGet acc y)
  | .node i [], acc, acc', L, _, h, y => by
    rw [downW_leaf] at h
    simp only [QR.ok.injEq] at h
    subst h
    rw [leafR_leaf, depthW_leaf]
    constructor
    · intro hy
      simp only [List.mem_singleton] at hy
      subst hy
      exact ⟨0, by simp, by simp [kvGet_kvInsert]⟩
    · intro hy
      simp only [List.mem_singleton] at hy
      rw [kvGet_kvInsert, if_neg hy]
  | .node i (k :: ks), acc, acc', L, hn, h, y => by
    rw [downW_cons] at h
    rw [leafR_cons] at hn ⊢
    rw [depthW_cons]
    exact downWL_sem a (k :: ks) acc acc' L hn h y
theorem downWL_sem (a : Arena) : ∀ (ks : List RTI) (acc acc' : List (Nat × Int)) (L : Int), (leafRL ks).Nodup →
    downWL a ks acc L = .ok acc' →
    ∀ y, (y ∈ leafRL ks → ∃ d, depthWL (wOf a 0) ks y = some d ∧ kvGet acc' y = some (L + d)) ∧
         (y ∉ leafRL ks → kvGet acc' y = kvGet acc y)
  | [], acc, acc', L, _, h, y => by
    rw [downWL_nil] at h
    simp only [QR.ok.injEq] at h
    subst h
    rw [leafRL_nil]
    simp
  | k :: ks, acc, acc', L, hn, h, y => by
    rw [downWL_cons] at h
    rw [leafRL_cons, List.nodup_append] at hn
    cases hp : (nd a (rid k)).pedge with
    | none => rw [hp] at h; cases h
    | some l =>
      rw [hp] at h
      obtain ⟨acc1, h1, h⟩ := bind_ok_inv h
      have s1 := downW_sem a k acc acc1 (L + l) hn.1 h1 y
      have s2 := downWL_sem a ks acc1 acc' L hn.2.1 h y
      rw [leafRL_cons, depthWL_cons]
      constructor
      · intro hy
        rw [List.mem_append] at hy
        by_cases hyk : y ∈ leafR k
        · obtain ⟨d, hd, hg⟩ := s1.1 hyk
          have hy2 : y ∉ leafRL ks := fun hc => hn.2.2 y hyk y hc rfl
          refine ⟨d + wOf a 0 (rid k), by rw [hd], ?_⟩
          rw [s2.2 hy2, hg, wOf_some hp]
          congr 1; omega
        · have hy2 : y ∈ leafRL ks := hy.resolve_left hyk
          obtain ⟨d, hd, hg⟩ := s2.1 hy2
          exact ⟨d, by rw [depthW_none _ k y hyk]; exact hd, hg⟩
      · intro hy
        rw [List.mem_append, not_or] at hy
        rw [s2.2 hy.2, s1.2 hy.1]
end

mutual
theorem upW_sem (a : Arena) (x : Nat) : ∀ (t : RTI) (acc acc' : List (Nat × Int)) (d : Int), (leafR t).Nodup →
    x ∈ leafR t → upW a x t acc = .ok (acc', d) →
    depthW (wOf a 0) t x = some d ∧
      ∀ y, y ∈ leafR t → y ≠ x → ∃ v, kvGet acc' y = some v ∧ pathW (wOf a 0) t x y = some v
  | .node i [], acc, acc', d, _, hx, h => by
    rw [upW_leaf] at h
    simp only [QR.ok.injEq, Prod.mk.injEq] at h
    rw [leafR_leaf] at hx ⊢
    simp only [List.mem_singleton] at hx
    subst hx
    refine ⟨by rw [depthW_leaf]; simp [h.2.symm], ?_⟩
    intro y hy hne
    simp only [List.mem_singleton] at hy
    exact absurd hy hne
  | .node i (k :: ks), acc, acc', d, hn, hx, h => by
    rw [upW_cons] at h
    rw [leafR_cons] at hn hx ⊢
    rw [depthW_cons]
    obtain ⟨h1, h2⟩ := upWL_sem a x [] (k :: ks) acc acc' d hn hx h
    refine ⟨h1, ?_⟩
    intro y hy hne
    rw [pathW_node]
    exact h2 y hy hne
theorem upWL_sem (a : Arena) (x : Nat) : ∀ (left right : List RTI) (acc acc' : List (Nat × Int)) (d : Int),
    (leafRL (left ++ right)).Nodup → x ∈ leafRL right → upWL a x left right acc = .ok (acc', d) →
    depthWL (wOf a 0) (left ++ right) x = some d ∧
      ∀ y, y ∈ leafRL (left ++ right) → y ≠ x →
        ∃ v, kvGet acc' y = some v ∧ pathWL (wOf a 0) (left ++ right) x y = some v
  | left, [], acc, acc', d, _, hx, _ => by rw [leafRL_nil] at hx; simp at hx
  | left, k :: ks, acc, acc', d, hn, hx, h => by
    rw [upWL_cons] at h
    by_cases hk : x ∈ leafR k
    · simp only [hk, ↓reduceIte] at h
      obtain ⟨⟨acc1, d1⟩, h1, h⟩ := bind_ok_inv h
      cases hp : (nd a (rid k)).pedge with
      | none => rw [hp] at h; cases h
      | some e =>
        rw [hp] at h
        obtain ⟨acc2, h2, h⟩ := bind_ok_inv h
        simp only [QR.ok.injEq, Prod.mk.injEq] at h
        obtain ⟨rfl, rfl⟩ := h
        have hperm : (leafRL (left ++ k :: ks)).Perm (leafR k ++ leafRL (left ++ ks)) := by
          rw [leafRL_append, leafRL_cons, leafRL_append]
          exact List.perm_append_comm_assoc _ _ _
        obtain ⟨hnk, hnrest, hdisj⟩ := List.nodup_append.1 (hperm.nodup_iff.1 hn)
        obtain ⟨s1, s2⟩ := upW_sem a x k acc acc1 d1 hnk hk h1
        have sd := downWL_sem a (left ++ ks) acc1 acc2 (d1 + e) hnrest h2
        obtain ⟨p1, p2, p3⟩ := pathWL_split (wOf a 0) k ks x d1 s1 left hn
        rw [wOf_some hp] at p1 p3
        refine ⟨p1, ?_⟩
        intro y hy hne
        by_cases hyk : y ∈ leafR k
        · obtain ⟨v, hv1, hv2⟩ := s2 y hyk hne
          refine ⟨v, ?_, ?_⟩
          · rw [(sd y).2 (fun hc => hdisj y hyk y hc rfl)]; exact hv1
          · rw [p2 y hyk]; exact hv2
        · have hy' : y ∈ leafRL (left ++ ks) :=
            (List.mem_append.1 (hperm.mem_iff.1 hy)).resolve_left hyk
          obtain ⟨D, hD, hg⟩ := (sd y).1 hy'
          exact ⟨(d1 + e) + D, hg, p3 y D hD⟩
    · simp only [hk, ↓reduceIte] at h
      rw [leafRL_cons, List.mem_append] at hx
      have hx' : x ∈ leafRL ks := hx.resolve_left hk
      have := upWL_sem a x (left ++ [k]) ks acc acc' d
        (by rwa [List.append_assoc, List.singleton_append]) hx' h
      rwa [List.append_assoc, List.singleton_append] at this
end

end DMF
