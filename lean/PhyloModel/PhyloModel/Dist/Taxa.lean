import PhyloModel.Dist.Tree
import PhyloModel.Misc.MatrixStore
/-! # The frame of every distance matrix: the taxa in name order, the tree below the root, the cells row by row

`leafOrder a` (the live tips stably sorted by name) is the taxon order of `dmFast`, of `dmRecWalk` and -- when the tip
names are pairwise different -- of `matrixOf` (`tips_mergeSort`); `rowMajor n G` is the list of cells all three build
(`cellLoop_ok`); `root_rep` / `leafR_perm_leaves` / `leaves_noroot` say which tree the arena holds and that its tips are
`leaves a`. -/
namespace DMF
open AR DMW

/-- the taxa in matrix order: the live tips, stably sorted by name -/
def leafOrder (a : Arena) : List Nat := (leaves a).mergeSort (fun x y => nameLe (nd a x).name (nd a y).name)

theorem leafOrder_perm (a : Arena) : (leafOrder a).Perm (leaves a) := List.mergeSort_perm _ _

theorem leafOrder_nodup (a : Arena) : (leafOrder a).Nodup :=
  (leafOrder_perm a).nodup_iff.2 (List.nodup_range.sublist List.filter_sublist)

theorem leafOrder_pair (a : Arena) {i j : Nat} (hj : j < i) (hi : i < (leafOrder a).length) :
    (leafOrder a)[i] ≠ (leafOrder a)[j]'(Nat.lt_trans hj hi) ∧ (leafOrder a)[i] ∈ leaves a ∧
      (leafOrder a)[j]'(Nat.lt_trans hj hi) ∈ leaves a :=
  ⟨fun e => Nat.ne_of_gt hj ((List.getElem_inj (leafOrder_nodup a)).1 e),
    (leafOrder_perm a).mem_iff.1 (List.getElem_mem hi), (leafOrder_perm a).mem_iff.1 (List.getElem_mem _)⟩

theorem named_of_not_any {a : Arena} {ls : List Nat} (h : ¬ ls.any (fun l => (nd a l).name.isNone) = true) :
    ∀ l ∈ ls, (nd a l).name.isSome := by
  intro l hl
  cases hn : (nd a l).name with
  | some _ => rfl
  | none => exact absurd (List.any_eq_true.2 ⟨l, hl, by rw [hn]; rfl⟩) h

theorem mem_leaves {a : Arena} {x : Nat} : x ∈ leaves a ↔ live a x ∧ (nd a x).children = [] := by
  simp only [leaves, List.mem_filter, List.mem_range, Bool.and_eq_true, isLive_iff, List.isEmpty_iff]
  constructor
  · rintro ⟨_, h1, h2⟩; exact ⟨h1, h2⟩
  · rintro ⟨h1, h2⟩; exact ⟨h1.1, h1, h2⟩

theorem root_rep {a : Arena} (hinv : Inv a) {r : Nat} (hgr : getRoot a = some r) :
    ∃ t, Rep a r t ∧ absRoot a = .ok (roseOf a t) := by
  obtain ⟨t, ht, _, hht, _⟩ := rep_total hinv r (getRoot_spec hgr).1
  refine ⟨t, ht, ?_⟩
  simp only [absRoot, root, hgr, QR.ofOpt, QR.bind_ok, roseOf_eq_decorate, AR.absF_rep a t _ r ht hht]

theorem no_root_no_live {a : Arena} (hinv : Inv a) (hgr : getRoot a = none) (i : Nat) : ¬ live a i := by
  intro hl
  obtain ⟨r, _, hr, _⟩ := root_above hinv.toW hl
  unfold getRoot at hgr
  rw [List.find?_eq_none] at hgr
  have := hgr r (List.mem_range.2 hr.1.1)
  simp [(isLive_iff a r).2 hr.1, hr.2] at this

theorem leaves_noroot {a : Arena} (hinv : Inv a) (hgr : getRoot a = none) : leaves a = [] :=
  List.eq_nil_iff_forall_not_mem.2 (fun x hx => no_root_no_live hinv hgr x (mem_leaves.1 hx).1)

theorem leafOrder_noroot {a : Arena} (hinv : Inv a) (hgr : getRoot a = none) : leafOrder a = [] := by
  rw [leafOrder, leaves_noroot hinv hgr, List.mergeSort_nil]

theorem nameLe_trans (x y z : Option String) (h1 : nameLe x y = true) (h2 : nameLe y z = true) :
    nameLe x z = true := by
  cases x <;> cases y <;> cases z <;> simp_all [nameLe]
  exact String.le_trans h1 h2

theorem nameLe_total (x y : Option String) : (nameLe x y || nameLe y x) = true := by
  cases x <;> cases y <;> simp [nameLe]
  exact String.le_total _ _

theorem nameLe_antisymm (p q : String) (h1 : nameLe (some p) (some q) = true) (h2 : nameLe (some q) (some p) = true) :
    p = q := by
  simp only [nameLe, decide_eq_true_eq] at h1 h2
  exact String.le_antisymm h1 h2

/-- comparison of two slots by name, as both definitions sort -/
def slotLe (a : Arena) (x y : Nat) : Bool := nameLe (nd a x).name (nd a y).name

theorem leafOrder_eq (a : Arena) : leafOrder a = (leaves a).mergeSort (slotLe a) := rfl

theorem slotLe_trans (a : Arena) (x y z : Nat) : slotLe a x y = true → slotLe a y z = true → slotLe a x z = true :=
  nameLe_trans _ _ _

theorem slotLe_total (a : Arena) (x y : Nat) : (slotLe a x y || slotLe a y x) = true := nameLe_total _ _

theorem leafOrder_sorted (a : Arena) : (leafOrder a).Pairwise (fun x y => slotLe a x y = true) :=
  List.pairwise_mergeSort (le := slotLe a) (slotLe_trans a) (slotLe_total a) (leaves a)

/-- stability: two tips in name order keep the (slot-index) order `get_leaves` lists them in -/
theorem leafOrder_stable (a : Arena) {x y : Nat} (hxy : slotLe a x y = true) (h : [x, y].Sublist (leaves a)) :
    [x, y].Sublist (leafOrder a) :=
  List.pair_sublist_mergeSort (le := slotLe a) (slotLe_trans a) (slotLe_total a) hxy h

theorem mergeSort_eq_of_sorted {α : Type} {le : α → α → Bool}
    (htr : ∀ x y z, le x y = true → le y z = true → le x z = true) (hto : ∀ x y, (le x y || le y x) = true)
    {l s : List α} (hp : l.Perm s) (hs : s.Pairwise (fun x y => le x y = true))
    (hanti : ∀ x ∈ l, ∀ y ∈ l, le x y = true → le y x = true → x = y) : l.mergeSort le = s :=
  List.Perm.eq_of_pairwise (le := fun x y => le x y = true)
    (fun x y hx hy => hanti x ((List.mergeSort_perm l le).mem_iff.1 hx) y (hp.mem_iff.2 hy))
    (List.pairwise_mergeSort htr hto l) hs ((List.mergeSort_perm l le).trans hp)

theorem mergeSort_slotLe (a : Arena) {l s : List Nat} (hp : l.Perm s)
    (hs : s.Pairwise (fun x y => slotLe a x y = true)) (hnamed : ∀ x ∈ l, (nd a x).name.isSome)
    (hinj : ∀ x ∈ l, ∀ y ∈ l, (nd a x).name = (nd a y).name → x = y) : l.mergeSort (slotLe a) = s := by
  refine mergeSort_eq_of_sorted (slotLe_trans a) (slotLe_total a) hp hs (fun x hx y hy hxy hyx => hinj x hx y hy ?_)
  obtain ⟨p, hp⟩ := Option.isSome_iff_exists.1 (hnamed x hx)
  obtain ⟨q, hq⟩ := Option.isSome_iff_exists.1 (hnamed y hy)
  rw [slotLe, hp, hq] at hxy hyx
  rw [hp, hq, nameLe_antisymm p q hxy hyx]

theorem tips_mergeSort (a : Arena) {l : List Nat} (hp : l.Perm (leaves a)) (hnamed : ∀ x ∈ leaves a, (nd a x).name.isSome)
    (hinj : ∀ x ∈ leaves a, ∀ y ∈ leaves a, (nd a x).name = (nd a y).name → x = y) :
    (l.map (fun i => (i, (nd a i).name))).mergeSort (fun x y => nameLe x.2 y.2)
      = (leafOrder a).map (fun i => (i, (nd a i).name)) := by
  rw [← List.map_mergeSort (r := slotLe a) (f := fun i => (i, (nd a i).name)) (l := l) (fun _ _ _ _ => rfl)]
  congr 1
  exact mergeSort_slotLe a (hp.trans (leafOrder_perm a).symm) (leafOrder_sorted a)
    (fun x hx => hnamed x (hp.mem_iff.1 hx)) (fun x hx y hy => hinj x (hp.mem_iff.1 hx) y (hp.mem_iff.1 hy))

/-- the cells in the order `matrixOf` lists them: row `i` holds the columns `j < i` -/
def rowMajor (n : Nat) (g : Nat → Nat → Int) : List Int := (List.range n).flatMap (fun i => (List.range i).map (g i))

theorem foldl_appendF {α β : Type} (G : α → List β) : ∀ (l : List α) (acc : List β),
    l.foldl (fun acc x => acc ++ G x) acc = acc ++ l.flatMap G
  | [], acc => by simp
  | x :: l, acc => by rw [List.foldl_cons, foldl_appendF G l]; simp

theorem cellLoop_ok (n : Nat) (step : Nat → Nat → List Int → QR (List Int)) (G : Nat → Nat → Int)
    (h : ∀ i j, j < i → i < n → ∀ acc, step i j acc = .ok (acc ++ [G i j])) :
    (List.range n).foldlM (fun acc i => (List.range i).foldlM (fun acc j => step i j acc) acc) []
      = .ok (rowMajor n G) := by
  rw [foldlM_ok _ (fun acc i => acc ++ (List.range i).map (G i))]
  · rw [foldl_appendF]; rfl
  · intro i hi acc
    rw [foldlM_ok _ (fun acc j => acc ++ [G i j])]
    · rw [foldl_appendF (fun j => [G i j]), ← List.map_eq_flatMap]
    · exact fun j hj acc' => h i j (List.mem_range.1 hj) (List.mem_range.1 hi) acc'

theorem rowMajor_succ (n : Nat) (G : Nat → Nat → Int) :
    rowMajor (n + 1) G = rowMajor n G ++ (List.range n).map (G n) := by
  simp only [rowMajor, List.range_succ, List.flatMap_append, List.flatMap_singleton]

theorem rowMajor_length (G : Nat → Nat → Int) : ∀ n, (rowMajor n G).length = Tri.T n
  | 0 => rfl
  | n + 1 => by rw [rowMajor_succ, List.length_append, rowMajor_length G n]; simp [Tri.T]

theorem rowMajor_getD (G : Nat → Nat → Int) : ∀ n i j, j < i → i < n → (rowMajor n G).getD (Tri.T i + j) 0 = G i j
  | 0, _, _, _, h => by omega
  | n + 1, i, j, hj, hi => by
    rw [rowMajor_succ, List.getD_eq_getElem?_getD]
    by_cases hin : i < n
    · have hlt : Tri.T i + j < (rowMajor n G).length := by
        rw [rowMajor_length]; have := Tri.T_succ_le hin; omega
      rw [List.getElem?_append_left hlt, ← List.getD_eq_getElem?_getD]
      exact rowMajor_getD G n i j hj hin
    · have : i = n := by omega
      subst this
      rw [List.getElem?_append_right (by rw [rowMajor_length]; omega), rowMajor_length]
      simp [hj]

/-- a list of `T n` entries is the row-major list of its own entries: every position below `T n` is `T i + j` for
    some `j < i < n` (`Tri.idx_surj`) -/
theorem rowMajor_of_getD (L : List Int) (n : Nat) (h : L.length = Tri.T n) :
    rowMajor n (fun i j => L.getD (Tri.T i + j) 0) = L := by
  apply List.ext_getElem (by rw [rowMajor_length, h])
  intro k hk hk'
  obtain ⟨i, j, hj, hi, rfl⟩ := Tri.idx_surj n k (h ▸ hk')
  have := rowMajor_getD (fun i j => L.getD (Tri.T i + j) 0) n i j hj hi
  rw [← Tri.idx_eq, ← List.getElem_eq_getD (h := hk) 0, ← List.getElem_eq_getD (h := hk') 0] at this
  exact this

theorem cell_of_lt {i j : Nat} (h : j < i) : MX.cell i j = Tri.T i + j := by
  simp only [MX.cell, gt_iff_lt, h, ↓reduceIte, Tri.idx_eq]

theorem ratToInt_intCast (z : Int) : ratToInt ((z : Int) : Rat) = z := by
  simp [ratToInt]

/-- with at most one root the tips of the tree below the root are all the tips of the arena -/
theorem leafR_perm_leaves {a : Arena} (hinv : Inv a) (h1 : AtMostOneRoot a) {r : Nat} {t : RTI}
    (hgr : getRoot a = some r) (ht : Rep a r t) : (leafR t).Perm (leaves a) := by
  obtain ⟨r', t0, c⟩ := absRoot_ctx hinv h1 (absRoot_of_rep hinv h1 (getRoot_isRoot hgr) ht)
  obtain rfl : r' = r := Option.some.inj (c.root_eq.symm.trans hgr)
  obtain rfl := rep_unique a _ _ _ c.rep ht
  rw [leafR_eq_filter _ _ ht]
  exact (scan_perm c _).symm

theorem getD_map_fst (a : Arena) (O : List Nat) (i : Nat) (hi : i < O.length) :
    ((O.map (fun i => (i, (nd a i).name))).getD i (0, none)).1 = O[i] := by
  simp [List.getD_eq_getElem?_getD, hi]

end DMF

namespace AR
open DM DMF

/-! ### `matrixOf`, `dmRose`, `dmRecursive` with their loops named -/

/-- the cell loop of `matrixOf` -/
def cellsOf (sorted : List (Nat × Option String)) (f : Nat → Nat → Option Rat) : QR (List Int) :=
  (List.range sorted.length).foldlM (fun (acc : List Int) i =>
      (List.range i).foldlM (fun (acc : List Int) j => do
        let v ← QR.ofOpt (f ((sorted.getD i (0, none)).1) ((sorted.getD j (0, none)).1)) "MissingBranchLengths"
        pure (acc ++ [ratToInt v])) acc) []

def tipLe (x y : Nat × Option String) : Bool := nameLe x.2 y.2

theorem matrixOf_eq (t : Rose) (f : Nat → Nat → Option Rat) :
    matrixOf t f = if (tipsWithNames t).any (fun p => p.2.isNone) then .err "UnnamedLeaves" else (do
      let cells ← cellsOf ((tipsWithNames t).mergeSort tipLe) f
      pure (((tipsWithNames t).mergeSort tipLe).map (fun p => p.2.getD ""), cells)) := rfl

theorem cellsOf_ok (sorted : List (Nat × Option String)) (f : Nat → Nat → Option Rat) (F : Nat → Nat → Rat)
    (h : ∀ i j, j < i → i < sorted.length →
      f ((sorted.getD i (0, none)).1) ((sorted.getD j (0, none)).1) = some (F i j)) :
    cellsOf sorted f = .ok (rowMajor sorted.length (fun i j => ratToInt (F i j))) := by
  unfold cellsOf
  rw [cellLoop_ok _ _ (fun i j => ratToInt (F i j))]
  intro i j hj hi acc
  simp only [h i j hj hi]
  rfl

/-- the part of `dmRecursive` after the abstraction -/
def dmRecR (t : Rose) : QR (List String × List Int) :=
  let names := (tipsWithNames t).map (·.2)
  if names.any Option.isNone then .err "UnnamedLeaves" else
  if (names.filterMap id).eraseDups.length != names.length then .err "DuplicateLeafNames" else
  if !allLens t then .err "MissingBranchLengths" else
  matrixOf t (fun x y => DM.pathLen (absDM 0 t) x y)

theorem dmRecursive_eq {a : Arena} {t : Rose} {r : Nat} (hr : getRoot a = some r) (h : absRoot a = .ok t) :
    dmRecursive a = dmRecR t := by
  simp only [dmRecursive, hr, Option.isNone_some, Bool.false_eq_true, and_false, ↓reduceIte, h, QR.bind_ok]
  rfl

/-- the cell function of `dmRose`: sum of the contributions keyed by the unordered pair -/
def contrib (ps : List ((Nat × Nat) × Rat)) (x y : Nat) : Option Rat :=
  let cs := ps.filter (fun p => (p.1.1 == x && p.1.2 == y) || (p.1.1 == y && p.1.2 == x))
  some (cs.foldl (fun s p => s + p.2) 0)

theorem dmRose_eq {a : Arena} {t : Rose} (unit : Int) (h : absRoot a = .ok t) :
    dmRose a unit = matrixOf t (contrib (DM.pairs (absDM unit t))) := by
  simp only [dmRose, h, QR.bind_ok]
  rfl

end AR
