import PhyloModel.Dist.RecWalk
/-! The arena of the examples of `Props/C08Walk`, `((A:1,B:2):3,(D:4,C:5):6)` built with the model's constructors, and the
    hypotheses the theorems about `dmRecWalk` make about it, evaluated once. -/
namespace C08
open AR DMF

def w0 : Arena := (add #[] none).1
def w1 : Arena := (addChildNamed w0 0 (some 3) none).1
def w2 : Arena := (addChildNamed w1 0 (some 6) none).1
def w3 : Arena := (addChildNamed w2 1 (some 1) (some "A")).1
def w4 : Arena := (addChildNamed w3 1 (some 2) (some "B")).1
def w5 : Arena := (addChildNamed w4 2 (some 4) (some "D")).1
def w6 : Arena := (addChildNamed w5 2 (some 5) (some "C")).1
/-- the same tree with the length of the branch above `D` missing -/
def w6m : Arena := (addChildNamed (addChildNamed w4 2 none (some "D")).1 2 (some 5) (some "C")).1

/-- `w6` has a slot, its tips are named with pairwise different names, and every node but the root has a branch length -/
theorem w6_hyps : w6.size ≠ 0 ∧ (∀ l ∈ leaves w6, (nd w6 l).name.isSome) ∧
    (∀ x ∈ leaves w6, ∀ y ∈ leaves w6, (nd w6 x).name = (nd w6 y).name → x = y) ∧
    (∀ i, live w6 i → (nd w6 i).parent.isSome → (nd w6 i).pedge.isSome) := by
  have hl : leaves w6 = [3, 4, 5, 6] := by decide
  refine ⟨by decide, by rw [hl]; decide, by rw [hl]; decide, fun i hi => ?_⟩
  have : ∀ i < 7, (nd w6 i).parent.isSome → (nd w6 i).pedge.isSome := by decide
  exact this i hi.1

end C08
