import PhyloModel.Matrix.PhylipRows
/-! The writer `to_phylip` read back line by line: the size line, the written rows, and the triangular row
    loop on them, assembled from the string-layer lemmas. -/
namespace PHY
open MXS MX Tri

variable {L : Type} [Inhabited L] (cd : Codec L)

/-- what the round trip needs from Rust's `Display` / `FromStr` pair for the entry type -/
structure Laws (cd : Codec L) : Prop where
  parse_show : ∀ x, cd.parseL (cd.showL x) = some x
  show_word : ∀ x, PH.Word (cd.showL x)

theorem joinWith_eq : ∀ (sep : Text) (ws : List Text), joinWith sep ws = PH.joinSep sep ws
  | _, [] => rfl
  | _, [_] => rfl
  | sep, x :: y :: r => by simp only [joinWith, PH.joinSep, joinWith_eq sep (y :: r)]

theorem join_lines : ∀ (ls : List Text), ls ≠ [] →
    joinWith ['\n'] ls ++ ['\n'] = ls.flatMap (fun l => l ++ ['\n'])
  | [], h => absurd rfl h
  | [x], _ => by simp [joinWith]
  | x :: y :: r, _ => by
    have ih := join_lines (y :: r) (by simp)
    rw [List.flatMap_cons, ← ih]
    simp only [joinWith, List.append_assoc]

theorem isDigit_facts (c : Char) (h : c.isDigit = true) :
    isDigit c = true ∧ c ≠ '\n' ∧ c ≠ '\r' ∧ c ≠ '+' := by
  simp only [Char.isDigit, Bool.and_eq_true, decide_eq_true_eq] at h
  refine ⟨?_, ?_, ?_, ?_⟩
  · simp only [isDigit, Bool.and_eq_true, decide_eq_true_eq]
    constructor
    · show (48 : UInt32) ≤ c.val; exact h.1
    · show c.val ≤ (57 : UInt32); exact h.2
  all_goals (intro e; subst e; revert h; decide)

theorem digits_value (n : Nat) :
    (Nat.toDigits 10 n).foldl (fun acc (c : Char) => acc * 10 + (c.toNat - 48)) 0 = n := by
  simpa [Nat.ofDigitChars, Nat.mul_comm] using Nat.ofDigitChars_ten_toDigits (n := n)

theorem toString_digits (n : Nat) :
    (toString n).toList = Nat.toDigits 10 n ∧ ∀ c ∈ Nat.toDigits 10 n, c.isDigit = true :=
  ⟨by simp, fun _ hc => Nat.isDigit_of_mem_toDigits (by decide) (by decide) hc⟩

theorem header_roundtrip (n : Nat) (hn : n < 2 ^ 64) : parseUsize (toString n).toList = some n := by
  obtain ⟨hl, hd⟩ := toString_digits n
  unfold parseUsize
  rw [hl]
  have hbody : stripPlus (Nat.toDigits 10 n) = Nat.toDigits 10 n := by
    cases hh : Nat.toDigits 10 n with
    | nil => rfl
    | cons c cs =>
      have := (isDigit_facts c (hd c (by rw [hh]; simp))).2.2.2
      unfold stripPlus
      split
      next heq => cases heq; exact absurd rfl this
      next => rfl
  simp only [hbody]
  have hall : (Nat.toDigits 10 n).all isDigit = true := by
    rw [List.all_eq_true]; intro c hc; exact (isDigit_facts c (hd c hc)).1
  have hemp : (Nat.toDigits 10 n).isEmpty = false := List.isEmpty_eq_false_iff.2 Nat.toDigits_ne_nil
  simp only [hemp, hall, Bool.not_true, Bool.or_self, Bool.false_eq_true, ↓reduceIte, digits_value, hn]

theorem header_line (n : Nat) : PH.Line (toString n).toList := by
  obtain ⟨hl, hd⟩ := toString_digits n
  rw [hl]
  refine ⟨fun c hc => (isDigit_facts c (hd c hc)).2.1, ?_⟩
  intro h
  have : '\r' ∈ Nat.toDigits 10 n := List.mem_of_getLast? h
  exact (isDigit_facts _ (hd _ this)).2.2.1 rfl

theorem sep_blanks (k : Nat) : PH.Sep (List.replicate (k + 1) ' ') :=
  ⟨by simp, fun c hc => by rw [List.eq_of_mem_replicate hc]; decide⟩

theorem joinSep_nonempty (sep : Text) : ∀ (ws : List Text), ws ≠ [] → (∀ w ∈ ws, PH.Word w) → PH.joinSep sep ws ≠ []
  | [], h, _ => absurd rfl h
  | [w], _, hw => by simpa [PH.joinSep] using (hw w (by simp)).1
  | w :: w2 :: r, _, hw => by
    have := (hw w (by simp)).1
    simp [PH.joinSep, this]

theorem split_row (name : Text) (hn : PH.Word name) (ws : List Text) (hw : ∀ w ∈ ws, PH.Word w) :
    PH.splitWs (if (joinWith [' ', ' '] ws).isEmpty then name
                else name ++ [' ', ' ', ' ', ' '] ++ joinWith [' ', ' '] ws) = name :: ws := by
  rw [joinWith_eq]
  cases ws with
  | nil =>
    simp only [PH.joinSep, List.isEmpty_nil, ↓reduceIte]
    have := PH.split_join [' '] (sep_blanks 0) [name] (by simpa using hn)
    simpa [PH.joinSep] using this
  | cons w r =>
    have hemp : (PH.joinSep [' ', ' '] (w :: r)).isEmpty = false :=
      List.isEmpty_eq_false_iff.2 (joinSep_nonempty _ _ (by simp) hw)
    simp only [hemp, Bool.false_eq_true, ↓reduceIte]
    unfold PH.splitWs
    rw [List.append_assoc, PH.aux_word name hn.2]
    simp only [List.append_nil]
    rw [PH.aux_sep_flush [' ', ' ', ' ', ' '] (sep_blanks 3) _ _ (by simpa using hn.1)]
    have := PH.split_join [' ', ' '] (sep_blanks 1) (w :: r) hw
    unfold PH.splitWs at this
    rw [this]; simp

theorem mapM_parse_show (hl : Laws cd) : ∀ (vals : List L), (vals.map cd.showL).mapM cd.parseL = some vals
  | [] => by simp
  | x :: xs => by
    simp only [List.map_cons, List.mapM_cons, hl.parse_show, mapM_parse_show hl xs]
    rfl

theorem joinSep_chars (sep : Text) : ∀ (ws : List Text) (c : Char), c ∈ PH.joinSep sep ws →
    c ∈ sep ∨ ∃ w ∈ ws, c ∈ w
  | [], c, h => by simp [PH.joinSep] at h
  | [w], c, h => by simp only [PH.joinSep] at h; exact Or.inr ⟨w, by simp, h⟩
  | w :: w2 :: r, c, h => by
    simp only [PH.joinSep, List.mem_append] at h
    rcases h with (h | h) | h
    · exact Or.inr ⟨w, by simp, h⟩
    · exact Or.inl h
    · rcases joinSep_chars sep (w2 :: r) c h with h' | ⟨x, hx, hc⟩
      · exact Or.inl h'
      · exact Or.inr ⟨x, by simp [hx], hc⟩

theorem word_char {w : Text} (hw : PH.Word w) {c : Char} (hc : c ∈ w) : c ≠ '\n' ∧ c ≠ '\r' := by
  have := hw.2 c hc
  constructor <;> (intro e; subst e; revert this; decide)

/-- the value the writer prints at position `(i, j)` -/
def cellVal (v : Array L) (i j : Nat) : L := if i = j then cd.zero else v.getD (cell i j) default

def rowValsS (square : Bool) (n : Nat) (v : Array L) (i : Nat) : List L :=
  (List.range (limS square n i)).map (cellVal cd v i)

def rowText (name : String) (vals : List L) : Text :=
  if (joinWith [' ', ' '] (vals.map cd.showL)).isEmpty then name.toList
  else name.toList ++ [' ', ' ', ' ', ' '] ++ joinWith [' ', ' '] (vals.map cd.showL)

theorem rowValsS_length (square : Bool) (n : Nat) (v : Array L) (i : Nat) :
    (rowValsS cd square n v i).length = limS square n i := by simp [rowValsS]

theorem rowValsS_getD (square : Bool) (n : Nat) (v : Array L) (i j : Nat) (hj : j < limS square n i) :
    (rowValsS cd square n v i).getD j default = cellVal cd v i j := by
  simp [rowValsS, List.getD_eq_getElem?_getD, hj]

theorem toPhylip_rows (m : Mat L) (square : Bool) :
    toPhylip cd m square =
      joinWith ['\n'] ((toString m.taxa.length).toList ::
        (m.taxa.zipIdx 0).map (fun p => rowText cd p.1 (rowValsS cd square m.taxa.length m.v p.2))) ++ ['\n'] := by
  unfold toPhylip
  simp only [rowText, rowValsS, List.map_map]
  rfl

theorem rowText_line (hl : Laws cd) (name : String) (hn : PH.Word name.toList) (vals : List L) :
    PH.Line (rowText cd name vals) := by
  have key : ∀ c ∈ rowText cd name vals, c ≠ '\n' ∧ c ≠ '\r' := by
    intro c hc
    unfold rowText at hc
    split at hc
    · exact word_char hn hc
    · simp only [List.mem_append] at hc
      rcases hc with (hc | hc) | hc
      · exact word_char hn hc
      · simp at hc; subst hc; exact ⟨by decide, by decide⟩
      · rw [joinWith_eq] at hc
        rcases joinSep_chars _ _ c hc with h | ⟨w, hw, hcw⟩
        · simp at h; subst h; exact ⟨by decide, by decide⟩
        · simp only [List.mem_map] at hw
          obtain ⟨x, _, rfl⟩ := hw
          exact word_char (hl.show_word x) hcw
  refine ⟨fun c hc => (key c hc).1, ?_⟩
  intro h
  exact (key _ (List.mem_of_getLast? h)).2 rfl

theorem lines_toPhylip (hl : Laws cd) (m : Mat L) (square : Bool) (hnames : ∀ nm ∈ m.taxa, PH.Word nm.toList) :
    PH.lines (toPhylip cd m square) = (toString m.taxa.length).toList ::
      (m.taxa.zipIdx 0).map (fun p => rowText cd p.1 (rowValsS cd square m.taxa.length m.v p.2)) := by
  rw [toPhylip_rows, join_lines _ (by simp)]
  apply PH.lines_terminated
  intro l hlm
  simp only [List.mem_cons, List.mem_map] at hlm
  rcases hlm with rfl | ⟨⟨name, i⟩, hp, rfl⟩
  · exact header_line _
  · obtain ⟨_, _, he⟩ := List.mem_zipIdx hp
    exact rowText_line cd hl name (hnames name (he ▸ List.getElem_mem _)) _

theorem readRow_rowText (hl : Laws cd) (name : String) (hn : PH.Word name.toList) (vals : List L) (limit : Nat)
    (hlim : vals.length ≤ limit) : readRow cd (rowText cd name vals) limit = .ok (name.toList, vals) := by
  unfold readRow rowText
  rw [split_row name.toList hn (vals.map cd.showL)
    (by intro w hw; simp at hw; obtain ⟨x, _, rfl⟩ := hw; exact hl.show_word x)]
  simp only
  rw [List.take_of_length_le (by simpa using hlim), mapM_parse_show cd hl vals]

theorem trilGo_rows (hl : Laws cd) (n : Nat) (v : Array L) : ∀ (names : List String) (i : Nat) (taxa : List String)
    (vals : List L), (∀ nm ∈ names, PH.Word nm.toList) →
    trilGo cd ((names.zipIdx i).map (fun p => rowText cd p.1 (rowValsS cd false n v p.2))) i taxa vals
      = .ok (taxa ++ names, vals ++ (names.zipIdx i).flatMap (fun p => rowValsS cd false n v p.2))
  | [], i, taxa, vals, _ => by simp [trilGo]
  | nm :: names, i, taxa, vals, hw => by
    have ih := trilGo_rows hl n v names (i + 1) (taxa ++ [nm]) (vals ++ rowValsS cd false n v i)
      (fun x hx => hw x (by simp [hx]))
    have hlen : (rowValsS cd false n v i).length = i := rowValsS_length cd false n v i
    simp only [List.zipIdx_cons, List.map_cons, trilGo]
    rw [readRow_rowText cd hl nm (hw nm (by simp)) _ i (Nat.le_of_eq hlen)]
    simp only [hlen, ne_eq, not_true_eq_false, ↓reduceIte, String.ofList_toList]
    rw [ih]
    simp [List.flatMap_cons, List.append_assoc]

theorem flat_rows (n' : Nat) (v : Array L) : ∀ (n : Nat),
    (List.range n).flatMap (rowValsS cd false n' v) = (List.range (T n)).map (fun k => v.getD k default)
  | 0 => by simp [T]
  | n + 1 => by
    rw [List.range_succ, List.flatMap_append, flat_rows n' v n]
    simp only [List.flatMap_cons, List.flatMap_nil, List.append_nil, T]
    rw [List.range_add, List.map_append]
    congr 1
    simp only [rowValsS, limS, Bool.false_eq_true, ↓reduceIte, List.map_map]
    apply List.map_congr_left
    intro j hj
    have hj' : j < n := List.mem_range.1 hj
    have hcell : cell n j = T n + j := by rw [cell, if_pos hj', idx_eq]
    simp only [Function.comp, cellVal, Nat.ne_of_gt hj', ↓reduceIte, hcell]

end PHY
