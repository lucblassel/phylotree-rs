import PhyloModel.Matrix.Store
import PhyloModel.Matrix.StoreLemmas
/-! By-name `get`/`set` of the triangular store: they never reach the out-of-range indexing branch on a
    matrix whose cell vector has the right length, and on duplicate-free taxa they are `get`/`set` by position. -/
set_option linter.unusedSectionVars false
namespace MXS
open Tri MX

variable {α : Type} [Inhabited α]

theorem cellOf_some {m : Mat α} {i j k : Nat} (h : cellOf m i j = some k) :
    k = cell i j ∧ i ≠ j ∧ i < m.taxa.length ∧ j < m.taxa.length := by
  unfold cellOf size at h
  split at h
  · cases h
  · next hc =>
    simp only [Option.some.injEq] at h
    refine ⟨h.symm, ?_, ?_, ?_⟩ <;> omega

theorem cellOf_lt {m : Mat α} {i j k : Nat} (hsz : m.v.size = T m.taxa.length) (h : cellOf m i j = some k) :
    k < m.v.size := by
  obtain ⟨rfl, h1, h2, h3⟩ := cellOf_some h
  rw [hsz]; exact cell_lt h1 h2 h3

theorem cellOf_eq {m : Mat α} {i j : Nat} (hij : i ≠ j) (hi : i < size m) (hj : j < size m) :
    cellOf m i j = some (cell i j) := by
  unfold cellOf
  rw [if_neg (by omega)]

theorem taxonIdx_lt {m : Mat α} {a : String} {i : Nat} (h : taxonIdx m a = some i) : i < size m := by
  simp only [taxonIdx] at h
  split at h
  · cases h; assumption
  · cases h

theorem get_of_idx (zero : α) (m : Mat α) (hsz : m.v.size = T m.taxa.length) {a b : String} {i j : Nat}
    (hab : (a == b) = false) (ha : taxonIdx m a = some i) (hb : taxonIdx m b = some j) (hij : i ≠ j) :
    get zero m a b = .ok (m.v.getD (cell i j) default) := by
  have hlt : cell i j < T m.taxa.length := cell_lt hij (taxonIdx_lt ha) (taxonIdx_lt hb)
  simp only [get, hab, ha, hb, cellOf_eq hij (taxonIdx_lt ha) (taxonIdx_lt hb), hsz, hlt, Bool.false_eq_true,
    ↓reduceIte]

theorem set_of_idx (isZero : α → Bool) (m : Mat α) (hsz : m.v.size = T m.taxa.length) {a b : String} {i j : Nat}
    (hab : (a == b) = false) (ha : taxonIdx m a = some i) (hb : taxonIdx m b = some j) (hij : i ≠ j) (x : α) :
    set isZero m a b x = ({ m with v := m.v.setIfInBounds (cell i j) x }, .ok ()) := by
  have hlt : cell i j < T m.taxa.length := cell_lt hij (taxonIdx_lt ha) (taxonIdx_lt hb)
  simp only [set, hab, ha, hb, cellOf_eq hij (taxonIdx_lt ha) (taxonIdx_lt hb), hsz, hlt, Bool.false_eq_true,
    ↓reduceIte]

theorem get_no_panic (zero : α) (m : Mat α) (hsz : m.v.size = T m.taxa.length) (a b : String) :
    get zero m a b ≠ .panic := by
  unfold get
  split
  · simp
  · split
    · split
      · next k hk => simp [cellOf_lt hsz hk]
      · simp
    · simp

theorem set_no_panic (isZero : α → Bool) (m : Mat α) (hsz : m.v.size = T m.taxa.length) (a b : String) (x : α) :
    (set isZero m a b x).2 ≠ .panic := by
  unfold set
  split
  · split <;> simp
  · split
    · split
      · next k hk => simp [cellOf_lt hsz hk]
      · simp
    · simp

theorem set_taxa (isZero : α → Bool) (m : Mat α) (a b : String) (x : α) :
    (set isZero m a b x).1.taxa = m.taxa := by
  unfold set
  repeat' split
  all_goals rfl

theorem set_vsize (isZero : α → Bool) (m : Mat α) (a b : String) (x : α) :
    (set isZero m a b x).1.v.size = m.v.size := by
  unfold set
  repeat' split
  all_goals simp

theorem findIdx_nodup (l : List String) (hnd : l.Nodup) (i : Nat) (hi : i < l.length) :
    l.findIdx (· == l[i]) = i := by
  simpa [List.idxOf] using hnd.idxOf_getElem i hi

theorem taxonIdx_nodup (m : Mat α) (hnd : m.taxa.Nodup) (i : Nat) (hi : i < m.taxa.length) :
    taxonIdx m (m.taxa.getD i "") = some i := by
  unfold taxonIdx
  have : m.taxa.getD i "" = m.taxa[i] := (List.getElem_eq_getD "").symm
  rw [this, findIdx_nodup m.taxa hnd i hi]
  simp [hi]

theorem name_ne (l : List String) (hnd : l.Nodup) {i j : Nat} (hij : i ≠ j) (hi : i < l.length) (hj : j < l.length) :
    (l.getD i "" == l.getD j "") = false := by
  rw [← List.getElem_eq_getD (h := hi) "", ← List.getElem_eq_getD (h := hj) "", beq_eq_false_iff_ne, ne_eq,
    List.getElem_inj hnd]
  exact hij

/-- `get` at the `i`-th and `j`-th label of a duplicate-free label list depends on the positions and the cell
    vector alone (whatever the length of the cell vector) -/
theorem get_at (zero : α) (m : Mat α) (hnd : m.taxa.Nodup) (i j : Nat) (hi : i < m.taxa.length) (hj : j < m.taxa.length) :
    get zero m (m.taxa.getD i "") (m.taxa.getD j "") =
      if i = j then .ok zero else if cell i j < m.v.size then .ok (m.v.getD (cell i j) default) else .panic := by
  by_cases hij : i = j
  · subst hij; simp [get]
  · simp only [get, name_ne _ hnd hij hi hj, taxonIdx_nodup m hnd i hi, taxonIdx_nodup m hnd j hj,
      cellOf_eq hij hi hj, hij, Bool.false_eq_true, ↓reduceIte]

theorem get_idx (zero : α) (m : Mat α) (hnd : m.taxa.Nodup) (hsz : m.v.size = T m.taxa.length) (i j : Nat)
    (hi : i < m.taxa.length) (hj : j < m.taxa.length) :
    get zero m (m.taxa.getD i "") (m.taxa.getD j "")
      = .ok (if i = j then zero else m.v.getD (cell i j) default) := by
  by_cases hij : i = j
  · subst hij; simp [get]
  · rw [if_neg hij, get_of_idx zero m hsz (name_ne _ hnd hij hi hj) (taxonIdx_nodup m hnd i hi)
      (taxonIdx_nodup m hnd j hj) hij]

theorem set_idx (isZero : α → Bool) (m : Mat α) (hnd : m.taxa.Nodup) (hsz : m.v.size = T m.taxa.length) (i j : Nat)
    (hi : i < m.taxa.length) (hj : j < m.taxa.length) (x : α) :
    set isZero m (m.taxa.getD i "") (m.taxa.getD j "") x
      = if i = j then (m, if isZero x then .ok () else .err "NonZeroIdenticalDistance")
        else ({ m with v := m.v.setIfInBounds (cell i j) x }, .ok ()) := by
  by_cases hij : i = j
  · subst hij; simp [set]
  · rw [if_neg hij, set_of_idx isZero m hsz (name_ne _ hnd hij hi hj) (taxonIdx_nodup m hnd i hi)
      (taxonIdx_nodup m hnd j hj) hij]

end MXS
