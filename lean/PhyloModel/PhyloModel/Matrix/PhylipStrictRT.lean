import PhyloModel.Matrix.PhylipStrictSym
/-! Round trip through the STRICT parser (positional fill), both layouts:
    `from_phylip_strict (to_phylip m square) square = m` for whitespace-free non-empty names
    (repeated names allowed).  The written lines are acceptable in the sense of `strict_spec`, and the matrix
    returned for them has the names and, cell by cell, the values of `m`. -/
set_option linter.unusedSectionVars false
namespace PHY
open MXS MX Tri

variable {L : Type} [Inhabited L] (cd : Codec L)

/-- codec laws for the strict round trip: the `Display`/`FromStr` laws and `zero() == zero()` -/
structure Laws2 (cd : Codec L) : Prop where
  base : Laws cd
  isZero_zero : cd.isZero cd.zero = true

/-- all rows the strict parser reads back from the written text -/
def rowsOf (square : Bool) (n : Nat) (v : Array L) : List (List L) := (List.range n).map (rowValsS cd square n v)

theorem rowsOf_length (square : Bool) (n : Nat) (v : Array L) : (rowsOf cd square n v).length = n := by
  simp [rowsOf]

theorem rowsOf_getD (square : Bool) (n : Nat) (v : Array L) (i : Nat) (hi : i < n) :
    (rowsOf cd square n v).getD i [] = rowValsS cd square n v i := by
  simp [rowsOf, List.getD_eq_getElem?_getD, hi]

theorem rowsOf_shape (square : Bool) (n : Nat) (v : Array L) (i : Nat) (hi : i < n) :
    ((rowsOf cd square n v).getD i []).length = limS square n i := by
  rw [rowsOf_getD cd square n v i hi, rowValsS_length]

theorem entry_rowsOf (square : Bool) (n : Nat) (v : Array L) (i j : Nat) (hi : i < n)
    (hj : j < limS square n i) : entry (rowsOf cd square n v) i j = cellVal cd v i j := by
  rw [entry, rowsOf_getD cd square n v i hi, rowValsS_getD cd square n v i j hj]

/-- the written row lines, read back one by one: names and rows are the matrix's -/
theorem written_lines (hl : Laws cd) (square : Bool) (n : Nat) (v : Array L) (names : List String)
    (hw : ∀ nm ∈ names, PH.Word nm.toList) (hn : names.length ≤ n) :
    let ls := (names.zipIdx 0).map (fun p => rowText cd p.1 (rowValsS cd square n v p.2))
    (∀ l ∈ ls, readRow cd l (n + 1) = .ok (parseLine cd n l)) ∧ parsedNames cd n ls = names ∧
      parsedRows cd n ls = (List.range names.length).map (rowValsS cd square n v) := by
  -- one line: `readRow_rowText`, as a row of `limS ≤ n` values is below the limit `n + 1`
  have key : ∀ p ∈ names.zipIdx 0, readRow cd (rowText cd p.1 (rowValsS cd square n v p.2)) (n + 1) =
      .ok (p.1.toList, rowValsS cd square n v p.2) := by
    intro p hp
    obtain ⟨_, hlt, he⟩ := List.mem_zipIdx hp
    refine readRow_rowText cd hl p.1 (hw _ (he ▸ List.getElem_mem _)) _ _ ?_
    rw [rowValsS_length, limS]; split <;> omega
  have kp := fun p hp => parseLine_of_ok cd (key p hp)
  refine ⟨?_, ?_, ?_⟩
  · intro l hl
    obtain ⟨p, hp, rfl⟩ := List.mem_map.1 hl
    rw [kp p hp]; exact key p hp
  · rw [parsedNames, List.map_map]
    conv => rhs; rw [← List.zipIdx_map_fst 0 names]
    exact List.map_congr_left fun p hp => by simp only [Function.comp, kp p hp, String.ofList_toList]
  · rw [parsedRows, List.map_map, List.range_eq_range', ← zipIdx_map_snd (rowValsS cd square n v) names 0]
    exact List.map_congr_left fun p hp => by simp only [Function.comp, kp p hp]

/-- general form: `zero() == zero()` and "every stored value equals itself" are needed for the square layout only;
    nothing is assumed about repeated names.  The written lines are acceptable (`strict_spec`), and the matrix
    returned for them has the cells of `m` -/
theorem strict_roundtrip_gen (hl : Laws cd) (m : Mat L) (square : Bool)
    (hz : square = true → cd.isZero cd.zero = true) (hnames : ∀ nm ∈ m.taxa, PH.Word nm.toList)
    (hsz : m.v.size = T2 m.taxa.length) (hn : m.taxa.length < 2 ^ 64)
    (hrefl : square = true → ∀ x ∈ m.v.toList, cd.numEq x x = true) :
    fromPhylipStrict cd (toPhylip cd m square) square = .ok m := by
  obtain ⟨hread, hN, hR⟩ := written_lines cd hl square m.taxa.length m.v m.taxa hnames (Nat.le_refl _)
  rw [T2_eq_T] at hsz
  have hent := entry_rowsOf cd square m.taxa.length m.v
  rw [rowsOf] at hent
  rcases strict_spec cd square (lines_toPhylip cd hl m square hnames) (header_roundtrip _ hn) with
    ⟨_, m', h, hr⟩ | ⟨hna, _⟩
  · rw [h]
    obtain ⟨taxa', v'⟩ := m'
    obtain ⟨taxa, v⟩ := m
    obtain ⟨htaxa, hvs, hcells⟩ := hr
    simp only [hN, hR] at htaxa hvs hcells hsz hent ⊢
    subst htaxa
    congr 2
    apply Array.ext
    · rw [hvs, hsz]
    · intro k hk1 hk2
      obtain ⟨i, j, hji, hin, hidx⟩ := idx_surj taxa'.length k (by rw [← hvs]; exact hk1)
      -- cell `k` belongs to the pair `j < i`; it is stored when the loop meets `(i, j)` (triangular layout)
      -- resp. `(j, i)` (square layout: the entry above the diagonal)
      obtain ⟨a, b, ha, hb, hab, hst, hc⟩ : ∃ a b, a < taxa'.length ∧ b < limS square taxa'.length a ∧ a ≠ b ∧
          ¬ (square = true ∧ b < a) ∧ cell a b = k := by
        cases square with
        | true =>
          exact ⟨j, i, by omega, hin, by omega, by omega,
            by simp only [cell, gt_iff_lt, show ¬ (i < j) by omega, ↓reduceIte, hidx]⟩
        | false =>
          exact ⟨i, j, hin, hji, by omega, by simp, by simp only [cell, gt_iff_lt, hji, ↓reduceIte, hidx]⟩
      have key := hcells a b ha hb hab hst
      rw [hent a b ha hb, cellVal, if_neg hab, hc] at key
      simpa only [Array.getD_eq_getD_getElem?, Array.getElem?_eq_getElem hk1, Array.getElem?_eq_getElem hk2,
        Option.getD_some] using key
  · -- the written lines are acceptable: the diagonal is `zero`, and mirror entries are one stored value
    refine absurd ⟨by simp, hread, ?_, ?_, ?_⟩ hna
    · rw [hR]; exact rowsOf_shape cd square _ m.v
    · intro hs k hk
      rw [hR, hent k k hk (by simp only [hs, limS, ↓reduceIte]; exact hk), cellVal, if_pos rfl]; exact hz hs
    · intro hs a b hba ha
      subst hs
      have hbn : b < m.taxa.length := by omega
      have hne : a ≠ b := by omega
      rw [hR, hent b a hbn (by simp only [limS, ↓reduceIte]; exact ha), hent a b ha (by simp only [limS, ↓reduceIte]; exact hbn),
        cellVal, cellVal, if_neg hne, if_neg (Ne.symm hne), cell_symm b a (Ne.symm hne)]
      have hlt : cell a b < m.v.size := by rw [hsz]; exact cell_lt hne ha hbn
      refine hrefl rfl _ ?_
      simp only [Array.getD_eq_getD_getElem?, Array.getElem?_eq_getElem hlt, Option.getD_some]
      exact Array.getElem_mem_toList hlt

/-- **strict round trip, both layouts**: for an entry codec satisfying the laws, a matrix whose taxon names are
    non-empty and whitespace-free (they may repeat) and fewer than 2^64, whose cell vector has `n(n-1)/2` entries,
    in the square layout each equal to itself under the symmetry test (no NaN), written in square or triangular form and read back by
    `from_phylip_strict` in the same form, comes back unchanged: same taxa, same value in every cell -/
theorem strict_roundtrip (hl : Laws2 cd) (m : Mat L) (square : Bool) (hnames : ∀ nm ∈ m.taxa, PH.Word nm.toList)
    (hsz : m.v.size = T2 m.taxa.length) (hn : m.taxa.length < 2 ^ 64)
    (hrefl : square = true → ∀ x ∈ m.v.toList, cd.numEq x x = true) :
    fromPhylipStrict cd (toPhylip cd m square) square = .ok m :=
  strict_roundtrip_gen cd hl.base m square (fun _ => hl.isZero_zero) hnames hsz hn hrefl

/-- the statement in the form "same taxa, same value in every cell" -/
theorem strict_roundtrip_cells (hl : Laws2 cd) (m : Mat L) (square : Bool)
    (hnames : ∀ nm ∈ m.taxa, PH.Word nm.toList) (hsz : m.v.size = T2 m.taxa.length)
    (hn : m.taxa.length < 2 ^ 64) (hrefl : square = true → ∀ x ∈ m.v.toList, cd.numEq x x = true) :
    ∃ m', fromPhylipStrict cd (toPhylip cd m square) square = .ok m' ∧ m'.taxa = m.taxa ∧
      m'.v.size = m.v.size ∧ ∀ k, k < T2 m.taxa.length → m'.v[k]? = m.v[k]? :=
  ⟨m, strict_roundtrip cd hl m square hnames hsz hn hrefl, rfl, rfl, fun _ _ => rfl⟩

end PHY
