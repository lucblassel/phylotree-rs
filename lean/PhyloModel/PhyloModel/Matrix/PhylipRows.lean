import PhyloModel.Matrix.Phylip
/-! Row lengths and cell count of the two layouts; the row loop of the strict parser: which lines it accepts
    and what it returns; no panic outcome. -/
namespace PHY
open MXS MX Tri

variable {L : Type} [Inhabited L] (cd : Codec L)

theorem zipIdx_eq_range_map {α : Type} (l : List α) (d : α) :
    l.zipIdx = (List.range l.length).map (fun k => (l.getD k d, k)) := by
  apply List.ext_getElem
  · simp
  · intro i h1 h2
    simp only [List.length_zipIdx] at h1
    simp [List.getD_eq_getElem?_getD, h1]

theorem zipIdx_map_snd {α β : Type} (f : Nat → β) (l : List α) (k : Nat) :
    (l.zipIdx k).map (fun p => f p.2) = (List.range' k l.length).map f := by
  rw [← List.zipIdx_map_snd k l, List.map_map]; rfl

theorem forall_mem_zipIdx {α : Type} {P : Nat → α → Prop} {l : List α} {i : Nat} :
    (∀ p ∈ l.zipIdx i, P p.2 p.1) ↔ ∀ k (hk : k < l.length), P (i + k) l[k] := by
  constructor
  · intro h k hk
    exact h (l[k], i + k) (List.mk_add_mem_zipIdx_iff_getElem?.2 (List.getElem?_eq_getElem hk))
  · rintro h ⟨x, j⟩ hp
    obtain ⟨h1, h2, hx⟩ := List.mem_zipIdx hp
    simpa only [hx, Nat.add_sub_cancel' h1] using h (j - i) (by omega)

theorem array_toList_getD (v : Array L) : (List.range v.size).map (fun k => v.getD k default) = v.toList := by
  apply List.ext_getElem
  · simp
  · intro i h1 h2
    simp only [List.length_map, List.length_range] at h1
    simp [Array.getD_eq_getD_getElem?, h1]

/-- number of distances of row `i`: `n` in the square layout, `i` in the triangular one -/
def limS (square : Bool) (n i : Nat) : Nat := if square then n else i

theorem T2_eq_T (n : Nat) : T2 n = T n := by
  have := T_closed n
  unfold T2
  omega

theorem readRow_no_panic (row : Text) (limit : Nat) : readRow cd row limit ≠ .panic := by
  unfold readRow
  split
  · simp
  · split <;> simp

/-- what `read_phylip_row` makes of a line inside the strict parser (name, distances) -/
def parseLine (size : Nat) (l : Text) : Text × List L :=
  match readRow cd l (size + 1) with
  | .ok p => p
  | _ => ([], [])

def parsedNames (size : Nat) (ls : List Text) : List String :=
  ls.map (fun l => String.ofList (parseLine cd size l).1)
def parsedRows (size : Nat) (ls : List Text) : List (List L) :=
  ls.map (fun l => (parseLine cd size l).2)

theorem parseLine_of_ok {size : Nat} {l : Text} {p : Text × List L} (h : readRow cd l (size + 1) = .ok p) :
    parseLine cd size l = p := by simp only [parseLine, h]

/-- the line `l` passes as row number `k` of the strict row loop -/
def RowOK (size : Nat) (square : Bool) (k : Nat) (l : Text) : Prop :=
  k < size ∧ readRow cd l (size + 1) = .ok (parseLine cd size l) ∧
  (parseLine cd size l).2.length = limS square size k ∧
  (square = true → cd.isZero ((parseLine cd size l).2.getD k default) = true)

theorem ite_err_eq_ok {β : Type} {c : Prop} [Decidable c] {a : PRes β} {k : String} {v : β} :
    (if c then a else .err k) = .ok v ↔ c ∧ a = .ok v := by
  split <;> simp [*]

theorem err_ite_eq_ok {β : Type} {c : Prop} [Decidable c] {a : PRes β} {k : String} {v : β} :
    (if c then .err k else a) = .ok v ↔ ¬ c ∧ a = .ok v := by
  split <;> simp [*]

theorem strictGo_cons_ok {size : Nat} {square : Bool} {l : Text} {ls : List Text} {i : Nat}
    {names : List String} {rows : List (List L)} {out : List String × List (List L)} :
    strictGo cd size square (l :: ls) i names rows = .ok out ↔
      RowOK cd size square i l ∧
      strictGo cd size square ls (i + 1) (names ++ [String.ofList (parseLine cd size l).1])
        (rows ++ [(parseLine cd size l).2]) = .ok out := by
  simp only [strictGo, RowOK, parseLine]
  by_cases hi : i < size
  · cases readRow cd l (size + 1) with
    | ok p =>
      -- for each layout the two-sided length test is `length = limS ..`, the diagonal test the last clause of `RowOK`
      cases square <;> simp [limS, hi, Nat.not_le.2 hi, ite_err_eq_ok, err_ite_eq_ok, and_assoc]
    | err k => simp [Nat.not_le.2 hi]
    | panic => simp [Nat.not_le.2 hi]
  · simp [hi, Nat.not_lt.1 hi]

theorem strictGo_ok_iff (size : Nat) (square : Bool) : ∀ (ls : List Text) (i : Nat) (accN : List String)
    (accR : List (List L)) (out : List String × List (List L)),
    strictGo cd size square ls i accN accR = .ok out ↔
      (∀ p ∈ ls.zipIdx i, RowOK cd size square p.2 p.1) ∧
      out = (accN ++ parsedNames cd size ls, accR ++ parsedRows cd size ls)
  | [], i, accN, accR, out => by simp [strictGo, parsedNames, parsedRows, eq_comm]
  | l :: ls, i, accN, accR, out => by
    rw [strictGo_cons_ok, strictGo_ok_iff size square ls, List.zipIdx_cons, List.forall_mem_cons, and_assoc]
    simp only [parsedNames, parsedRows, List.map_cons, List.append_assoc, List.singleton_append]

theorem strictGo_no_panic (size : Nat) (square : Bool) : ∀ (ls : List Text) (i : Nat) (names : List String)
    (rows : List (List L)), strictGo cd size square ls i names rows ≠ .panic
  | [], _, _, _ => by simp [strictGo]
  | l :: ls, i, names, rows => by
    simp only [strictGo]
    split
    · simp
    · split
      · split
        · simp
        · split
          · simp
          · exact strictGo_no_panic size square ls _ _ _
      · simp
      · next h => exact absurd h (readRow_no_panic cd l (size + 1))

end PHY
