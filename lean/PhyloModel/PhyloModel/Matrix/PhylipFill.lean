import PhyloModel.Matrix.PhylipRows
import PhyloModel.Matrix.StoreLemmas
import PhyloModel.Matrix.StoreByName
/-! The positional double loop of `from_phylip_strict` (`fillCell` folded over `cellsOf rows`): basic facts.
    Errors propagate, the taxa and the number of cells never change, a matrix created with `size·(size−1)/2`
    cells is never indexed out of range, and for rows of the shape guaranteed by the row loop the list of
    cells is the row-major list of index pairs. -/
set_option linter.unusedSectionVars false
namespace PHY
open MXS MX Tri

variable {L : Type} [Inhabited L] (cd : Codec L)

theorem fillCell_err (square : Bool) (k : String) (p : Nat × Nat × L) :
    fillCell cd square (.err k) p = .err k := rfl

theorem foldl_fillCell_err (square : Bool) (k : String) : ∀ (ps : List (Nat × Nat × L)),
    ps.foldl (fillCell cd square) (.err k) = .err k
  | [] => rfl
  | _ :: ps => foldl_fillCell_err square k ps

/-- one step from a matrix, read off `fillCell` once: the matrix is kept (diagonal or passed comparison), one cell
    is stored, an error, or a panic when `tril_to_vec_index` points past the end of the cell vector.
    (Stated about a single occurrence of the call: `split` on a goal that mentions it several times is many
    times slower.) -/
theorem fillCell_cases (square : Bool) (m : Mat L) (p : Nat × Nat × L) :
    ∃ r, fillCell cd square (.ok m) p = r ∧
      (r = .ok m ∨ (∃ k, r = .ok { m with v := m.v.setIfInBounds k p.2.2 }) ∨ (∃ e, r = .err e) ∨
        (r = .panic ∧ ∃ k, cellOf m p.1 p.2.1 = some k ∧ ¬ k < m.v.size)) := by
  simp only [fillCell]
  by_cases hd : p.1 = p.2.1
  · exact ⟨_, if_pos hd, Or.inl rfl⟩
  · rw [if_neg hd]
    cases hk : cellOf m p.1 p.2.1 with
    | none => exact ⟨_, rfl, Or.inr (Or.inr (Or.inl ⟨_, rfl⟩))⟩
    | some k =>
      by_cases hlt : k < m.v.size
      · simp only [hlt, ↓reduceIte]
        by_cases hc : (square && decide (p.2.1 < p.1)) = true
        · rw [if_pos hc]
          by_cases hq : cd.numEq (m.v.getD k default) p.2.2 = true
          · exact ⟨_, if_pos hq, Or.inl rfl⟩
          · exact ⟨_, if_neg hq, Or.inr (Or.inr (Or.inl ⟨_, rfl⟩))⟩
        · exact ⟨_, if_neg hc, Or.inr (Or.inl ⟨k, rfl⟩)⟩
      · exact ⟨_, if_neg hlt, Or.inr (Or.inr (Or.inr ⟨rfl, k, rfl, hlt⟩))⟩

theorem foldl_fillCell_inv (square : Bool) (P : PRes (Mat L) → Prop)
    (hstep : ∀ st p, P st → P (fillCell cd square st p)) :
    ∀ (ps : List (Nat × Nat × L)) (st : PRes (Mat L)), P st → P (ps.foldl (fillCell cd square) st)
  | [], _, h => h
  | p :: ps, st, h => foldl_fillCell_inv square P hstep ps _ (hstep st p h)

/-- the fold state holds the taxa and the number of cells of `m0`, and it is a panic only if `m0` lacks the
    `n(n-1)/2` cells `tril_to_vec_index` counts on: otherwise the out-of-range branch of `fillCell` (Rust
    `matrix.matrix[idx]`) is unreachable, and storing keeps it so -/
def Kept (m0 : Mat L) : PRes (Mat L) → Prop
  | .ok m => m.taxa = m0.taxa ∧ m.v.size = m0.v.size
  | .err _ => True
  | .panic => m0.v.size ≠ T m0.taxa.length

theorem fillCell_kept (square : Bool) (m0 : Mat L) (st : PRes (Mat L)) (p : Nat × Nat × L) (h : Kept m0 st) :
    Kept m0 (fillCell cd square st p) := by
  cases st with
  | err k => exact h
  | panic => exact h
  | ok m =>
    obtain ⟨r, hr, h1 | ⟨k, h1⟩ | ⟨e, h1⟩ | ⟨h1, k, hk, hlt⟩⟩ := fillCell_cases cd square m p <;> rw [hr, h1]
    · exact h
    · exact ⟨h.1, (Array.size_setIfInBounds ..).trans h.2⟩
    · trivial
    · exact fun hsz => hlt (cellOf_lt (by rw [h.1, h.2]; exact hsz) hk)

theorem fillStrict_kept (square : Bool) (rows : List (List L)) (m : Mat L) :
    Kept m (fillStrict cd square rows m) :=
  foldl_fillCell_inv cd square (Kept m) (fillCell_kept cd square m) (cellsOf rows) (.ok m) ⟨rfl, rfl⟩

theorem fillStrict_shape (square : Bool) (rows : List (List L)) (m m' : Mat L)
    (h : fillStrict cd square rows m = .ok m') : m'.taxa = m.taxa ∧ m'.v.size = m.v.size := by
  have := fillStrict_kept cd square rows m
  rwa [h] at this

theorem fillStrict_no_panic (square : Bool) (rows : List (List L)) (m : Mat L)
    (hsz : m.v.size = T m.taxa.length) : fillStrict cd square rows m ≠ .panic := by
  intro h
  have := fillStrict_kept cd square rows m
  rw [h] at this
  exact this hsz

def entry (rows : List (List L)) (i j : Nat) : L := (rows.getD i []).getD j default

def cellsIdx (lim : Nat → Nat) (R : Nat → Nat → L) (n : Nat) : List (Nat × Nat × L) :=
  (List.range n).flatMap (fun i => (List.range (lim i)).map (fun j => (i, j, R i j)))

theorem cellsOf_eq (square : Bool) (n : Nat) (rows : List (List L)) (hlen : rows.length = n)
    (hshape : ∀ i, i < n → (rows.getD i []).length = limS square n i) :
    cellsOf rows = cellsIdx (limS square n) (entry rows) n := by
  unfold cellsOf cellsIdx
  rw [zipIdx_eq_range_map rows [], List.flatMap_map, hlen, List.flatMap_def, List.flatMap_def]
  congr 1
  apply List.map_congr_left
  intro i hi
  have hi' : i < n := List.mem_range.1 hi
  simp only
  rw [zipIdx_eq_range_map (rows.getD i []) default, List.map_map, hshape i hi']
  rfl

/-- induction over the index pairs `(i, j)`, `i < n`, `j < lim i` in row-major order: a family `I i j` of
    predicates on the fold state that is kept by the step at `(i, j)` and carried from the end of a row to
    the start of the next holds at the end -/
theorem foldl_cellsIdx {σ : Type} (step : σ → Nat × Nat × L → σ) (lim : Nat → Nat) (R : Nat → Nat → L)
    (I : Nat → Nat → σ → Prop) (n : Nat)
    (hstep : ∀ i j st, i < n → j < lim i → I i j st → I i (j + 1) (step st (i, j, R i j)))
    (hrow : ∀ i st, i < n → I i (lim i) st → I (i + 1) 0 st) (st : σ) (h0 : I 0 0 st) :
    ∀ i, i ≤ n → I i 0 ((cellsIdx lim R i).foldl step st)
  | 0, _ => h0
  | i + 1, hi => by
    have ih := foldl_cellsIdx step lim R I n hstep hrow st h0 i (by omega)
    rw [cellsIdx, List.range_succ, List.flatMap_append, List.foldl_append, List.flatMap_singleton, ← cellsIdx]
    have row : ∀ j, j ≤ lim i → ∀ st', I i 0 st' →
        I i j (((List.range j).map (fun j => (i, j, R i j))).foldl step st') := by
      intro j
      induction j with
      | zero => exact fun _ _ h => h
      | succ j ihj =>
        intro hj st' h
        rw [List.range_succ, List.map_append, List.foldl_append]
        exact hstep i j _ (by omega) (by omega) (ihj (by omega) st' h)
    exact hrow i _ (by omega) (row (lim i) (Nat.le_refl _) _ ih)

end PHY
