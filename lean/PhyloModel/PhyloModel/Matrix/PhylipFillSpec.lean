import PhyloModel.Matrix.PhylipFill
/-! Functional specification of the positional double loop of `from_phylip_strict`.
    The loop runs over the index pairs `(i, j)`, `i < n`, `j < limS square n i` in row-major order with the datum
    `R i j`.  A diagonal pair is skipped; in the square layout a pair below the diagonal is compared with the
    stored mirror entry; any other pair is stored. No hypothesis on the names. -/
set_option linter.unusedSectionVars false
namespace PHY
open MXS MX Tri

variable {L : Type} [Inhabited L] (cd : Codec L)
variable (square : Bool) (n : Nat) (R : Nat → Nat → L)

/-- `(a, b)` is processed before `(i, j)` -/
def Before (i j a b : Nat) : Prop := (a < i ∧ b < limS square n a) ∨ (a = i ∧ b < j)
/-- the entry `(a, b)` is stored (neither skipped nor compared) -/
def Stored (a b : Nat) : Prop := a ≠ b ∧ ¬ (square = true ∧ b < a)

/-- state of the fold just before the pair `(i, j)` -/
structure FInv (i j : Nat) (mm : Mat L) : Prop where
  len : mm.taxa.length = n
  vsize : mm.v.size = T n
  cells : ∀ a b, Before square n i j a b → Stored square a b → a < n →
    mm.v.getD (cell a b) default = R a b

/-- what the loop demands of the pair `(a, b)`: below the diagonal of a square matrix the entry equals
    (symmetry test, stored value first) its mirror image -/
def Cond (a b : Nat) : Prop := square = true → b < a → cd.numEq (R b a) (R a b) = true

variable {square n R}

theorem limS_le {a : Nat} (ha : a < n) : limS square n a ≤ n := by
  unfold limS; split <;> omega

theorem fillCell_eval {mm : Mat L} (hlen : mm.taxa.length = n) (hvs : mm.v.size = T n) {i j : Nat}
    (hi : i < n) (hj : j < n) (hne : i ≠ j) (d : L) :
    fillCell cd square (.ok mm) (i, j, d) =
      if square && decide (j < i) then
        (if cd.numEq (mm.v.getD (cell i j) default) d then .ok mm else .err "NonSymmetric")
      else .ok { mm with v := mm.v.setIfInBounds (cell i j) d } := by
  have hc : cellOf mm i j = some (cell i j) := cellOf_eq hne (by rw [size, hlen]; exact hi) (by rw [size, hlen]; exact hj)
  have hlt : cell i j < mm.v.size := by rw [hvs]; exact cell_lt hne hi hj
  simp only [fillCell, hne, ↓reduceIte, hc, hlt]

theorem fillCell_diag (mm : Mat L) (i : Nat) (d : L) : fillCell cd square (.ok mm) (i, i, d) = .ok mm := by
  simp only [fillCell, ↓reduceIte]

theorem before_succ (i j a b : Nat) :
    Before square n i (j + 1) a b ↔ Before square n i j a b ∨ (a = i ∧ b = j) := by
  simp only [Before, Nat.lt_succ_iff_lt_or_eq, and_or_left, or_assoc]

theorem before_row (i a b : Nat) :
    Before square n i (limS square n i) a b ↔ Before square n (i + 1) 0 a b := by
  simp only [Before, Nat.lt_succ_iff_lt_or_eq, Nat.not_lt_zero, and_false, or_false, or_and_right]
  -- what remains: in row `a = i` the bound `limS square n i` is `limS square n a`
  exact or_congr Iff.rfl ⟨fun ⟨h1, h2⟩ => ⟨h1, h1 ▸ h2⟩, fun ⟨h1, h2⟩ => ⟨h1, h1 ▸ h2⟩⟩

theorem FInv.congr {i j i' j' : Nat} {mm : Mat L}
    (h : ∀ a b, Before square n i j a b ↔ Before square n i' j' a b) (hinv : FInv square n R i j mm) :
    FInv square n R i' j' mm :=
  ⟨hinv.len, hinv.vsize, fun a b hb => hinv.cells a b ((h a b).2 hb)⟩

theorem inv_keep {i j : Nat} {mm : Mat L} (hinv : FInv square n R i j mm) (hns : ¬ Stored square i j) :
    FInv square n R i (j + 1) mm := by
  refine ⟨hinv.len, hinv.vsize, ?_⟩
  intro a b hb hst
  rw [before_succ] at hb
  rcases hb with hb | ⟨rfl, rfl⟩
  · exact hinv.cells a b hb hst
  · exact absurd hst hns

theorem inv_set {i j : Nat} {mm : Mat L} (hinv : FInv square n R i j mm) (hi : i < n)
    (hj : j < limS square n i) (hst : Stored square i j) :
    FInv square n R i (j + 1) { mm with v := mm.v.setIfInBounds (cell i j) (R i j) } := by
  have hjn : j < n := Nat.lt_of_lt_of_le hj (limS_le hi)
  have hne : i ≠ j := hst.1
  have hlt : cell i j < mm.v.size := by rw [hinv.vsize]; exact cell_lt hne hi hjn
  refine ⟨hinv.len, by simp [hinv.vsize], ?_⟩
  intro a b hb hsab ha
  rw [before_succ] at hb
  simp only [Array.getD_eq_getD_getElem?, Array.getElem?_setIfInBounds]
  by_cases hcell : cell i j = cell a b
  · rcases cell_inj hne hsab.1 hcell with ⟨rfl, rfl⟩ | ⟨rfl, rfl⟩
    · simp [hlt]
    · -- the mirror pair cannot have been stored before
      exfalso
      have h2 := hst.2
      rcases hb with hb | ⟨h1, _⟩
      · simp only [Before] at hb
        rcases hb with ⟨h3, h4⟩ | ⟨h3, _⟩
        · unfold limS at h4
          cases square with
          | true => exact h2 ⟨rfl, h3⟩
          | false => simp only [Bool.false_eq_true, ↓reduceIte] at h4; omega
        · exact hne h3.symm
      · exact hne h1.symm
  · simp only [hcell, ↓reduceIte]
    rcases hb with hb | ⟨rfl, rfl⟩
    · have := hinv.cells a b hb hsab ha
      simpa only [Array.getD_eq_getD_getElem?] using this
    · exact absurd rfl hcell

theorem inv_init (m0 : Mat L) (hlen : m0.taxa.length = n) (hvs : m0.v.size = T n) :
    FInv square n R 0 0 m0 := by
  refine ⟨hlen, hvs, ?_⟩
  intro a b hb
  simp only [Before] at hb
  omega

variable (square n R)

/-- outcome of the fold just before the pair `(i, j)`: the invariant and every demand met so far, or
    `NonSymmetric` and a demand that failed -/
def Out (i j : Nat) (res : PRes (Mat L)) : Prop :=
  (∃ mm, res = .ok mm ∧ FInv square n R i j mm ∧ ∀ a b, Before square n i j a b → Cond cd square R a b) ∨
  (res = .err "NonSymmetric" ∧ ∃ a b, Before square n i j a b ∧ a < n ∧ ¬ Cond cd square R a b)

variable {square n R}

theorem Out.congr {i j i' j' : Nat} {res : PRes (Mat L)}
    (h : ∀ a b, Before square n i j a b ↔ Before square n i' j' a b) :
    Out cd square n R i j res → Out cd square n R i' j' res
  | .inl ⟨mm, e, hinv, hc⟩ => .inl ⟨mm, e, hinv.congr h, fun a b hb => hc a b ((h a b).2 hb)⟩
  | .inr ⟨e, a, b, hb, hn⟩ => .inr ⟨e, a, b, (h a b).1 hb, hn⟩

/-- the step at the pair `(i, j)` -/
theorem out_step {i j : Nat} (hi : i < n) (hj : j < limS square n i) {st : PRes (Mat L)}
    (h : Out cd square n R i j st) : Out cd square n R i (j + 1) (fillCell cd square st (i, j, R i j)) := by
  rcases h with ⟨mm, rfl, hinv, hcond⟩ | ⟨rfl, a, b, hb, hnc⟩
  · have hjn : j < n := Nat.lt_of_lt_of_le hj (limS_le hi)
    -- the demands on the pairs met so far, once the demand on `(i, j)` is seen to hold
    have hext : Cond cd square R i j → ∀ a b, Before square n i (j + 1) a b → Cond cd square R a b := by
      intro hc a b hb
      rcases (before_succ i j a b).1 hb with hb | ⟨rfl, rfl⟩
      · exact hcond a b hb
      · exact hc
    by_cases hij : i = j
    · subst hij
      rw [fillCell_diag]
      exact Or.inl ⟨mm, rfl, inv_keep hinv (fun h => h.1 rfl), hext fun _ h => absurd h (Nat.lt_irrefl _)⟩
    · rw [fillCell_eval cd hinv.len hinv.vsize hi hjn hij]
      by_cases hcmp : (square && decide (j < i)) = true
      · rw [if_pos hcmp]
        simp only [Bool.and_eq_true, decide_eq_true_eq] at hcmp
        obtain ⟨hsq, hji⟩ := hcmp
        have hstored : mm.v.getD (cell i j) default = R j i := by
          rw [cell_symm i j hij]
          refine hinv.cells j i (Or.inl ⟨hji, ?_⟩) ⟨by omega, by intro h; omega⟩ hjn
          simp only [limS, hsq, ↓reduceIte]; exact hi
        rw [hstored]
        by_cases hq : cd.numEq (R j i) (R i j) = true
        · rw [if_pos hq]
          exact Or.inl ⟨mm, rfl, inv_keep hinv (fun h => h.2 ⟨hsq, hji⟩), hext fun _ _ => hq⟩
        · rw [if_neg hq]
          exact Or.inr ⟨rfl, i, j, (before_succ i j i j).2 (Or.inr ⟨rfl, rfl⟩), hi, fun hc => hq (hc hsq hji)⟩
      · rw [if_neg hcmp]
        simp only [Bool.and_eq_true, decide_eq_true_eq] at hcmp
        exact Or.inl ⟨_, rfl, inv_set hinv hi hj ⟨hij, hcmp⟩, hext fun h1 h2 => absurd ⟨h1, h2⟩ hcmp⟩
  · exact Or.inr ⟨rfl, a, b, (before_succ i j a b).2 (Or.inl hb), hnc⟩

/-- **functional specification of the positional double loop** for rows of the shape the row loop guarantees:
    either every below-diagonal entry of a square matrix equals (symmetry test) its mirror image and the result
    holds every stored distance, or some entry does not and the result is `NonSymmetric`.
    `IndexError` and a panic are impossible. -/
theorem fillStrict_spec (square : Bool) (rows : List (List L)) (m0 : Mat L) {n : Nat}
    (hn : m0.taxa.length = n) (hlen : rows.length = n)
    (hshape : ∀ i, i < n → (rows.getD i []).length = limS square n i) (hvs : m0.v.size = T n) :
    (∃ m', fillStrict cd square rows m0 = .ok m' ∧ m'.taxa = m0.taxa ∧ m'.v.size = T n ∧
        (∀ a b, a < n → b < limS square n a → a ≠ b → ¬ (square = true ∧ b < a) →
            m'.v.getD (cell a b) default = entry rows a b) ∧
        (square = true → ∀ a b, b < a → a < n → cd.numEq (entry rows b a) (entry rows a b) = true)) ∨
    (fillStrict cd square rows m0 = .err "NonSymmetric" ∧ square = true ∧
        ∃ a b, b < a ∧ a < n ∧ cd.numEq (entry rows b a) (entry rows a b) = false) := by
  have hsh := fun mm => fillStrict_shape cd square rows m0 mm
  unfold fillStrict at hsh ⊢
  rw [cellsOf_eq square n rows hlen hshape] at hsh ⊢
  have hall := foldl_cellsIdx (fillCell cd square) (limS square n) (entry rows) (Out cd square n (entry rows)) n
    (fun i j st hi hj => out_step cd hi hj) (fun i st _ => Out.congr cd (before_row i)) (.ok m0)
    (Or.inl ⟨m0, rfl, inv_init m0 hn hvs, fun a b hb => by simp only [Before] at hb; omega⟩) n (Nat.le_refl _)
  rcases hall with ⟨mm, hres, hinv, hcond⟩ | ⟨hres, a, b, hb, ha, hnc⟩
  · rw [hres]
    refine Or.inl ⟨mm, rfl, (hsh mm hres).1, hinv.vsize, ?_, ?_⟩
    · intro a b ha hb hab hnc
      exact hinv.cells a b (Or.inl ⟨ha, hb⟩) ⟨hab, hnc⟩ ha
    · intro hsq a b hba ha
      exact hcond a b (Or.inl ⟨ha, by simp only [limS, hsq, ↓reduceIte]; omega⟩) hsq hba
  · rw [hres]
    have ⟨hsq, hba, hq⟩ : square = true ∧ b < a ∧ cd.numEq (entry rows b a) (entry rows a b) = false := by
      simpa [Cond] using hnc
    exact Or.inr ⟨rfl, hsq, a, b, hba, ha, hq⟩

end PHY
