import PhyloModel.Matrix.PhylipFillSpec
import PhyloModel.Matrix.PhylipRT
import PhyloModel.Matrix.PhylipRows
/-! The strict parser (positional fill) behind a parsed header, with no condition on the names, as ONE total
    specification (`strict_spec`): when the lines are acceptable (`Accepts`: their number, every line parses, row
    lengths, and for the square layout zero diagonal and symmetry under the symmetry test) it returns the matrix
    holding the parsed names and exactly the parsed distances that are stored (`Returned`); otherwise an error.
    Totality, the acceptance criterion, symmetry and what is stored are read off it. -/
set_option linter.unusedSectionVars false
namespace PHY
open MXS MX Tri

variable {L : Type} [Inhabited L] (cd : Codec L)

theorem parsedRows_getD {size : Nat} {rest : List Text} {k : Nat} (hk : k < rest.length) :
    (parsedRows cd size rest).getD k [] = (parseLine cd size rest[k]).2 := by
  simp [parsedRows, List.getD_eq_getElem?_getD, hk]

theorem rowsOK_iff {size : Nat} {square : Bool} {rest : List Text} (hlen : rest.length = size) :
    (∀ p ∈ rest.zipIdx 0, RowOK cd size square p.2 p.1) ↔
      (∀ l ∈ rest, readRow cd l (size + 1) = .ok (parseLine cd size l)) ∧
      (∀ k, k < size → ((parsedRows cd size rest).getD k []).length = limS square size k) ∧
      (square = true → ∀ k, k < size → cd.isZero (entry (parsedRows cd size rest) k k) = true) := by
  subst hlen
  rw [forall_mem_zipIdx]
  simp only [Nat.zero_add]
  constructor
  · intro h
    refine ⟨fun l hl => ?_, fun k hk => ?_, fun hs k hk => ?_⟩
    · obtain ⟨k, hk, rfl⟩ := List.getElem_of_mem hl
      exact (h k hk).2.1
    · rw [parsedRows_getD cd hk]; exact (h k hk).2.2.1
    · rw [entry, parsedRows_getD cd hk]; exact (h k hk).2.2.2 hs
  · rintro ⟨h1, h2, h3⟩ k hk
    have e := parsedRows_getD cd (size := rest.length) hk
    exact ⟨hk, h1 _ (List.getElem_mem hk), e ▸ h2 k hk, fun hs => e ▸ h3 hs k hk⟩

/-- the lines after a header declaring `size` form an acceptable matrix in the given layout -/
structure Accepts (size : Nat) (square : Bool) (rest : List Text) : Prop where
  count : rest.length = size
  read : ∀ l ∈ rest, readRow cd l (size + 1) = .ok (parseLine cd size l)
  shape : ∀ k, k < size → ((parsedRows cd size rest).getD k []).length = limS square size k
  diag : square = true → ∀ k, k < size → cd.isZero (entry (parsedRows cd size rest) k k) = true
  symm : square = true → ∀ a b, b < a → a < size →
    cd.numEq (entry (parsedRows cd size rest) b a) (entry (parsedRows cd size rest) a b) = true

/-- the matrix returned for the accepted lines `rest` -/
structure Returned (size : Nat) (square : Bool) (rest : List Text) (m : Mat L) : Prop where
  taxa : m.taxa = parsedNames cd size rest
  vsize : m.v.size = T size
  cells : ∀ i j, i < size → j < limS square size i → i ≠ j → ¬ (square = true ∧ j < i) →
    m.v.getD (cell i j) default = entry (parsedRows cd size rest) i j

/-- **total specification**: behind a header declaring `size`, the strict parser returns the matrix of the
    parsed rows when the lines are acceptable, and an error otherwise; never a panic -/
theorem strict_spec {text first : Text} {rest : List Text} {size : Nat} (square : Bool)
    (hlines : PH.lines text = first :: rest) (hsize : parseUsize first = some size) :
    (Accepts cd size square rest ∧ ∃ m, fromPhylipStrict cd text square = .ok m ∧ Returned cd size square rest m) ∨
    (¬ Accepts cd size square rest ∧ ∃ k, fromPhylipStrict cd text square = .err k) := by
  have hgo := strictGo_ok_iff cd size square rest 0 [] []
  unfold fromPhylipStrict
  rw [hlines]
  simp only [hsize]
  cases hres : strictGo cd size square rest 0 [] [] with
  | panic => exact absurd hres (strictGo_no_panic cd _ _ _ _ _ _)
  | err k =>
    refine Or.inr ⟨fun h => ?_, k, rfl⟩
    rw [(hgo _).2 ⟨(rowsOK_iff cd h.count).2 ⟨h.read, h.shape, h.diag⟩, rfl⟩] at hres
    cases hres
  | ok out =>
    obtain ⟨hall, rfl⟩ := (hgo out).1 hres
    simp only [List.nil_append, parsedNames, List.length_map, ne_eq]
    by_cases hrl : rest.length = size
    · obtain ⟨hread, hshape, hdiag⟩ := (rowsOK_iff cd hrl).1 hall
      rw [if_neg (fun h => h hrl), T2_eq_T]
      rcases fillStrict_spec cd square (parsedRows cd size rest)
          { taxa := parsedNames cd size rest, v := Array.replicate (T size) cd.zero }
          (by simp [parsedNames, hrl]) (by simp [parsedRows, hrl]) hshape (by simp) with
        ⟨m', hres', htaxa, hvs, hcells, hsym⟩ | ⟨hres', hs, a, b, hba, ha, hq⟩
      · exact Or.inl ⟨⟨hrl, hread, hshape, hdiag, hsym⟩, m', hres', htaxa, hvs, hcells⟩
      · refine Or.inr ⟨fun h => ?_, _, hres'⟩
        rw [h.symm hs a b hba ha] at hq; cases hq
    · rw [if_pos hrl]
      exact Or.inr ⟨fun h => hrl h.count, _, rfl⟩

/-- the header of any text that is not refused at once -/
theorem header_cases (text : Text) (square : Bool) :
    (∃ k, fromPhylipStrict cd text square = .err k) ∨
    ∃ (first : Text) (rest : List Text) (size : Nat), PH.lines text = first :: rest ∧ parseUsize first = some size := by
  cases hl : PH.lines text with
  | nil => exact Or.inl ⟨"EmptyMatrixFile", by simp only [fromPhylipStrict, hl]⟩
  | cons first rest =>
    cases hs : parseUsize first with
    | none => exact Or.inl ⟨"SizeParseError", by simp only [fromPhylipStrict, hl, hs]⟩
    | some size => exact Or.inr ⟨first, rest, size, rfl, hs⟩

theorem strict_ok_stored (text : Text) (square : Bool) (m : Mat L) (h : fromPhylipStrict cd text square = .ok m) :
    ∃ (first : Text) (rest : List Text) (size : Nat), PH.lines text = first :: rest ∧ parseUsize first = some size ∧
      Accepts cd size square rest ∧ Returned cd size square rest m := by
  rcases header_cases cd text square with ⟨k, h'⟩ | ⟨first, rest, size, hlines, hsize⟩
  · rw [h] at h'; cases h'
  · rcases strict_spec cd square hlines hsize with ⟨ha, m', h', hr⟩ | ⟨_, k, h'⟩ <;> rw [h] at h' <;> cases h'
    exact ⟨first, rest, size, hlines, hsize, ha, hr⟩

end PHY
