import PhyloModel.Matrix.Store
/-! Laws of the triangular store: the index pair is a bijection between unordered pairs of distinct taxa
    below `n` and cells `[0, n(n-1)/2)`, with an explicit integer inverse. -/
namespace MXS
open Tri MX

theorem rowGo_spec (k : Nat) : ∀ (f i : Nat), T i ≤ k → k < i + f →
    T (rowGo f k i (T i)) ≤ k ∧ k < T (rowGo f k i (T i) + 1)
  | 0, i, h1, h2 => by
    simp only [rowGo]
    refine ⟨h1, ?_⟩
    show k < T i + i
    omega
  | f + 1, i, h1, h2 => by
    simp only [rowGo]
    split
    · next hle =>
      have : T (i + 1) = T i + i := rfl
      rw [← this]
      exact rowGo_spec k f (i + 1) (by rw [this]; exact hle) (by omega)
    · next hgt => exact ⟨h1, by show k < T i + i; omega⟩

theorem rowOf_spec (k : Nat) : T (rowOf k) ≤ k ∧ k < T (rowOf k + 1) := by
  have := rowGo_spec k (k + 1) 1 (by simp [T]) (by omega)
  simpa [rowOf, T] using this

theorem rowOf_pos (k : Nat) : 1 ≤ rowOf k := by
  have h := (rowOf_spec k).2
  by_cases h0 : rowOf k = 0
  · rw [h0] at h; simp [T] at h
  · omega

theorem invIdx_spec (k : Nat) : (invIdx k).2 < (invIdx k).1 ∧ idx (invIdx k).1 (invIdx k).2 = k := by
  obtain ⟨h1, h2⟩ := rowOf_spec k
  simp only [invIdx]
  have : T (rowOf k + 1) = T (rowOf k) + rowOf k := rfl
  constructor
  · omega
  · rw [idx_eq]; omega

theorem invIdx_idx (i j : Nat) (h : j < i) : invIdx (idx i j) = (i, j) := by
  obtain ⟨g1, g2⟩ := invIdx_spec (idx i j)
  have := idx_inj g1 h g2
  exact Prod.ext this.1 this.2

theorem invIdx_lt (n k : Nat) (hk : k < T n) : (invIdx k).1 < n := by
  obtain ⟨h1, _⟩ := rowOf_spec k
  simp only [invIdx]
  by_cases h : rowOf k < n
  · exact h
  · have := T_mono (Nat.le_of_not_lt h)
    omega

end MXS
