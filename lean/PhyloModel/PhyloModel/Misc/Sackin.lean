/-! Sackin index (C12): the sum of the leaf depths is the sum over the internal nodes of the leaves below. -/
namespace SK

inductive T where | node (kids : List T)

mutual
def nLeaves : T → Nat
  | .node [] => 1
  | .node (k :: ks) => nLeavesL (k :: ks)
def nLeavesL : List T → Nat
  | [] => 0
  | k :: ks => nLeaves k + nLeavesL ks
end

mutual
/-- sum over leaves of (depth of the leaf), starting at depth `d` — what `Tree::sackin` computes from cached depths -/
def depthSum : Nat → T → Nat
  | d, .node [] => d
  | d, .node (k :: ks) => depthSumL (d + 1) (k :: ks)
def depthSumL : Nat → List T → Nat
  | _, [] => 0
  | d, k :: ks => depthSum d k + depthSumL d ks
end

mutual
/-- textbook Sackin: sum over internal nodes of the number of leaves below -/
def sackin : T → Nat
  | .node [] => 0
  | .node (k :: ks) => nLeavesL (k :: ks) + sackinL (k :: ks)
def sackinL : List T → Nat
  | [] => 0
  | k :: ks => sackin k + sackinL ks
end

mutual
theorem depthSum_eq : ∀ (t : T) (d : Nat), depthSum d t = d * nLeaves t + sackin t
  | .node [], d => by simp [depthSum, nLeaves, sackin]
  | .node (k :: ks), d => by
    have := depthSumL_eq (k :: ks) (d + 1)
    simp only [depthSum, nLeaves, sackin]
    rw [this]
    rw [Nat.add_mul]; omega
theorem depthSumL_eq : ∀ (ts : List T) (d : Nat), depthSumL d ts = d * nLeavesL ts + sackinL ts
  | [], d => by simp [depthSumL, nLeavesL, sackinL]
  | k :: ks, d => by
    have h1 := depthSum_eq k d
    have h2 := depthSumL_eq ks d
    simp only [depthSumL, nLeavesL, sackinL]
    rw [h1, h2, Nat.mul_add]; omega
end

/-- with correct cached depths, the code's Sackin is the textbook Sackin -/
theorem sackin_two_definitions (t : T) : depthSum 0 t = sackin t := by
  simpa using depthSum_eq t 0

end SK
