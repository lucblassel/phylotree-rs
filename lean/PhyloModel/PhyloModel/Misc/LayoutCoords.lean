import PhyloModel.Misc.Layout
/-! Coordinates of the radial layout (src/tree/draw.rs `radial_layout`), on top of the exact-angle model
    `LAY.layout`.  `c s : Rat → Rat` stand for `cos`/`sin` of an angle given as a fraction of a turn; the
    position of a node is the position of its parent plus `len · (c θ, s θ)` where `θ` is the bisector of the
    node's wedge; the root sits at the origin.  Same traversal as `LAY.layout` (pre-order, wedges handed out
    left to right). -/
namespace LAY
open AR

/-- `draw::Branch` (with the ids of the two end points, which the crate keeps implicit in the order) together
    with `draw::Node`: the labelled point of node `id` is `(xend, yend)` with label `name` -/
structure Branch where
  xstart : Rat
  ystart : Rat
  xend : Rat
  yend : Rat
  parent : Nat
  id : Nat
  name : Option String
deriving Repr, DecidableEq

/-- the branch length of a node as a rational (`0` when absent: `radialCoords` refuses such trees) -/
def lenQ (t : Rose) : Rat := ((t.len.getD 0 : Int) : Rat)

mutual
/-- branches of the subtree below `t`, whose wedge starts at `start` and which is drawn at `pos`; `ℓ` gives the
    branch lengths -/
def placeW (ℓ : Rose → Rat) (c s : Rat → Rat) (total : Nat) : Rose → Rat → Rat × Rat → List Branch
  | .node i _ _ _ ks, start, pos => placeWL ℓ c s total i ks start pos
def placeWL (ℓ : Rose → Rat) (c s : Rat → Rat) (total : Nat) (p : Nat) : List Rose → Rat → Rat × Rat → List Branch
  | [], _, _ => []
  | k :: ks, start, pos =>
    let w : Rat := (nLeaves k : Rat) / (total : Rat)
    let q : Rat × Rat := (pos.1 + ℓ k * c (start + w / 2), pos.2 + ℓ k * s (start + w / 2))
    { xstart := pos.1, ystart := pos.2, xend := q.1, yend := q.2, parent := p, id := k.id, name := k.name } ::
      (placeW ℓ c s total k start q ++ placeWL ℓ c s total p ks (start + w) pos)
end

/-- the coordinates with the tree's own branch lengths -/
def place (c s : Rat → Rat) (total : Nat) (t : Rose) (start : Rat) (pos : Rat × Rat) : List Branch :=
  placeW lenQ c s total t start pos
def placeL (c s : Rat → Rat) (total : Nat) (p : Nat) (ks : List Rose) (start : Rat) (pos : Rat × Rat) : List Branch :=
  placeWL lenQ c s total p ks start pos

theorem place_node (c s : Rat → Rat) (total i : Nat) (n : Option String) (l : Option Int) (d : Nat) (ks : List Rose)
    (start : Rat) (pos : Rat × Rat) :
    place c s total (.node i n l d ks) start pos = placeL c s total i ks start pos := by
  rw [place, placeW, placeL]

theorem placeL_nil (c s : Rat → Rat) (total p : Nat) (start : Rat) (pos : Rat × Rat) :
    placeL c s total p [] start pos = [] := by rw [placeL, placeWL]

theorem placeL_cons (c s : Rat → Rat) (total p : Nat) (k : Rose) (ks : List Rose) (start : Rat) (pos : Rat × Rat) :
    placeL c s total p (k :: ks) start pos =
      { xstart := pos.1, ystart := pos.2,
        xend := pos.1 + lenQ k * c (start + (nLeaves k : Rat) / (total : Rat) / 2),
        yend := pos.2 + lenQ k * s (start + (nLeaves k : Rat) / (total : Rat) / 2), parent := p, id := k.id,
        name := k.name } ::
      (place c s total k start
          (pos.1 + lenQ k * c (start + (nLeaves k : Rat) / (total : Rat) / 2),
           pos.2 + lenQ k * s (start + (nLeaves k : Rat) / (total : Rat) / 2)) ++
        placeL c s total p ks (start + (nLeaves k : Rat) / (total : Rat)) pos) := by
  rw [placeL, placeWL]; rfl

/-- `radial_layout` with coordinates: the root at the origin, its wedge the full turn starting at angle 0;
    refused when a non-root branch lacks a length -/
def radialCoords (c s : Rat → Rat) (t : Rose) : QR (List Branch) :=
  match radial t with
  | .ok _ => .ok (place c s (nLeaves t) t 0 (0, 0))
  | .err e => .err e
  | .panic => .panic

theorem radial_ok {t : Rose} {segs : List Seg} (h : radial t = .ok segs) :
    segs = layout (nLeaves t) t 0 ∧ ∀ g ∈ segs, g.len ≠ none := by
  by_cases hany : (layout (nLeaves t) t 0).any (fun s => s.len.isNone) = true
  · rw [radial, if_pos hany] at h; cases h
  · rw [radial, if_neg hany] at h; cases h
    exact ⟨rfl, fun g hg hn => hany (List.any_eq_true.2 ⟨g, hg, by rw [hn]; rfl⟩)⟩

/-- the drawn position of node `i`: the end of its branch; the root (no branch) sits at the origin -/
def posOf (bs : List Branch) (i : Nat) : Rat × Rat :=
  match bs.find? (fun b => b.id == i) with
  | some b => (b.xend, b.yend)
  | none => (0, 0)

/-- `Branch::rescale` / `Node::rescale` -/
def Branch.rescale (f : Rat) (b : Branch) : Branch :=
  { b with xstart := b.xstart * f, ystart := b.ystart * f, xend := b.xend * f, yend := b.yend * f }

/-- `Layout::rescale` -/
def rescale (f : Rat) (bs : List Branch) : List Branch := bs.map (Branch.rescale f)

mutual
/-- the tree with every branch length multiplied by the integer `f` -/
def scaleT (f : Int) : Rose → Rose
  | .node i n l d ks => .node i n (l.map (f * ·)) d (scaleTL f ks)
def scaleTL (f : Int) : List Rose → List Rose
  | [] => []
  | k :: ks => scaleT f k :: scaleTL f ks
end

theorem placeW_kids (ℓ : Rose → Rat) (c s : Rat → Rat) (total : Nat) (t : Rose) (start : Rat) (pos : Rat × Rat) :
    placeW ℓ c s total t start pos = placeWL ℓ c s total t.id t.kids start pos := by
  cases t; rw [placeW]; rfl

theorem scale_step (x f d e : Rat) : x * f + f * d * e = (x + d * e) * f := by grind

theorem scaleTL_eq_map (f : Int) : ∀ ks : List Rose, scaleTL f ks = ks.map (scaleT f)
  | [] => by rw [scaleTL]; rfl
  | k :: ks => by rw [scaleTL, scaleTL_eq_map f ks]; rfl

theorem kids_scaleT (f : Int) (t : Rose) : (scaleT f t).kids = t.kids.map (scaleT f) := by
  cases t; rw [scaleT]; exact scaleTL_eq_map f _

section rescale
variable (ℓ ℓ' : Rose → Rat) (g : Rose → Rose) (c s : Rat → Rat) (total : Nat) (f : Rat)
  (hn : ∀ k, nLeaves (g k) = nLeaves k) (hi : ∀ k, (g k).id = k.id) (hm : ∀ k, (g k).name = k.name)
  (hk : ∀ k, (g k).kids = k.kids.map g) (hl : ∀ k, ℓ' (g k) = f * ℓ k)
include hn hi hm hk hl

mutual
/-- `Layout::rescale` commutes with the construction, for a tree `g t` that `placeW` cannot tell from `t` except
    through the lengths: `g` keeps ids, names, leaf counts and the shape, and `g k` is `f` times as long under
    `ℓ'` as `k` under `ℓ`.  Then drawing `g t` from the rescaled start point = rescaling the drawing of `t`.
    (`g = id`: the same tree with every length multiplied by `f`; `g = scaleT f`: the rescaled tree.) -/
theorem placeW_rescale : ∀ (t : Rose) (start : Rat) (pos : Rat × Rat),
    placeW ℓ' c s total (g t) start (pos.1 * f, pos.2 * f) = rescale f (placeW ℓ c s total t start pos)
  | .node i n l d ks, start, pos => by
    rw [placeW_kids, hk, hi, placeW]; exact placeWL_rescale i ks start pos
theorem placeWL_rescale (p : Nat) : ∀ (ks : List Rose) (start : Rat) (pos : Rat × Rat),
    placeWL ℓ' c s total p (ks.map g) start (pos.1 * f, pos.2 * f) = rescale f (placeWL ℓ c s total p ks start pos)
  | [], start, pos => by rw [List.map_nil, placeWL, placeWL]; rfl
  | k :: ks, start, pos => by
    rw [List.map_cons, placeWL, placeWL]
    simp only [rescale, List.map_cons, List.map_append, Branch.rescale, hn, hi, hm, hl, scale_step]
    have h1 := placeW_rescale k start
      (pos.1 + ℓ k * c (start + (nLeaves k : Rat) / (total : Rat) / 2),
       pos.2 + ℓ k * s (start + (nLeaves k : Rat) / (total : Rat) / 2))
    have h2 := placeWL_rescale p ks (start + (nLeaves k : Rat) / (total : Rat)) pos
    simp only [rescale] at h1 h2
    rw [← h1, ← h2]
end
end rescale

end LAY
