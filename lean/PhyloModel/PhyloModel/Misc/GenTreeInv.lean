import PhyloModel.Misc.Generators
import PhyloModel.Props.C17
/-! C17: the child lists built by the random generators form a ROOTED TREE with root `0`: children are
    created after their parent (no cycles), every slot but `0` has a parent, and only one.  (`GInv` gives the
    counts and the binary shape; this file adds connectedness and acyclicity.) -/
namespace GEN

structure GTree (s : St) : Prop where
  /-- a child is a later slot than its parent: following parents strictly decreases, so it ends at `0` -/
  up : ∀ p c, c ∈ s.kids p → p < c ∧ c < s.size
  parent : ∀ c, 0 < c → c < s.size → ∃ p, c ∈ s.kids p
  unique : ∀ p p' c, c ∈ s.kids p → c ∈ s.kids p' → p = p'

theorem gtree_init : GTree init := by
  refine ⟨?_, ?_, ?_⟩
  · intro p c h; simp [init] at h
  · intro c h0 h1; simp [init] at h1; omega
  · intro p p' c h; simp [init] at h

/-- the common step of both generators: a current tip `p` receives the two fresh slots -/
theorem gtree_step (s : St) (k : Nat) (h : GInv s k) (t : GTree s) (p : Nat) (hp : p ∈ s.deq) (deq' : List Nat) :
    GTree { size := s.size + 2,
            kids := fun i => if i = p then s.kids p ++ [s.size, s.size + 1] else s.kids i,
            deq := deq' } := by
  have hp_lt : p < s.size := h.lt p hp
  have hpk : s.kids p = [] := (h.tips p hp_lt).1 hp
  -- a child in the new lists is a fresh slot under `p`, or an old slot under its old parent
  have hk : ∀ q c, c ∈ (if q = p then s.kids p ++ [s.size, s.size + 1] else s.kids q) →
      (q = p ∧ s.size ≤ c ∧ c < s.size + 2) ∨ (q ≠ p ∧ c ∈ s.kids q ∧ c < s.size) := by
    intro q c hc
    split at hc
    · next hq =>
      simp only [hpk, List.nil_append, List.mem_cons, List.not_mem_nil, or_false] at hc
      exact Or.inl ⟨hq, by omega⟩
    · next hq => exact Or.inr ⟨hq, hc, (t.up q c hc).2⟩
  refine ⟨fun q c hc => ?_, fun c h0 h1 => ?_, fun q q' c hc hc' => ?_⟩
  · dsimp only
    rcases hk q c hc with ⟨rfl, _, _⟩ | ⟨_, hc, _⟩
    · omega
    · have := t.up q c hc; omega
  · dsimp only at h1 ⊢
    by_cases hc : c < s.size
    · obtain ⟨q, hq⟩ := t.parent c h0 hc
      have hqp : q ≠ p := fun e => by rw [e, hpk] at hq; cases hq
      exact ⟨q, by rw [if_neg hqp]; exact hq⟩
    · exact ⟨p, by simp only [↓reduceIte, hpk, List.nil_append, List.mem_cons]; omega⟩
  · rcases hk q c hc, hk q' c hc' with ⟨⟨rfl, _, _⟩ | ⟨_, hc, _⟩, ⟨rfl, _, _⟩ | ⟨_, hc', _⟩⟩
    · rfl
    · omega
    · omega
    · exact t.unique q q' c hc hc'

theorem runG_gtree : ∀ (bs : List Bool) (s : St) (k : Nat), GInv s k → GTree s →
    ∀ s', runG s bs = some s' → GTree s'
  | [], s, k, _, t, s', e => by cases e; exact t
  | b :: bs, s, k, h, t, s', e => by
    obtain ⟨p, rest, hp, e1⟩ := stepG_eq s (List.ne_nil_of_length_pos (by rw [h.len]; omega)) b
    rw [runG, e1] at e
    exact runG_gtree bs _ (k + 1) (step_core s k h p rest hp)
      (gtree_step s k h t p (hp.mem_iff.2 List.mem_cons_self) _) s' e

theorem runY_gtree : ∀ (ks : List Nat) (s : St) (n : Nat), GInv s n → GTree s →
    ∀ s', runY s ks = some s' → GTree s'
  | [], s, n, _, t, s', e => by cases e; exact t
  | j :: ks, s, n, h, t, s', e => by
    rw [runY] at e
    cases hd : s.deq[j]? with
    | none => simp [stepY, hd] at e
    | some p =>
      obtain ⟨hj, rfl⟩ := List.getElem?_eq_some_iff.1 hd
      obtain ⟨s1, h1, g1⟩ := C17.yule_step s j n h hj
      rw [h1] at e
      refine runY_gtree ks s1 (n + 1) g1 ?_ s' e
      simp only [stepY, hd, Option.some.injEq] at h1
      subst h1
      exact gtree_step s n h t _ (List.getElem_mem hj) _

end GEN
