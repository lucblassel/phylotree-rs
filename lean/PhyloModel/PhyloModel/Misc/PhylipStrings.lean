/-! Rust `split_whitespace` and `lines` on `List Char`, with the round-trip lemmas the Phylip writer needs. -/
namespace PH

def isWs (c : Char) : Bool :=
  let n := c.toNat
  (9 ≤ n && n ≤ 13) || n == 32 || n == 0x85 || n == 0xA0 || n == 0x1680 ||
  (0x2000 ≤ n && n ≤ 0x200A) || n == 0x2028 || n == 0x2029 || n == 0x202F || n == 0x205F || n == 0x3000

/-- `str::split_whitespace`: maximal runs of non-whitespace; `cur` is the run being read (reversed) -/
def splitWsAux : List Char → List Char → List (List Char)
  | [], cur => if cur = [] then [] else [cur.reverse]
  | c :: cs, cur =>
    if isWs c then (if cur = [] then splitWsAux cs [] else cur.reverse :: splitWsAux cs [])
    else splitWsAux cs (c :: cur)

def splitWs (s : List Char) : List (List Char) := splitWsAux s []

def Word (w : List Char) : Prop := w ≠ [] ∧ ∀ c ∈ w, isWs c = false
def Sep (s : List Char) : Prop := s ≠ [] ∧ ∀ c ∈ s, isWs c = true

theorem aux_word (w : List Char) (hw : ∀ c ∈ w, isWs c = false) (rest cur : List Char) :
    splitWsAux (w ++ rest) cur = splitWsAux rest (w.reverse ++ cur) := by
  induction w generalizing cur with
  | nil => simp
  | cons c cs ih =>
    have hc := hw c (by simp)
    simp only [List.cons_append, splitWsAux, hc]
    simp only [Bool.false_eq_true, ↓reduceIte]
    rw [ih (fun d hd => hw d (by simp [hd]))]
    simp

theorem aux_sep_empty (s : List Char) (hs : ∀ c ∈ s, isWs c = true) (rest : List Char) :
    splitWsAux (s ++ rest) [] = splitWsAux rest [] := by
  induction s with
  | nil => simp
  | cons c cs ih =>
    have hc := hs c (by simp)
    simp only [List.cons_append, splitWsAux, hc]
    simpa using ih (fun d hd => hs d (by simp [hd]))

theorem aux_sep_flush (s : List Char) (hs : Sep s) (rest cur : List Char) (hcur : cur ≠ []) :
    splitWsAux (s ++ rest) cur = cur.reverse :: splitWsAux rest [] := by
  obtain ⟨hne, hall⟩ := hs
  cases s with
  | nil => exact absurd rfl hne
  | cons c cs =>
    have hc := hall c (by simp)
    simp only [List.cons_append, splitWsAux, hc, hcur]
    simp only [↓reduceIte, List.cons.injEq, true_and]
    exact aux_sep_empty cs (fun d hd => hall d (by simp [hd])) rest

def joinSep (sep : List Char) : List (List Char) → List Char
  | [] => []
  | [w] => w
  | w :: w2 :: ws => w ++ sep ++ joinSep sep (w2 :: ws)

theorem split_join (sep : List Char) (hsep : Sep sep) :
    ∀ (ws : List (List Char)), (∀ w ∈ ws, Word w) → splitWs (joinSep sep ws) = ws
  | [], _ => by simp [joinSep, splitWs, splitWsAux]
  | [w], h => by
    have hw := h w (by simp)
    simp only [joinSep, splitWs]
    have := aux_word w hw.2 [] []
    simp only [List.append_nil] at this
    rw [this]
    simp [splitWsAux, hw.1]
  | w :: w2 :: ws, h => by
    have hw := h w (by simp)
    have ih := split_join sep hsep (w2 :: ws) (fun x hx => h x (by simp [hx]))
    simp only [joinSep, splitWs, List.append_assoc] at ih ⊢
    rw [aux_word w hw.2]
    simp only [List.append_nil]
    rw [aux_sep_flush sep hsep _ _ (by simp [hw.1])]
    simp [ih]

/-- `str::lines`: split at `\n`, a `\r` just before it is dropped; `cur` is the line being read (reversed) -/
def linesAux : List Char → List Char → List (List Char)
  | [], cur => if cur = [] then [] else [cur.reverse]
  | c :: cs, cur =>
    if c = '\n' then
      (match cur with | '\r' :: cur' => cur'.reverse | _ => cur.reverse) :: linesAux cs []
    else linesAux cs (c :: cur)
def lines (s : List Char) : List (List Char) := linesAux s []

def Line (l : List Char) : Prop := (∀ c ∈ l, c ≠ '\n') ∧ l.getLast? ≠ some '\r'

theorem linesAux_line (l : List Char) (hl : ∀ c ∈ l, c ≠ '\n') (rest cur : List Char) :
    linesAux (l ++ rest) cur = linesAux rest (l.reverse ++ cur) := by
  induction l generalizing cur with
  | nil => simp
  | cons c cs ih =>
    have hc := hl c (by simp)
    simp only [List.cons_append, linesAux, hc, ↓reduceIte]
    rw [ih (fun d hd => hl d (by simp [hd]))]
    simp

theorem lines_terminated : ∀ (ls : List (List Char)), (∀ l ∈ ls, Line l) →
    lines (ls.flatMap (fun l => l ++ ['\n'])) = ls
  | [], _ => by simp [lines, linesAux]
  | l :: ls, h => by
    have hl := h l (by simp)
    have ih := lines_terminated ls (fun x hx => h x (by simp [hx]))
    simp only [lines, List.flatMap_cons, List.append_assoc] at ih ⊢
    rw [linesAux_line l hl.1]
    simp only [List.append_nil, List.singleton_append, linesAux, ↓reduceIte, List.cons.injEq]
    refine ⟨?_, ih⟩
    -- the last char of l is not '\r', so nothing is stripped
    cases hrev : l.reverse with
    | nil => simpa using hrev
    | cons c cs =>
      have : l.getLast? = some c := by
        have : l = (c :: cs).reverse := by rw [← hrev]; simp
        rw [this]; simp
      have hne : c ≠ '\r' := by intro hc; subst hc; exact hl.2 this
      split
      · next heq => cases heq; exact absurd rfl hne
      · rw [← hrev]; simp

end PH
