/-! Facts about `List` and `Array` that several regions of the development need and that Lean's core library does
    not have.  Nothing here mentions the model; the file imports nothing. -/
namespace List
variable {α β : Type}

/-- a function whose image of `l` has no duplicate is injective on `l` -/
theorem inj_of_nodup_map (f : α → β) (l : List α) (h : (l.map f).Nodup) : ∀ x ∈ l, ∀ y ∈ l, f x = f y → x = y := by
  have p : l.Pairwise fun a b => f a ≠ f b := pairwise_map.1 h
  exact fun x hx y hy => Pairwise.forall_of_forall_of_flip (R := fun x y => f x = f y → x = y) (fun _ _ _ => rfl)
    (p.imp fun hne e => absurd e hne) (p.imp fun hne e => absurd e.symm hne) hx hy

theorem nodup_map_iff_inj (f : α → β) (l : List α) (hn : l.Nodup) :
    (l.map f).Nodup ↔ ∀ x ∈ l, ∀ y ∈ l, f x = f y → x = y :=
  ⟨inj_of_nodup_map f l, fun h => pairwise_map.2 (hn.imp_of_mem fun hx hy hne e => hne (h _ hx _ hy e))⟩

theorem Perm.sum_int {l1 l2 : List Int} (h : l1.Perm l2) : l1.sum = l2.sum :=
  h.foldr_eq' (fun _ _ _ _ _ => by omega) 0

/-- in an association list without repeated keys, looking up the key of an entry finds that entry -/
theorem find?_fst_of_mem {κ : Type} [BEq κ] [LawfulBEq κ] {m : List (κ × β)} (hnd : (m.map (·.1)).Nodup) {p : κ × β}
    (hp : p ∈ m) : m.find? (fun q => q.1 == p.1) = some p := by
  induction m with
  | nil => cases hp
  | cons q m ih =>
    rw [map_cons, nodup_cons] at hnd
    rw [find?_cons]
    rcases mem_cons.1 hp with rfl | hp
    · rw [beq_self_eq_true]
    · rw [beq_false_of_ne fun e : q.1 = p.1 => hnd.1 (e ▸ mem_map_of_mem hp), ih hnd.2 hp]

/-! ### all pairs of a list, the earlier member first (`itertools::combinations(2)`) -/

def pairs : List α → List (α × α)
  | [] => []
  | x :: xs => xs.map (fun y => (x, y)) ++ pairs xs

theorem pairs_cons (x : α) (xs : List α) : pairs (x :: xs) = xs.map (fun y => (x, y)) ++ pairs xs := rfl

theorem pairs_map (f : α → β) : ∀ l : List α, pairs (l.map f) = (pairs l).map (fun p => (f p.1, f p.2))
  | [] => rfl
  | x :: xs => by
    simp [pairs_cons, pairs_map f xs, map_map, Function.comp_def]

theorem mem_pairs : ∀ (l : List α) (x y : α),
    (x, y) ∈ pairs l ↔ ∃ i j : Nat, i < j ∧ l[i]? = some x ∧ l[j]? = some y
  | [], x, y => by simp [pairs]
  | z :: zs, x, y => by
    rw [pairs_cons, mem_append, mem_pairs zs x y, mem_map]
    constructor
    · rintro (⟨w, hw, he⟩ | ⟨i, j, hij, hi, hj⟩)
      · cases he
        obtain ⟨j, hj⟩ := getElem?_of_mem hw
        exact ⟨0, j + 1, Nat.succ_pos j, rfl, hj⟩
      · exact ⟨i + 1, j + 1, Nat.succ_lt_succ hij, hi, hj⟩
    · rintro ⟨i, j, hij, hi, hj⟩
      obtain ⟨j, rfl⟩ := Nat.exists_eq_add_one_of_ne_zero (Nat.ne_zero_of_lt hij)
      cases i with
      | zero => exact .inl ⟨y, mem_of_getElem? hj, by cases hi; rfl⟩
      | succ i => exact .inr ⟨i, j, Nat.lt_of_succ_lt_succ hij, hi, hj⟩

theorem mem_of_mem_pairs {l : List α} {x y : α} (h : (x, y) ∈ pairs l) : x ∈ l ∧ y ∈ l := by
  obtain ⟨i, j, _, hi, hj⟩ := (mem_pairs l x y).mp h
  exact ⟨mem_of_getElem? hi, mem_of_getElem? hj⟩

theorem ne_of_mem_pairs : ∀ {l : List α}, l.Nodup → ∀ {x y : α}, (x, y) ∈ pairs l → x ≠ y
  | z :: zs, hnd, x, y, h => by
    rw [nodup_cons] at hnd
    rw [pairs_cons, mem_append, mem_map] at h
    rcases h with ⟨w, hw, e⟩ | h
    · cases e; exact fun e => hnd.1 (e ▸ hw)
    · exact ne_of_mem_pairs hnd.2 h

/-- every two different members form a pair, in one of the two orders -/
theorem pairs_total : ∀ {l : List α} {x y : α}, x ∈ l → y ∈ l → x ≠ y → (x, y) ∈ pairs l ∨ (y, x) ∈ pairs l
  | z :: zs, x, y, hx, hy, hne => by
    simp only [pairs_cons, mem_append, mem_map, Prod.mk.injEq]
    rcases mem_cons.mp hx with rfl | hx' <;> rcases mem_cons.mp hy with rfl | hy'
    · exact absurd rfl hne
    · exact .inl (.inl ⟨y, hy', rfl, rfl⟩)
    · exact .inr (.inl ⟨x, hx', rfl, rfl⟩)
    · exact (pairs_total hx' hy' hne).imp .inr .inr

/-- the values of a symmetric function on the pairs of a duplicate-free list -/
theorem mem_map_pairs {γ : Type} (f : α × α → γ) {l : List α} (hnd : l.Nodup)
    (hsym : ∀ x ∈ l, ∀ y ∈ l, f (x, y) = f (y, x)) (v : γ) :
    v ∈ (pairs l).map f ↔ ∃ x ∈ l, ∃ y ∈ l, x ≠ y ∧ f (x, y) = v := by
  rw [mem_map]
  constructor
  · rintro ⟨⟨x, y⟩, hxy, rfl⟩
    exact ⟨x, (mem_of_mem_pairs hxy).1, y, (mem_of_mem_pairs hxy).2, ne_of_mem_pairs hnd hxy, rfl⟩
  · rintro ⟨x, hx, y, hy, hne, rfl⟩
    rcases pairs_total hx hy hne with hp | hp
    · exact ⟨(x, y), hp, rfl⟩
    · exact ⟨(y, x), hp, hsym y hy x hx⟩

theorem pairs_nodup : ∀ l : List α, l.Nodup → (pairs l).Nodup
  | [], _ => by simp [pairs]
  | x :: xs, h => by
    rw [nodup_cons] at h
    rw [pairs_cons, nodup_append]
    refine ⟨?_, pairs_nodup xs h.2, ?_⟩
    · exact Pairwise.map _ (fun a b hab hc => hab (by cases hc; rfl)) h.2
    · intro p hp q hq hpq
      subst hpq
      obtain ⟨w, _, he⟩ := mem_map.mp hp
      subst he
      exact h.1 (mem_of_mem_pairs hq).1

theorem two_mul_length_pairs : ∀ l : List α, 2 * (pairs l).length = l.length * (l.length - 1)
  | [] => rfl
  | [_] => rfl
  | x :: y :: ys => by
    have ih := two_mul_length_pairs (y :: ys)
    simp only [length_cons, Nat.add_sub_cancel] at ih
    rw [pairs_cons]
    simp only [length_append, length_map, length_cons, Nat.add_sub_cancel]
    rw [Nat.mul_add, ih, Nat.mul_comm _ ys.length, ← Nat.add_mul, Nat.add_comm 2]

end List

namespace Array
variable {α : Type}

/-! ### reading a slot through `getD` after a write -/

theorem getD_setIfInBounds (xs : Array α) (v : Nat) (x d : α) (u : Nat) :
    (xs.setIfInBounds v x).getD u d = if u = v ∧ v < xs.size then x else xs.getD u d := by
  simp only [getD_eq_getD_getElem?, getElem?_setIfInBounds]
  grind

theorem getD_push (xs : Array α) (x d : α) (i : Nat) :
    (xs.push x).getD i d = if i = xs.size then x else xs.getD i d := by
  simp only [getD_eq_getD_getElem?, getElem?_push]
  split <;> simp_all

theorem getD_replicate (n : Nat) (x d : α) (i : Nat) :
    (Array.replicate n x).getD i d = if i < n then x else d := by
  simp only [getD_eq_getD_getElem?, getElem?_replicate]
  split <;> rfl

end Array
