/-! Level order emits non-decreasing depths (C10): the queue holds at most two consecutive levels. -/
namespace LV

inductive T where | node (id : Nat) (kids : List T)
def T.id : T → Nat | .node i _ => i
def T.kids : T → List T | .node _ ks => ks

mutual
def sz : T → Nat | .node _ ks => 1 + szL ks
def szL : List T → Nat | [] => 0 | k :: ks => sz k + szL ks
end
@[simp] theorem szL_nil : szL [] = 0 := by rw [szL]
@[simp] theorem szL_cons (k : T) (ks) : szL (k :: ks) = sz k + szL ks := by rw [szL]
@[simp] theorem sz_node (i ks) : sz (.node i ks) = 1 + szL ks := by rw [sz]

/-- `Tree::levelorder` with the depth of every queued node made explicit -/
def bfsD : Nat → List (T × Nat) → List (Nat × Nat)
  | 0, _ => []
  | _, [] => []
  | f + 1, (t, d) :: q => (t.id, d) :: bfsD f (q ++ t.kids.map (fun k => (k, d + 1)))

/-- queue invariant: depths non-decreasing and within one level of the head -/
def QInv (q : List (T × Nat)) : Prop :=
  (q.map (·.2)).Pairwise (· ≤ ·) ∧ ∀ d0, (q.map (·.2)).head? = some d0 → ∀ x ∈ q.map (·.2), x ≤ d0 + 1

theorem qinv_step (t : T) (d : Nat) (q : List (T × Nat)) (h : QInv ((t, d) :: q)) :
    QInv (q ++ t.kids.map (fun k => (k, d + 1))) ∧ ∀ x ∈ (q ++ t.kids.map (fun k => (k, d + 1))).map (·.2), d ≤ x := by
  obtain ⟨hs, hb⟩ := h
  simp only [List.map_cons, List.pairwise_cons] at hs
  have hb' := hb d rfl
  have hkids : ∀ x ∈ (t.kids.map (fun k => (k, d + 1))).map (·.2), x = d + 1 := by
    intro x hx; simp at hx; obtain ⟨_, _, rfl⟩ := hx; rfl
  rw [QInv, List.map_append]
  -- every depth in the new queue lies between `d` and `d + 1`; the new head is one of them
  have hlo : ∀ x ∈ q.map (·.2) ++ (t.kids.map (fun k => (k, d + 1))).map (·.2), d ≤ x := by
    intro x hx
    rcases List.mem_append.1 hx with hx | hx
    · exact hs.1 x hx
    · rw [hkids x hx]; exact Nat.le_succ d
  have hhi : ∀ x ∈ q.map (·.2) ++ (t.kids.map (fun k => (k, d + 1))).map (·.2), x ≤ d + 1 := by
    intro x hx
    rcases List.mem_append.1 hx with hx | hx
    · exact hb' x (List.mem_cons_of_mem _ hx)
    · exact Nat.le_of_eq (hkids x hx)
  refine ⟨⟨?_, ?_⟩, hlo⟩
  · rw [List.pairwise_append]
    refine ⟨hs.2, ?_, ?_⟩
    · rw [List.pairwise_iff_forall_sublist]
      intro a b hab
      rw [hkids a (hab.subset (by simp)), hkids b (hab.subset (by simp))]
      exact Nat.le_refl _
    · intro a ha b hb2
      rw [hkids b hb2]
      exact hb' a (List.mem_cons_of_mem _ ha)
  · intro d0 hd0 x hx
    have := hlo d0 (List.mem_of_mem_head? hd0)
    have := hhi x hx
    omega

theorem bfsD_ge : ∀ (f : Nat) (q : List (T × Nat)) (d : Nat), (∀ x ∈ q.map (·.2), d ≤ x) →
    ∀ y ∈ (bfsD f q).map (·.2), d ≤ y := by
  intro f
  induction f with
  | zero => intro q d _ y hy; simp [bfsD] at hy
  | succ f ih =>
    intro q d hq y hy
    cases q with
    | nil => simp [bfsD] at hy
    | cons td q =>
      obtain ⟨t, dt⟩ := td
      simp only [bfsD, List.map_cons, List.mem_cons] at hy
      have hdt : d ≤ dt := hq dt (by simp)
      rcases hy with rfl | hy
      · exact hdt
      · refine ih _ d ?_ y hy
        intro x hx
        rw [List.map_append, List.mem_append] at hx
        rcases hx with hx | hx
        · exact hq x (by simp [hx])
        · simp at hx; obtain ⟨_, _, rfl⟩ := hx; omega

/-- C10 core: level order lists nodes by non-decreasing depth -/
theorem bfsD_sorted : ∀ (f : Nat) (q : List (T × Nat)), QInv q → ((bfsD f q).map (·.2)).Pairwise (· ≤ ·) := by
  intro f
  induction f with
  | zero => intro q _; simp [bfsD]
  | succ f ih =>
    intro q hq
    cases q with
    | nil => simp [bfsD]
    | cons td q =>
      obtain ⟨t, d⟩ := td
      obtain ⟨h1, h2⟩ := qinv_step t d q hq
      simp only [bfsD, List.map_cons, List.pairwise_cons]
      exact ⟨fun y hy => bfsD_ge f _ d h2 y hy, ih _ h1⟩

theorem qinv_single (t : T) (d : Nat) : QInv [(t, d)] := by
  constructor
  · simp
  · intro d0 h x hx; simp at h hx; omega

end LV
