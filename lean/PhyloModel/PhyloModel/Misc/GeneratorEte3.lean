/-! C17: the state of the random generators of src/lib.rs (slots, child lists, current tips), the ETE3-like
    generator `generate_tree` as a function of its front/back choices, and the invariant `GInv` that one
    iteration — a tip leaves the deque and receives two fresh slots — preserves. -/
namespace GEN

structure St where
  size : Nat                 -- number of arena slots
  kids : Nat → List Nat      -- children of each slot
  deq : List Nat             -- `next_deq`: the current tips

/-- one iteration of the loop in `generate_tree`: `front = true` pops the front, else the back -/
def stepG (s : St) (front : Bool) : Option St :=
  let pick : Option (Nat × List Nat) :=
    if front then (match s.deq with | p :: r => some (p, r) | [] => none)
    else (match s.deq.reverse with | p :: r => some (p, r.reverse) | [] => none)
  match pick with
  | none => none      -- `.unwrap()` on an empty deque
  | some (p, rest) =>
    some { size := s.size + 2,
           kids := fun i => if i = p then s.kids p ++ [s.size, s.size + 1] else s.kids i,
           deq := rest ++ [s.size, s.size + 1] }

def runG : St → List Bool → Option St
  | s, [] => some s
  | s, b :: bs => match stepG s b with | some s' => runG s' bs | none => none

def init : St := { size := 1, kids := fun _ => [], deq := [0] }

structure GInv (s : St) (k : Nat) : Prop where    -- after k iterations
  size : s.size = 2 * k + 1
  len : s.deq.length = k + 1
  nodup : s.deq.Nodup
  lt : ∀ i ∈ s.deq, i < s.size
  tips : ∀ i, i < s.size → (i ∈ s.deq ↔ s.kids i = [])
  binary : ∀ i, i < s.size → i ∉ s.deq → ∃ a b, s.kids i = [a, b] ∧ a ≠ b ∧ a < s.size ∧ b < s.size
  oob : ∀ i, s.size ≤ i → s.kids i = []

theorem ginv_init : GInv init 0 := by
  refine ⟨rfl, rfl, by simp [init], by simp [init], ?_, ?_, ?_⟩
  · intro i hi; simp [init] at hi ⊢; omega
  · intro i hi hn; simp [init] at hi hn; omega
  · intro i _; rfl

/-- removing one element `p` from a duplicate-free deque and appending two fresh ids -/
theorem step_core (s : St) (k : Nat) (h : GInv s k) (p : Nat) (rest : List Nat)
    (hperm : s.deq.Perm (p :: rest)) :
    GInv { size := s.size + 2,
           kids := fun i => if i = p then s.kids p ++ [s.size, s.size + 1] else s.kids i,
           deq := rest ++ [s.size, s.size + 1] } (k + 1) := by
  have hnd : (p :: rest).Nodup := hperm.nodup_iff.1 h.nodup
  have hmem : ∀ i, i ∈ s.deq ↔ (i = p ∨ i ∈ rest) := fun i => by rw [hperm.mem_iff]; simp
  have hp_lt : p < s.size := h.lt p ((hmem p).2 (Or.inl rfl))
  have hpk : s.kids p = [] := (h.tips p hp_lt).1 ((hmem p).2 (Or.inl rfl))
  have hp_rest : p ∉ rest := (List.nodup_cons.1 hnd).1
  have hrest_lt : ∀ i ∈ rest, i < s.size := fun i hi => h.lt i ((hmem i).2 (Or.inr hi))
  refine ⟨?_, ?_, ?_, ?_, ?_, ?_, ?_⟩
  · simp only; have := h.size; omega
  · simp only [List.length_append, List.length_cons, List.length_nil]
    have := hperm.length_eq; simp at this; have := h.len; omega
  · simp only
    rw [List.nodup_append]
    refine ⟨(List.nodup_cons.1 hnd).2, by simp, ?_⟩
    intro a ha b hb
    have := hrest_lt a ha
    simp at hb; omega
  · intro i hi
    simp only [List.mem_append, List.mem_cons, List.not_mem_nil, or_false] at hi
    simp only
    rcases hi with hi | hi | hi
    · have := hrest_lt i hi; omega
    · omega
    · omega
  · intro i hi
    simp only at hi ⊢
    simp only [List.mem_append, List.mem_cons, List.not_mem_nil, or_false]
    by_cases hip : i = p
    · subst hip
      simp [hpk, hp_rest]; omega
    · simp only [hip, ↓reduceIte]
      by_cases hlt : i < s.size
      · rw [← h.tips i hlt, hmem i]
        constructor
        · rintro (hr | hr | hr)
          · exact Or.inr hr
          · omega
          · omega
        · rintro (hr | hr)
          · exact absurd hr hip
          · exact Or.inl hr
      · have : s.kids i = [] := h.oob i (by omega)
        simp only [this, iff_true]
        right; omega
  · intro i hi hn
    simp only at hi hn ⊢
    simp only [List.mem_append, List.mem_cons, List.not_mem_nil, or_false, not_or] at hn
    by_cases hip : i = p
    · subst hip
      exact ⟨s.size, s.size + 1, by simp [hpk], by omega, by omega, by omega⟩
    · simp only [hip, ↓reduceIte]
      have hlt : i < s.size := by omega
      have hnd' : i ∉ s.deq := by rw [hmem i]; simp [hip, hn.1]
      obtain ⟨a, b, h1, h2, h3, h4⟩ := h.binary i hlt hnd'
      exact ⟨a, b, h1, h2, by omega, by omega⟩
  · intro i hi
    simp only at hi ⊢
    have hip : i ≠ p := by omega
    simp only [hip, ↓reduceIte]
    exact h.oob i (by omega)

theorem stepG_eq (s : St) (hne : s.deq ≠ []) (b : Bool) : ∃ p rest, s.deq.Perm (p :: rest) ∧
    stepG s b = some { size := s.size + 2,
                       kids := fun i => if i = p then s.kids p ++ [s.size, s.size + 1] else s.kids i,
                       deq := rest ++ [s.size, s.size + 1] } := by
  cases b with
  | true =>
    cases hd : s.deq with
    | nil => exact absurd hd hne
    | cons p r => exact ⟨p, r, .refl _, by simp [stepG, hd]⟩
  | false =>
    cases hd : s.deq.reverse with
    | nil => exact absurd (List.reverse_eq_nil_iff.1 hd) hne
    | cons p r =>
      refine ⟨p, r.reverse, ?_, by simp [stepG, hd]⟩
      rw [← List.reverse_reverse s.deq, hd, List.reverse_cons]
      exact List.perm_append_comm

/-- C17: started from `init` (`k = 0`), for every oracle of length `n - 1` the generator succeeds and returns
    `n` tips, `2n - 1` slots, every non-tip with exactly two children -/
theorem generate_tree_ok : ∀ (bs : List Bool) (s : St) (k : Nat), GInv s k →
    ∃ s', runG s bs = some s' ∧ GInv s' (k + bs.length)
  | [], s, k, h => ⟨s, rfl, h⟩
  | b :: bs, s, k, h => by
    obtain ⟨p, rest, hp, e1⟩ := stepG_eq s (List.ne_nil_of_length_pos (by rw [h.len]; omega)) b
    obtain ⟨s2, h2, g2⟩ := generate_tree_ok bs _ (k + 1) (step_core s k h p rest hp)
    exact ⟨s2, by rw [runG, e1]; exact h2, Nat.add_right_comm k 1 bs.length ▸ g2⟩

end GEN
