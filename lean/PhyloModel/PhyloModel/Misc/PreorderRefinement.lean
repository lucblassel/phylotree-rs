/-! `Tree::preorder` with fuel lists the pre-order of the abstraction with the same fuel:
    `preorderF = (absF).map pre`. -/
namespace RF

structure Node where
  children : List Nat := []
  deleted : Bool := false
deriving Inhabited

abbrev Arena := Array Node
def dead : Node := { deleted := true }
def nd (a : Arena) (i : Nat) : Node := a.getD i dead
def get? (a : Arena) (i : Nat) : Option Node :=
  if i < a.size ∧ (nd a i).deleted = false then some (nd a i) else none

inductive T where | node (id : Nat) (kids : List T)

mutual
def pre : T → List Nat | .node i ks => i :: preL ks
def preL : List T → List Nat | [] => [] | k :: ks => pre k ++ preL ks
end

/-- `Tree::preorder` with fuel; `none` = Err (or fuel exhausted) -/
def preorderF : Nat → Arena → Nat → Option (List Nat)
  | 0, _, _ => none
  | f + 1, a, x =>
    match get? a x with
    | none => none
    | some n =>
      (n.children.foldlM (fun acc c => (preorderF f a c).map (fun l => acc ++ l)) [x])

/-- abstraction with fuel -/
def absF : Nat → Arena → Nat → Option T
  | 0, _, _ => none
  | f + 1, a, x =>
    match get? a x with
    | none => none
    | some n => (n.children.mapM (fun c => absF f a c)).map (fun ks => T.node x ks)

theorem fold_lemma (f : Nat) (a : Arena)
    (ih : ∀ x, preorderF f a x = (absF f a x).map pre) :
    ∀ (cs : List Nat) (acc : List Nat),
      cs.foldlM (fun acc c => (preorderF f a c).map (fun l => acc ++ l)) acc
        = (cs.mapM (fun c => absF f a c)).map (fun ks => acc ++ preL ks) := by
  intro cs
  induction cs with
  | nil => intro acc; simp [preL]
  | cons c cs ihc =>
    intro acc
    simp only [List.foldlM_cons, List.mapM_cons, ih c]
    cases h : absF f a c with
    | none => simp
    | some k =>
      simp only [Option.map_some, Option.bind_eq_bind, Option.bind_some, ihc]
      cases h2 : cs.mapM (fun c => absF f a c) with
      | none => simp
      | some ks => simp [preL, List.append_assoc]

theorem preorder_abs : ∀ (f : Nat) (a : Arena) (x : Nat), preorderF f a x = (absF f a x).map pre := by
  intro f
  induction f with
  | zero => intro a x; simp [preorderF, absF]
  | succ f ih =>
    intro a x
    simp only [preorderF, absF]
    cases get? a x with
    | none => simp
    | some n =>
      simp only [fold_lemma f a (ih a)]
      cases n.children.mapM (fun c => absF f a c) with
      | none => simp
      | some ks => simp [pre]

end RF
