import PhyloModel.Misc.TriIndex
/-! C13: the cell of an unordered pair in the triangular store, and the get/set law by index. -/
namespace MX
open Tri

/-- `tril_to_rowvec_index` on an unordered pair -/
def cell (i j : Nat) : Nat := if i > j then idx i j else idx j i

theorem cell_symm (i j : Nat) (h : i ≠ j) : cell i j = cell j i := by
  simp only [cell]
  by_cases h1 : i > j
  · have : ¬ j > i := by omega
    simp [h1, this]
  · have : j > i := by omega
    simp [h1, this]

theorem cell_inj {i j i' j' : Nat} (h : i ≠ j) (h' : i' ≠ j') (hc : cell i j = cell i' j') :
    (i = i' ∧ j = j') ∨ (i = j' ∧ j = i') := by
  simp only [cell] at hc
  by_cases h1 : i > j <;> by_cases h2 : i' > j' <;> simp only [h1, h2, ↓reduceIte] at hc
  · have := idx_inj h1 h2 hc; exact Or.inl this
  · have := idx_inj h1 (by omega : i' < j') hc; exact Or.inr ⟨this.1, this.2⟩
  · have := idx_inj (by omega : i < j) h2 hc; exact Or.inr ⟨this.2, this.1⟩
  · have := idx_inj (by omega : i < j) (by omega : i' < j') hc; exact Or.inl ⟨this.2, this.1⟩

theorem cell_lt {i j n : Nat} (h : i ≠ j) (hi : i < n) (hj : j < n) : cell i j < T n := by
  simp only [cell]
  by_cases h1 : i > j
  · simp only [h1, ↓reduceIte]; exact idx_lt h1 hi
  · simp only [h1, ↓reduceIte]; exact idx_lt (by omega) hj

theorem getD_set_cell {α : Type} (v : Array α) (d x : α) {i j i' j' : Nat} (hij : i ≠ j) (hij' : i' ≠ j')
    (hlt : cell i j < v.size) :
    (v.setIfInBounds (cell i j) x).getD (cell i' j') d =
      if (i' = i ∧ j' = j) ∨ (i' = j ∧ j' = i) then x else v.getD (cell i' j') d := by
  simp only [Array.getD_eq_getD_getElem?, Array.getElem?_setIfInBounds]
  by_cases hc : cell i j = cell i' j'
  · have hcond : (i' = i ∧ j' = j) ∨ (i' = j ∧ j' = i) := by
      rcases cell_inj hij hij' hc with ⟨a, b⟩ | ⟨a, b⟩
      · exact Or.inl ⟨a.symm, b.symm⟩
      · exact Or.inr ⟨b.symm, a.symm⟩
    rw [← hc, if_pos hcond]
    simp [hlt]
  · have hcond : ¬ ((i' = i ∧ j' = j) ∨ (i' = j ∧ j' = i)) := by
      rintro (⟨a, b⟩ | ⟨a, b⟩)
      · subst a b; exact hc rfl
      · subst a b; exact hc (cell_symm j' i' hij)
    simp [hc, hcond]

structure Mat where
  n : Nat
  v : Array Int

def get (m : Mat) (i j : Nat) : Int := if i = j then 0 else m.v.getD (cell i j) 0
def set (m : Mat) (i j : Nat) (x : Int) : Mat := { m with v := m.v.setIfInBounds (cell i j) x }

theorem get_set (m : Mat) (hsz : m.v.size = T m.n) (i j i' j' : Nat) (x : Int) (hij : i ≠ j)
    (hi : i < m.n) (hj : j < m.n) (hij' : i' ≠ j') :
    get (set m i j x) i' j' = if (i' = i ∧ j' = j) ∨ (i' = j ∧ j' = i) then x else get m i' j' := by
  simp only [get, set, hij', ↓reduceIte]
  exact getD_set_cell m.v 0 x hij hij' (hsz ▸ cell_lt hij hi hj)

end MX
