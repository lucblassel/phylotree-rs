/-! C16: every Newick format is the full format of the stripped tree. -/
namespace FM

abbrev Label := List Char
inductive RT where | node (name : Option Label) (len : Option Label) (comment : Option Label) (kids : List RT)

inductive Fmt where
  | allFields | topology | noComments | onlyNames | onlyLengths | leafLengthsAllNames
  | leafLengthsLeafNames | internalLengthsLeafNames | allLengthsLeafNames
deriving DecidableEq

def keepName (f : Fmt) (tip : Bool) : Bool :=
  match f with
  | .allFields | .noComments | .onlyNames | .leafLengthsAllNames => true
  | .leafLengthsLeafNames | .internalLengthsLeafNames | .allLengthsLeafNames => tip
  | _ => false
def keepLen (f : Fmt) (tip : Bool) : Bool :=
  match f with
  | .allFields | .noComments | .onlyLengths | .allLengthsLeafNames => true
  | .internalLengthsLeafNames => !tip
  | .leafLengthsLeafNames | .leafLengthsAllNames => tip
  | _ => false
def keepComment (f : Fmt) : Bool := f == .allFields

def lenPart : Option Label → List Char | some v => ':' :: v | none => []
def commentPart : Option Label → List Char | some v => '[' :: (v ++ [']']) | none => []

/-- `Node::to_newick(format)` -/
def nodeText (f : Fmt) (tip : Bool) (n l c : Option Label) : List Char :=
  (if keepName f tip then n.getD [] else []) ++ (if keepLen f tip then lenPart l else []) ++
  (if keepComment f then commentPart c else [])

mutual
def writeFmt (f : Fmt) : RT → List Char
  | .node n l c [] => nodeText f true n l c
  | .node n l c (k :: ks) => '(' :: (writeFmt f k ++ writeRestFmt f ks) ++ (')' :: nodeText f false n l c)
def writeRestFmt (f : Fmt) : List RT → List Char
  | [] => []
  | k :: ks => ',' :: (writeFmt f k ++ writeRestFmt f ks)
end

def keepIf (b : Bool) (o : Option Label) : Option Label := if b then o else none

mutual
/-- erase exactly the fields the format omits -/
def strip (f : Fmt) : RT → RT
  | .node n l c [] => .node (keepIf (keepName f true) n) (keepIf (keepLen f true) l) (keepIf (keepComment f) c) []
  | .node n l c (k :: ks) =>
    .node (keepIf (keepName f false) n) (keepIf (keepLen f false) l) (keepIf (keepComment f) c) (stripL f (k :: ks))
def stripL (f : Fmt) : List RT → List RT
  | [] => []
  | k :: ks => strip f k :: stripL f ks
end

theorem nodeText_strip (f : Fmt) (tip : Bool) (n l c : Option Label) :
    nodeText f tip n l c =
      nodeText .allFields tip (keepIf (keepName f tip) n) (keepIf (keepLen f tip) l) (keepIf (keepComment f) c) := by
  have e1 : keepName .allFields tip = true := rfl
  have e2 : keepLen .allFields tip = true := rfl
  have e3 : keepComment .allFields = true := rfl
  simp only [nodeText, e1, e2, e3, keepIf, ↓reduceIte]
  generalize keepName f tip = a
  generalize keepLen f tip = b
  generalize keepComment f = d
  cases a <;> cases b <;> cases d <;> simp [lenPart, commentPart]

mutual
theorem format_is_strip (f : Fmt) : ∀ t : RT, writeFmt f t = writeFmt .allFields (strip f t)
  | .node n l c [] => by simp only [writeFmt, strip]; exact nodeText_strip f true n l c
  | .node n l c (k :: ks) => by
    have h1 := format_is_strip f k
    have h2 := format_rest f ks
    simp only [writeFmt, strip, stripL]
    rw [h1, h2, nodeText_strip f false n l c]
theorem format_rest (f : Fmt) : ∀ ts : List RT, writeRestFmt f ts = writeRestFmt .allFields (stripL f ts)
  | [] => by simp [writeRestFmt, stripL]
  | k :: ks => by
    have h1 := format_is_strip f k
    have h2 := format_rest f ks
    simp only [writeRestFmt, stripL]
    rw [h1, h2]
end

end FM
