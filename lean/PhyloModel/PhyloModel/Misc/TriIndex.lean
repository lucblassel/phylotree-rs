/-! Triangular numbers `T i = i(i-1)/2` and the row-major index of the strict lower triangle. -/
namespace Tri

def T : Nat → Nat
  | 0 => 0
  | i + 1 => T i + i

theorem T_closed (i : Nat) : 2 * T i = i * (i - 1) := by
  induction i with
  | zero => simp [T]
  | succ k ih =>
    cases k with
    | zero => simp [T]
    | succ m =>
      simp only [T] at ih ⊢
      simp only [Nat.add_sub_cancel] at ih ⊢
      grind

/-- the pairs below `a + b + 1`: those below `a`, those below `b`, and the mixed ones -/
theorem T_add (a : Nat) : ∀ b, T (a + b + 1) = T a + T b + a * b + a + b
  | 0 => by simp [T]
  | b + 1 => by rw [← Nat.add_assoc a b 1, T, T_add a b, T, Nat.mul_succ]; omega

/-- hence `T` is superadditive with `a + b` to spare -/
theorem T_super {a b d : Nat} (hd : d ≤ a + b) {x y : Nat} (hx : x ≤ T a) (hy : y ≤ T b) :
    d + x + y ≤ T (a + b + 1) := by
  rw [T_add]; omega

theorem T_eq (k : Nat) : T k = k * (k - 1) / 2 := by
  have := T_closed k; omega

/-- the odd squares are the numbers `8·T + 1`: what links the integer row search to a square root -/
theorem sq_odd (p : Nat) : (2 * p + 1) * (2 * p + 1) = 8 * T (p + 1) + 1 := by
  have h := T_closed (p + 1)
  have e : (2 * p + 1) * (2 * p + 1) = 4 * ((p + 1) * (p + 1 - 1)) + 1 := by
    rw [Nat.add_sub_cancel]; grind
  omega

theorem T_mono {i j : Nat} (h : i ≤ j) : T i ≤ T j := by
  induction j with
  | zero => simp_all
  | succ k ih =>
    by_cases hk : i = k + 1
    · subst hk; exact Nat.le_refl _
    · have := ih (by omega); simp [T]; omega

theorem T_succ_le {i j : Nat} (h : i < j) : T i + i ≤ T j := by
  have := T_mono (Nat.succ_le_of_lt h)
  simpa [T] using this

/-- `tril_to_rowvec_index` for i > j -/
def idx (i j : Nat) : Nat := ((i - 1) * i) / 2 + j

theorem idx_eq (i j : Nat) : idx i j = T i + j := by
  have := T_closed i
  simp only [idx]
  have h2 : (i - 1) * i = 2 * T i := by rw [this, Nat.mul_comm]
  rw [h2]; omega

theorem idx_inj {i j i' j' : Nat} (hj : j < i) (hj' : j' < i') (h : idx i j = idx i' j') : i = i' ∧ j = j' := by
  rw [idx_eq, idx_eq] at h
  rcases Nat.lt_trichotomy i i' with hlt | heq | hgt
  · have := T_succ_le hlt; omega
  · subst heq; exact ⟨rfl, by omega⟩
  · have := T_succ_le hgt; omega

theorem idx_lt {i j n : Nat} (hj : j < i) (hi : i < n) : idx i j < T n := by
  rw [idx_eq]; have := T_succ_le hi; omega

theorem idx_surj (n k : Nat) (hk : k < T n) : ∃ i j, j < i ∧ i < n ∧ idx i j = k := by
  induction n with
  | zero => simp [T] at hk
  | succ m ih =>
    by_cases h : k < T m
    · obtain ⟨i, j, h1, h2, h3⟩ := ih h
      exact ⟨i, j, h1, by omega, h3⟩
    · exact ⟨m, k - T m, by simp only [T] at hk; omega, by omega, by rw [idx_eq]; omega⟩

end Tri
