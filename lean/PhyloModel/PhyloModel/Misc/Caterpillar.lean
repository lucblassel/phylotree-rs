import PhyloModel.Misc.Generators
import PhyloModel.Arena.RoseStats
import PhyloModel.Misc.TriIndex
/-! C17, the caterpillar generator.  `GEN.caterpillar n` lists, for every slot after the root in creation
    order, `(parent slot, tip number)`.  Here: a recursive twin `cat` of its `let rec go`, the generic
    reconstruction of the tree from such a parent list (`forest`, `treeOf`), the replay of `add_child`
    (`replay`), and the explicit comb `combKids` that `treeOf (caterpillar n)` is equal to. -/
namespace GEN

/-- `cat m i p sz`: the entries created by the last `m` iterations of the loop of `generate_caterpillar`, when
    the loop counter is `i`, the current parent is `p` and the arena has `sz` slots -/
def cat : Nat → Nat → Nat → Nat → List (Nat × Option Nat)
  | 0, _, _, _ => []
  | 1, i, p, _ => [(p, some i), (p, some (i + 1))]
  | m + 2, i, p, sz => (p, none) :: (p, some i) :: cat (m + 1) (i + 1) sz (sz + 2)

theorem go_eq_cat (n : Nat) : ∀ (fuel m i p sz : Nat), i + m = n → m ≤ fuel →
    caterpillar.go n fuel i p sz = cat m i p sz
  | 0, m, i, p, sz, _, h => by
    obtain rfl : m = 0 := by omega
    rw [caterpillar.go, cat]
  | f + 1, 0, i, p, sz, hn, _ => by rw [caterpillar.go, cat, if_pos (by omega)]
  | f + 1, 1, i, p, sz, hn, _ => by rw [caterpillar.go, cat, if_neg (by omega), if_pos (by omega)]
  | f + 1, m + 2, i, p, sz, hn, h => by
    rw [caterpillar.go, cat, if_neg (by omega), if_neg (by omega),
      go_eq_cat n f (m + 1) (i + 1) sz (sz + 2) (by omega) (by omega)]

theorem caterpillar_eq_cat (n : Nat) : caterpillar n = cat (n - 1) 1 0 1 := by
  cases n with
  | zero => rfl
  | succ k => exact go_eq_cat (k + 1) (k + 1) k 1 0 1 (by omega) (by omega)

/-- the `2(n-1)` entries and the root make `2n-1` slots -/
theorem slots_eq {n : Nat} (hn : 1 ≤ n) : 2 * (n - 1) + 1 = 2 * n - 1 := by
  cases n with
  | zero => cases hn
  | succ k => rfl

theorem cat_length : ∀ (m i p sz : Nat), (cat m i p sz).length = 2 * m
  | 0, _, _, _ => by simp [cat]
  | 1, _, _, _ => by simp [cat]
  | m + 2, i, p, sz => by simp [cat, cat_length (m + 1)]; omega

/-- every entry's parent is a slot that exists when the entry is created (`sz` slots exist at the start) -/
def parentsEarlier : Nat → List (Nat × Option Nat) → Prop
  | _, [] => True
  | sz, (p, _) :: r => p < sz ∧ parentsEarlier (sz + 1) r

theorem parentsEarlier_iff : ∀ (l : List (Nat × Option Nat)) (sz : Nat),
    parentsEarlier sz l ↔ ∀ (j : Nat) (h : j < l.length), l[j].1 < sz + j
  | [], sz => by simp [parentsEarlier]
  | (p, lab) :: r, sz => by
    -- entry `0` and the entries `j + 1`
    simp only [parentsEarlier, parentsEarlier_iff r (sz + 1), List.length_cons, Nat.forall_lt_succ_left',
      List.getElem_cons_zero, List.getElem_cons_succ, Nat.add_zero, Nat.add_assoc, Nat.add_comm 1]

theorem cat_parentsEarlier : ∀ (m i p sz : Nat), p < sz → parentsEarlier sz (cat m i p sz)
  | 0, _, _, _, _ => by simp [cat, parentsEarlier]
  | 1, _, _, _, h => by simp [cat, parentsEarlier]; omega
  | m + 2, i, p, sz, h => by
    rw [cat, parentsEarlier, parentsEarlier]
    exact ⟨h, by omega, cat_parentsEarlier (m + 1) (i + 1) sz (sz + 2) (by omega)⟩

/-- the slots `sz, sz+1, …` created by the entries of `l` that hang under `q`, in creation order -/
def childSlots : Nat → List (Nat × Option Nat) → Nat → List Nat
  | _, [], _ => []
  | sz, (p, _) :: r, q => if q = p then sz :: childSlots (sz + 1) r q else childSlots (sz + 1) r q

theorem mem_childSlots : ∀ (l : List (Nat × Option Nat)) (sz q c : Nat),
    c ∈ childSlots sz l q ↔ ∃ (j : Nat) (h : j < l.length), c = sz + j ∧ l[j].1 = q
  | [], sz, q, c => by simp [childSlots]
  | (p, lab) :: r, sz, q, c => by
    simp only [List.length_cons, Nat.exists_lt_succ_left', List.getElem_cons_zero, List.getElem_cons_succ,
      Nat.add_zero]
    rw [childSlots]
    split
    · next h =>
      subst h
      simp only [List.mem_cons, mem_childSlots r (sz + 1) q c, and_true, Nat.add_assoc, Nat.add_comm 1]
    · next h =>
      simp only [mem_childSlots r (sz + 1) q c, Ne.symm h, and_false, false_or, Nat.add_assoc, Nat.add_comm 1]

/-- the arena as far as the generator is concerned: slots, child lists, tip numbers -/
structure CSt where
  size : Nat
  kids : Nat → List Nat
  label : Nat → Option Nat

/-- `Tree::add_child`: refused when the parent does not exist; the new slot is appended to the parent's
    child list -/
def addChild (s : CSt) (p : Nat) (lab : Option Nat) : Option CSt :=
  if p < s.size then
    some { size := s.size + 1, kids := fun q => if q = p then s.kids p ++ [s.size] else s.kids q, label := fun q => if q = s.size then lab else s.label q }
  else none

def replay : CSt → List (Nat × Option Nat) → Option CSt
  | s, [] => some s
  | s, (p, lab) :: r => match addChild s p lab with | some s' => replay s' r | none => none

def rootOnly : CSt := { size := 1, kids := fun _ => [], label := fun _ => none }

/-- replaying a parent list succeeds when every parent exists when it is used (`replay_fails`: only then); every
    child list is then the old one followed by the new slots hanging there, and the new slots carry their tip numbers -/
theorem replay_spec : ∀ (l : List (Nat × Option Nat)) (s : CSt), parentsEarlier s.size l →
    ∃ s', replay s l = some s' ∧ s'.size = s.size + l.length ∧
      (∀ q, s'.kids q = s.kids q ++ childSlots s.size l q) ∧
      (∀ q, q < s.size → s'.label q = s.label q) ∧
      (∀ (j : Nat) (h : j < l.length), s'.label (s.size + j) = l[j].2)
  | [], s, _ => ⟨s, rfl, by simp, by simp [childSlots], by simp, by simp⟩
  | (p, lab) :: r, s, h => by
    rw [parentsEarlier] at h
    let s1 : CSt := { size := s.size + 1, kids := fun q => if q = p then s.kids p ++ [s.size] else s.kids q, label := fun q => if q = s.size then lab else s.label q }
    have h1 : addChild s p lab = some s1 := if_pos h.1
    obtain ⟨s', e, hs, hk, hl, hn⟩ := replay_spec r s1 h.2
    refine ⟨s', by rw [replay, h1]; exact e, by rw [hs, List.length_cons, Nat.add_right_comm]; rfl, fun q => ?_,
      fun q hq => ?_, ?_⟩
    · rw [hk q, childSlots]
      by_cases hq : q = p <;> simp [s1, hq]
    · rw [hl q (Nat.lt_succ_of_lt hq)]
      exact if_neg (Nat.ne_of_lt hq)
    · -- entry `0` is the slot `addChild` has just labelled, entry `j + 1` is entry `j` of the rest
      simp only [List.length_cons, Nat.forall_lt_succ_left', List.getElem_cons_zero, List.getElem_cons_succ,
        Nat.add_zero]
      exact ⟨by rw [hl _ (Nat.lt_succ_self _)]; exact if_pos rfl,
        fun j hj => (congrArg s'.label (Nat.add_right_comm s.size 1 j).symm).trans (hn j hj)⟩

theorem replay_rootOnly (l : List (Nat × Option Nat)) (h : parentsEarlier 1 l) :
    ∃ s, replay rootOnly l = some s ∧ s.size = l.length + 1 ∧ (∀ q, s.kids q = childSlots 1 l q) ∧
      s.label 0 = none ∧ ∀ (j : Nat) (h : j < l.length), s.label (j + 1) = l[j].2 := by
  obtain ⟨s, e, hs, hk, hl, hn⟩ := replay_spec l rootOnly h
  exact ⟨s, e, hs.trans (Nat.add_comm _ _), hk, hl 0 Nat.one_pos, fun j hj => Nat.add_comm j 1 ▸ hn j hj⟩

theorem replay_fails : ∀ (l : List (Nat × Option Nat)) (s : CSt), ¬ parentsEarlier s.size l → replay s l = none
  | [], s, h => by simp [parentsEarlier] at h
  | (p, lab) :: r, s, h => by
    rw [parentsEarlier] at h
    by_cases hp : p < s.size
    · have h2 : ¬ parentsEarlier (s.size + 1) r := fun h' => h ⟨hp, h'⟩
      have := replay_fails r { size := s.size + 1, kids := fun q => if q = p then s.kids p ++ [s.size] else s.kids q, label := fun q => if q = s.size then lab else s.label q } h2
      simp [replay, addChild, hp, this]
    · simp [replay, addChild, hp]

/-- a tree with arena slots and tip numbers -/
inductive CT where
  | node (slot : Nat) (label : Option Nat) (kids : List CT)
deriving Repr

def CT.slot : CT → Nat | .node s _ _ => s
def CT.label : CT → Option Nat | .node _ l _ => l
def CT.kids : CT → List CT | .node _ _ k => k

/-- `forest sz l q`: the subtrees hanging under `q` that the entries of `l` (creating the slots `sz, sz+1, …`)
    contribute, in creation order.  The subtree of a new slot consists of what LATER entries hang under it. -/
def forest : Nat → List (Nat × Option Nat) → Nat → List CT
  | _, [], _ => []
  | sz, (p, lab) :: r, q =>
    if q = p then CT.node sz lab (forest (sz + 1) r sz) :: forest (sz + 1) r q else forest (sz + 1) r q

/-- the tree whose slots after the root `0` are described by `l` -/
def treeOf (l : List (Nat × Option Nat)) : CT := .node 0 none (forest 1 l 0)

theorem forest_slots : ∀ (l : List (Nat × Option Nat)) (sz q : Nat),
    (forest sz l q).map CT.slot = childSlots sz l q
  | [], _, _ => by simp [forest, childSlots]
  | (p, lab) :: r, sz, q => by
    rw [forest, childSlots]
    by_cases hq : q = p <;> simp [hq, CT.slot, forest_slots r]

mutual
/-- all nodes (as subtrees), pre-order -/
def CT.nodes : CT → List CT | .node s l ks => .node s l ks :: CT.nodesL ks
def CT.nodesL : List CT → List CT | [] => [] | k :: ks => CT.nodes k ++ CT.nodesL ks
end

theorem CT.nodesL_cons (k : CT) (ks : List CT) : CT.nodesL (k :: ks) = CT.nodes k ++ CT.nodesL ks := by
  rw [CT.nodesL]
theorem CT.nodesL_nil : CT.nodesL [] = [] := by rw [CT.nodesL]
theorem CT.nodes_node (s : Nat) (l : Option Nat) (ks : List CT) :
    CT.nodes (.node s l ks) = .node s l ks :: CT.nodesL ks := by rw [CT.nodes]

/-- GENERIC faithfulness of `forest`: in a well-formed parent list, every node of the reconstructed forest is
    one of the new slots `sz + j`, carries the tip number of its entry `l[j]`, and its kids are, in creation
    order, exactly the slots whose entry names it as parent -/
theorem forest_faithful : ∀ (l : List (Nat × Option Nat)) (sz q : Nat), parentsEarlier sz l →
    ∀ x ∈ CT.nodesL (forest sz l q), x.kids.map CT.slot = childSlots sz l x.slot ∧
      ∃ (j : Nat) (h : j < l.length), x.slot = sz + j ∧ x.label = l[j].2
  | [], _, _, _ => by simp [forest, CT.nodesL_nil]
  | (p, lab) :: r, sz, q, hwf => by
    intro x hx
    rw [parentsEarlier] at hwf
    -- `x` is the node of the first entry, or lies in a forest of the remaining entries
    have hx' : x = .node sz lab (forest (sz + 1) r sz) ∨ ∃ q', x ∈ CT.nodesL (forest (sz + 1) r q') := by
      rw [forest] at hx
      split at hx
      · simp only [CT.nodesL_cons, CT.nodes_node, List.mem_append, List.mem_cons] at hx
        rcases hx with (rfl | hx) | hx
        · exact Or.inl rfl
        · exact Or.inr ⟨_, hx⟩
        · exact Or.inr ⟨_, hx⟩
      · exact Or.inr ⟨_, hx⟩
    rcases hx' with rfl | ⟨q', hx'⟩
    · refine ⟨?_, 0, Nat.zero_lt_succ _, rfl, rfl⟩
      rw [CT.kids, CT.slot, forest_slots, childSlots, if_neg (Nat.ne_of_gt hwf.1)]
    · -- a later slot than `p`, so the first entry does not hang under it
      obtain ⟨h1, j, hj, h2, h3⟩ := forest_faithful r (sz + 1) q' hwf.2 x hx'
      exact ⟨by rw [childSlots, if_neg (by omega), h1], j + 1, Nat.succ_lt_succ hj, by omega, h3⟩

/-- the two kids of the node from which `m` more iterations hang: a comb with `m + 1` tips numbered
    `i, …, i + m`, in slots `sz, sz + 1, …` -/
def combKids : Nat → Nat → Nat → List CT
  | 0, _, _ => []
  | 1, i, sz => [.node sz (some i) [], .node (sz + 1) (some (i + 1)) []]
  | m + 2, i, sz => [.node sz none (combKids (m + 1) (i + 1) (sz + 2)), .node (sz + 1) (some i) []]

theorem forest_cat : ∀ (m i p sz : Nat), p < sz →
    forest sz (cat m i p sz) p = combKids m i sz ∧ ∀ q, q < sz → q ≠ p → forest sz (cat m i p sz) q = []
  | 0, _, _, _, _ => by simp [cat, forest, combKids]
  | 1, i, p, sz, h => by
    have h1 : sz ≠ p := by omega
    have h2 : sz + 1 ≠ p := by omega
    refine ⟨by simp [cat, forest, combKids, h1], ?_⟩
    intro q _ hq
    simp [cat, forest, hq]
  | m + 2, i, p, sz, h => by
    obtain ⟨ih1, ih2⟩ := forest_cat (m + 1) (i + 1) sz (sz + 2) (by omega)
    have h1 : sz ≠ p := by omega
    have h2 : sz + 1 ≠ p := by omega
    have e1 := ih2 (sz + 1) (by omega) (by omega)
    have e2 := ih2 p (by omega) (by omega)
    constructor
    · simp only [cat, forest, ↓reduceIte, h1, combKids, ih1, e1, e2]
    · intro q hq hqp
      have e3 := ih2 q (by omega) (by omega)
      simp only [cat, forest, hqp, ↓reduceIte, e3]

/-! ### to the tree types of the statistics (C12) -/

def tipName (i : Nat) : String := "Tip_" ++ toString i

mutual
def toNL : CT → AR.RoseNL | .node _ l ks => .node (l.map tipName) none (toNLL ks)
def toNLL : List CT → List AR.RoseNL | [] => [] | k :: ks => toNL k :: toNLL ks
end

mutual
/-- as an abstract arena tree: ids are the slots, names `Tip_i`, cached depths from `d` -/
def toRose : Nat → CT → AR.Rose | d, .node s l ks => .node s (l.map tipName) none d (toRoseL (d + 1) ks)
def toRoseL : Nat → List CT → List AR.Rose | _, [] => [] | d, k :: ks => toRose d k :: toRoseL d ks
end

mutual
theorem erase_toRose : ∀ (t : CT) (d : Nat), AR.erase (toRose d t) = toNL t
  | .node s l ks, d => by rw [toRose, AR.erase, toNL, eraseL_toRoseL ks]
theorem eraseL_toRoseL : ∀ (ts : List CT) (d : Nat), AR.eraseL (toRoseL d ts) = toNLL ts
  | [], d => by rw [toRoseL, AR.eraseL, toNLL]
  | t :: ts, d => by rw [toRoseL, AR.eraseL, toNLL, erase_toRose t, eraseL_toRoseL ts]
end

/-- a comb level as the statistics see it, whatever its name and length: `m + 2` tips, Colless index `T (m + 1)`
    (each level adds `|(m + 2) − 1|` to the level below) -/
theorem comb_stats : ∀ (m i sz : Nat) (n : Option String) (l : Option Int),
    AR.nLeavesNL (.node n l (toNLL (combKids (m + 1) i sz))) = m + 2 ∧
    AR.collessNL (.node n l (toNLL (combKids (m + 1) i sz))) = Tri.T (m + 1)
  | 0, i, sz, n, l => by
    simp only [combKids, toNLL, toNL]
    rw [AR.nLeavesNL_pair, AR.collessNL_pair, AR.nLeavesNL_tip, AR.nLeavesNL_tip, AR.collessNL_tip, AR.collessNL_tip]
    exact ⟨rfl, rfl⟩
  | m + 1, i, sz, n, l => by
    have ih := comb_stats m (i + 1) (sz + 2)
    simp only [combKids, toNLL, toNL]
    rw [AR.nLeavesNL_pair, AR.collessNL_pair, (ih _ _).1, (ih _ _).2, AR.nLeavesNL_tip, AR.collessNL_tip,
      AR.absDiff_succ_one]
    exact ⟨rfl, Nat.add_comm (m + 1) (Tri.T (m + 1))⟩

end GEN
