import PhyloModel.Arena.DistBase
/-! C11, `prune`: the survivors keep parent and branch length, so their root paths in the pruned arena are
    their root paths before (`distance_of_sub`), hence every answer of `get_distance` between two survivors is
    unchanged (length and edge count). -/
namespace AR

theorem below_childless_eq {a : Arena} {r : Nat → Nat} (w : W a r) {x v k : Nat} (hx : (nd a x).children = [])
    (h : BelowK a x v k) : v = x := by
  cases k with
  | zero => cases h; rfl
  | succ k =>
    obtain ⟨c, hc, _⟩ := BelowK.top w h
    rw [hx] at hc; cases hc

section
variable {a a1 : Arena} {c : Nat}

theorem PruneOK2.slot (ok : PruneOK2 a a1 c) {i : Nat} (hl : live a1 i) :
    nd a1 i = nd a i ∨ nd a1 i = removeChild (nd a i) c := by
  by_cases hp : (nd a c).parent = some i
  · exact .inr (ok.par i hp)
  · exact .inl (ok.same i hl hp)

theorem PruneOK2.parent_eq (ok : PruneOK2 a a1 c) {i : Nat} (hl : live a1 i) :
    (nd a1 i).parent = (nd a i).parent ∧ (nd a1 i).pedge = (nd a i).pedge := by
  rcases ok.slot hl with e | e <;> rw [e] <;> exact ⟨rfl, rfl⟩

theorem PruneOK2.depth_eq (ok : PruneOK2 a a1 c) {i : Nat} (h : live a1 i) :
    (nd a1 i).depth = (nd a i).depth := by
  rcases ok.slot h with e | e <;> rw [e] <;> rfl

theorem PruneOK2.tip_live (ok : PruneOK2 a a1 c) (hinv : Inv a) (hl : live a c)
    (hc : (nd a c).children = []) (i : Nat) : live a1 i ↔ (live a i ∧ i ≠ c) := by
  constructor
  · intro h
    refine ⟨ok.sub i h, ?_⟩
    intro e; subst e
    exact ok.gone i 0 (BelowK.refl hl) h
  · rintro ⟨h, hne⟩
    exact ok.kept i h (fun k hb => hne (below_childless_eq hinv.toW hc hb))

theorem PruneOK2.distance (ok : PruneOK2 a a1 c) (hinv : Inv a) {x y : Nat} (hlx : live a1 x)
    (hly : live a1 y) : distance a1 x y = distance a x y :=
  distance_of_sub hinv.toW ok.inv.toW ok.sub (fun _ h => (ok.parent_eq h).1) (fun _ h => (ok.parent_eq h).2) hlx hly

end

/-- **`prune` keeps every distance between surviving nodes** (length and edge count), whatever its
    outcome -/
theorem prune_distance {a : Arena} (g : Good a) (c x y : Nat) (hlx : live (prune a c).1 x)
    (hly : live (prune a c).1 y) : distance (prune a c).1 x y = distance a x y := by
  unfold prune at hlx hly ⊢
  split
  next hc =>
    have hl := (isLive_iff a c).1 hc
    obtain ⟨a1, h1, ok⟩ := prune_main2 (fuelOf a) a.size a c g.1 g.2 hl (depth_le_size g.1)
      (by simp only [fuelOf]; omega)
    simp only [hc, ↓reduceIte, h1] at hlx hly ⊢
    exact ok.distance g.1 hlx hly
  next => rfl

/-- non-vacuity: root 0, child 1 with tips 3, 4, and tip 2; pruning 4 keeps the distance between 3 and 2 -/
def exP : Arena := runOps #[] [.add none, .addChild 0 (some 1) none, .addChild 0 (some 2) none,
  .addChild 1 (some 3) none, .addChild 1 (some 4) none]

example : live (prune exP 4).1 3 ∧ live (prune exP 4).1 2 ∧ distance exP 3 2 = .ok (some 6, 3) := by
  refine ⟨?_, ?_, distIs_eq (by decide)⟩ <;> (unfold live; decide)

end AR
