import PhyloModel.Arena.Compress
/-! An edit of the arena is a composition of four elementary steps: detach a child (`unlink`), attach a parentless
    node (`link`), drop a childless node (`finish`), append a fresh parentless node (`push`).  Each keeps `Mid`, the
    state of an arena in the middle of an edit: links sound under a ghost rank and cached depths sound outside a
    dirty region, which the depth repair then empties. -/
namespace AR

structure Mid (a : Arena) (r : Nat → Nat) (P : Nat → Prop) : Prop where
  links : S a r
  depths : DOK a P

theorem Mid.ofInv {a : Arena} (h : Inv a) : Mid a (fun i => (nd a i).depth) (fun _ => False) :=
  ⟨h.toS, h.toDOK _⟩

theorem Mid.inv {a : Arena} {r : Nat → Nat} (m : Mid a r (fun _ => False)) : Inv a :=
  inv_of_S_DOK m.links m.depths

theorem Mid.mono {a : Arena} {r : Nat → Nat} {P Q : Nat → Prop} (m : Mid a r P) (h : ∀ v, P v → Q v) : Mid a r Q :=
  ⟨m.links, m.depths.mono h⟩

/-- any rank that grows along the edges will do -/
theorem Mid.rerank {a : Arena} {r r' : Nat → Nat} {P : Nat → Prop} (m : Mid a r P)
    (h : ∀ i c, live a i → live a c → r i < r c → r' i < r' c) : Mid a r' P :=
  ⟨⟨fun i c hl hc => by
      obtain ⟨k1, k2, k3, k4⟩ := m.links.child_ok i c hl hc
      exact ⟨k1, k2, h i c hl k1 k3, k4⟩,
    m.links.parent_ok, m.links.nodup, m.links.cedge_dom⟩, m.depths⟩

theorem removeChild_children (n : Node) (x : Nat) : (removeChild n x).children = n.children.erase x := rfl

theorem arena_ext {a b : Arena} (hs : b.size = a.size) (h : ∀ i, nd b i = nd a i) : b = a := by
  apply Array.ext hs
  intro i h1 h2
  have := h i
  simpa [nd, h1, h2] using this

theorem nd_set2 (a : Arena) {p c : Nat} (np nc : Node) (hp : p < a.size) (hc : c < a.size) (i : Nat) :
    nd ((a.setIfInBounds p np).setIfInBounds c nc) i = if i = c then nc else if i = p then np else nd a i := by
  simp only [nd_set, Array.size_setIfInBounds, hp, hc, and_true]

def unlink (a : Arena) (p c : Nat) : Arena :=
  (a.setIfInBounds p (removeChild (nd a p) c)).setIfInBounds c { nd a c with parent := none }

/-- the parentless `c` becomes the last child of `q`, with edge `e` -/
def link (a : Arena) (q c : Nat) (e : Option Int) : Arena :=
  (a.setIfInBounds q (setCedge { nd a q with children := (nd a q).children ++ [c] } c e)).setIfInBounds c
    { nd a c with parent := some q, pedge := e }

theorem live_unlink (a : Arena) (p c i : Nat) : live (unlink a p c) i ↔ live a i := by
  simp only [live, unlink, nd_set, Array.size_setIfInBounds]
  split
  next h => rw [h.1]
  next => split <;> simp_all [removeChild]

theorem live_link (a : Arena) (q c : Nat) (e : Option Int) (i : Nat) : live (link a q c e) i ↔ live a i := by
  simp only [live, link, nd_set, Array.size_setIfInBounds]
  split
  next h => rw [h.1]
  next => split <;> simp_all

theorem nd_unlink {a : Arena} {p c : Nat} (hp : p < a.size) (hc : c < a.size) (i : Nat) :
    nd (unlink a p c) i =
      if i = c then { nd a c with parent := none } else if i = p then removeChild (nd a p) c else nd a i :=
  nd_set2 a _ _ hp hc i

theorem nd_link {a : Arena} {q c : Nat} (e : Option Int) (hq : q < a.size) (hc : c < a.size) (i : Nat) :
    nd (link a q c e) i =
      if i = c then { nd a c with parent := some q, pedge := e }
      else if i = q then setCedge { nd a q with children := (nd a q).children ++ [c] } c e else nd a i :=
  nd_set2 a _ _ hq hc i

theorem Mid.unlink {a : Arena} {r : Nat → Nat} {P : Nat → Prop} (m : Mid a r P) {p c : Nat} (hlp : live a p)
    (hc : c ∈ (nd a p).children) : Mid (unlink a p c) r (fun v => P v ∨ v = c) := by
  obtain ⟨s, d⟩ := m
  obtain ⟨hlc, hcp, hr, _⟩ := s.child_ok p c hlp hc
  have hpc : p ≠ c := fun h => by rw [h] at hr; exact Nat.lt_irrefl _ hr
  have hl := live_unlink a p c
  have hb := @nd_unlink a p c hlp.1 hlc.1
  generalize AR.unlink a p c = b at hl hb ⊢
  -- slot by slot: the edge from `p` to `c` goes, everything else stays
  have hkeep : ∀ i, (nd b i).depth = (nd a i).depth ∧ (nd b i).pedge = (nd a i).pedge ∧
      ((nd b i).parent = if i = c then none else (nd a i).parent) ∧
      (∀ x, x ∈ (nd b i).children ↔ x ∈ (nd a i).children ∧ ¬ (i = p ∧ x = c)) ∧
      ∀ x, alGet (nd b i).cedges x = if i = p ∧ x = c then none else alGet (nd a i).cedges x := by
    intro i
    by_cases h : i = c
    · subst h
      rw [hb, if_pos rfl, if_pos rfl]
      exact ⟨rfl, rfl, rfl, fun x => ⟨fun hx => ⟨hx, fun k => hpc k.1.symm⟩, And.left⟩,
        fun x => (if_neg fun k => hpc k.1.symm).symm⟩
    · rw [hb, if_neg h, if_neg h]
      by_cases h2 : i = p
      · subst h2
        rw [if_pos rfl]
        refine ⟨rfl, rfl, rfl, fun x => ?_, fun x => ?_⟩
        · rw [mem_removeChild (s.nodup i)]
          exact and_congr_right fun _ => ⟨fun k1 k2 => k1 k2.2, fun k1 k2 => k1 ⟨rfl, k2⟩⟩
        · rw [alGet_removeChild]
          by_cases hx : x = c
          · rw [if_pos hx, if_pos ⟨rfl, hx⟩]
          · rw [if_neg hx, if_neg fun k => hx k.2]
      · rw [if_neg h2]
        exact ⟨rfl, rfl, rfl, fun x => ⟨fun hx => ⟨hx, fun k => h2 k.1⟩, And.left⟩,
          fun x => (if_neg fun k => h2 k.1).symm⟩
  refine ⟨⟨?_, ?_, ?_, ?_⟩, ⟨?_, ?_⟩⟩
  · intro i x hli hx
    obtain ⟨hx, hne⟩ := ((hkeep i).2.2.2.1 x).1 hx
    obtain ⟨k1, k2, k3, k4⟩ := s.child_ok i x ((hl i).1 hli) hx
    have hxc : x ≠ c := fun h => hne ⟨by rw [h, hcp] at k2; exact (Option.some.inj k2).symm, h⟩
    rw [(hkeep x).2.2.1, if_neg hxc, (hkeep i).2.2.2.2, if_neg hne, (hkeep x).2.1]
    exact ⟨(hl x).2 k1, k2, k3, k4⟩
  · intro i q hli hq
    rw [(hkeep i).2.2.1] at hq
    split at hq
    · cases hq
    next hic =>
      obtain ⟨k1, k2⟩ := s.parent_ok i q ((hl i).1 hli) hq
      exact ⟨(hl q).2 k1, ((hkeep q).2.2.2.1 i).2 ⟨k2, fun h => hic h.2⟩⟩
  · intro i
    rw [hb]
    split
    · exact s.nodup c
    · split
      · exact (s.nodup p).erase c
      · exact s.nodup i
  · intro i x hs
    rw [(hkeep i).2.2.2.2] at hs
    split at hs
    · cases hs
    next hne => exact ((hkeep i).2.2.2.1 x).2 ⟨s.cedge_dom i x hs, hne⟩
  · intro i x hli hx hPi hPx
    rw [(hkeep i).1, (hkeep x).1]
    exact d.edge i x ((hl i).1 hli) (((hkeep i).2.2.2.1 x).1 hx).1 (fun h => hPi (Or.inl h)) (fun h => hPx (Or.inl h))
  · intro i hli hp hPi
    rw [(hkeep i).2.2.1, if_neg (fun h => hPi (Or.inr h))] at hp
    rw [(hkeep i).1]
    exact d.root i ((hl i).1 hli) hp (fun h => hPi (Or.inl h))

/-- the new edge from `q` to `c` is the only change; `c` may leave the dirty region when its depth fits under `q`
    and it has no children of its own -/
theorem Mid.link {a : Arena} {r : Nat → Nat} {P Q : Nat → Prop} (m : Mid a r P) {q c : Nat} (e : Option Int)
    (hlq : live a q) (hlc : live a c) (hcp : (nd a c).parent = none) (hr : r q < r c)
    (hPQ : ∀ x, x ≠ c → P x → Q x)
    (hQc : ¬ Q c → (nd a c).depth = (nd a q).depth + 1 ∧ (nd a c).children = []) : Mid (link a q c e) r Q := by
  obtain ⟨s, d⟩ := m
  have hqc : q ≠ c := fun h => by rw [h] at hr; exact Nat.lt_irrefl _ hr
  have hold : ∀ i x, live a i → x ∈ (nd a i).children → x ≠ c := fun i x hli hx h => by
    have := (s.child_ok i x hli hx).2.1; rw [h, hcp] at this; cases this
  have hfresh : c ∉ (nd a q).children := fun h => hold q c hlq h rfl
  have hnoedge : alGet (nd a q).cedges c = none :=
    Option.not_isSome_iff_eq_none.1 fun hs => hfresh (s.cedge_dom q c hs)
  have hl := live_link a q c e
  have hb := @nd_link a q c e hlq.1 hlc.1
  generalize AR.link a q c e = b at hl hb ⊢
  have hkeep : ∀ i, (nd b i).depth = (nd a i).depth ∧
      ((nd b i).pedge = if i = c then e else (nd a i).pedge) ∧
      ((nd b i).parent = if i = c then some q else (nd a i).parent) ∧
      (∀ x, x ∈ (nd b i).children ↔ x ∈ (nd a i).children ∨ (i = q ∧ x = c)) ∧
      ∀ x, alGet (nd b i).cedges x = if i = q ∧ x = c then e else alGet (nd a i).cedges x := by
    intro i
    by_cases h : i = c
    · subst h
      rw [hb, if_pos rfl, if_pos rfl, if_pos rfl]
      exact ⟨rfl, rfl, rfl, fun x => ⟨Or.inl, fun hx => hx.elim id fun k => absurd k.1.symm hqc⟩,
        fun x => (if_neg fun k => hqc k.1.symm).symm⟩
    · rw [hb, if_neg h, if_neg h, if_neg h]
      by_cases h2 : i = q
      · subst h2
        rw [if_pos rfl]
        refine ⟨setCedge_depth .., setCedge_pedge .., setCedge_parent .., fun x => ?_, fun x => ?_⟩
        · rw [setCedge_children, List.mem_append, List.mem_singleton]
          exact or_congr_right ⟨fun k => ⟨rfl, k⟩, And.right⟩
        · rw [setCedge_get]
          by_cases hx : x = c
          · rw [if_pos hx, if_pos ⟨rfl, hx⟩, hnoedge]; cases e <;> rfl
          · rw [if_neg hx, if_neg fun k => hx k.2]
      · rw [if_neg h2]
        exact ⟨rfl, rfl, rfl, fun x => ⟨Or.inl, fun hx => hx.elim id fun k => absurd k.1 h2⟩,
          fun x => (if_neg fun k => h2 k.1).symm⟩
  refine ⟨⟨?_, ?_, ?_, ?_⟩, ⟨?_, ?_⟩⟩
  · intro i x hli hx
    rw [(hkeep x).2.2.1, (hkeep i).2.2.2.2, (hkeep x).2.1, hl]
    rcases ((hkeep i).2.2.2.1 x).1 hx with hx | ⟨rfl, rfl⟩
    · have hxc := hold i x ((hl i).1 hli) hx
      rw [if_neg hxc, if_neg (fun h => hxc h.2), if_neg hxc]
      exact s.child_ok i x ((hl i).1 hli) hx
    · rw [if_pos rfl, if_pos ⟨rfl, rfl⟩, if_pos rfl]
      exact ⟨hlc, rfl, hr, rfl⟩
  · intro i p hli hp
    rw [hl]
    rw [(hkeep i).2.2.1] at hp
    split at hp
    next hic => cases hp; exact ⟨hlq, ((hkeep _).2.2.2.1 i).2 (Or.inr ⟨rfl, hic⟩)⟩
    next hic =>
      obtain ⟨k1, k2⟩ := s.parent_ok i p ((hl i).1 hli) hp
      exact ⟨k1, ((hkeep p).2.2.2.1 i).2 (Or.inl k2)⟩
  · intro i
    rw [hb]
    split
    · exact s.nodup c
    · split
      next h =>
        rw [setCedge_children, List.nodup_append]
        exact ⟨s.nodup q, by simp, fun x hx y hy hxy =>
          hfresh (by rw [← List.mem_singleton.1 hy, ← hxy]; exact hx)⟩
      · exact s.nodup i
  · intro i x hs
    rw [(hkeep i).2.2.2.2] at hs
    split at hs
    next h => exact ((hkeep i).2.2.2.1 x).2 (Or.inr h)
    next h => exact ((hkeep i).2.2.2.1 x).2 (Or.inl (s.cedge_dom i x hs))
  · intro i x hli hx hQi hQx
    rw [(hkeep i).1, (hkeep x).1]
    rcases ((hkeep i).2.2.2.1 x).1 hx with hx | ⟨rfl, rfl⟩
    · have hic : i ≠ c := fun h => by rw [h, (hQc (h ▸ hQi)).2] at hx; cases hx
      exact d.edge i x ((hl i).1 hli) hx (fun h => hQi (hPQ i hic h))
        (fun h => hQx (hPQ x (hold i x ((hl i).1 hli) hx) h))
    · exact (hQc hQx).1
  · intro i hli hp hQi
    rw [(hkeep i).2.2.1] at hp
    split at hp
    · cases hp
    next hic =>
      rw [(hkeep i).1]
      exact d.root i ((hl i).1 hli) hp (fun h => hQi (hPQ i hic h))

theorem live_push (a : Arena) (n : Node) (i : Nat) :
    live (a.push n) i ↔ live a i ∨ (i = a.size ∧ n.deleted = false) := by
  rw [live, live, nd_push, Array.size_push]
  split
  next h => subst h; simp
  next h => exact ⟨fun ⟨k1, k2⟩ => Or.inl ⟨Nat.lt_of_le_of_ne (Nat.le_of_lt_succ k1) h, k2⟩,
    fun k => k.elim (fun ⟨k1, k2⟩ => ⟨Nat.lt_succ_of_lt k1, k2⟩) (fun k => absurd k.1 h)⟩

/-- slot `x` is overwritten by a node without links; the node it held, if live, had none either -/
theorem Mid.blank {a b : Arena} {r : Nat → Nat} {P Q : Nat → Prop} (m : Mid a r Q) (x : Nat)
    (hb : ∀ i, i ≠ x → nd b i = nd a i ∧ (live b i ↔ live a i))
    (hx : (nd b x).children = [] ∧ (nd b x).parent = none ∧ (nd b x).cedges = [])
    (hx0 : live a x → (nd a x).parent = none ∧ (nd a x).children = [])
    (hd : live b x → ¬ P x → (nd b x).depth = 0) (hQP : ∀ v, v ≠ x → Q v → P v) : Mid b r P := by
  obtain ⟨s, d⟩ := m
  have hfree : ∀ i c, live a i → c ∈ (nd a i).children → c ≠ x := fun i c hli hm h => by
    obtain ⟨k1, k2, _⟩ := s.child_ok i c hli hm
    rw [h] at k1 k2; rw [(hx0 k1).1] at k2; cases k2
  refine ⟨⟨?_, ?_, ?_, ?_⟩, ⟨?_, ?_⟩⟩
  · intro i c hli hm
    by_cases hi : i = x
    · rw [hi, hx.1] at hm; cases hm
    · have hli := (hb i hi).2.1 hli
      rw [(hb i hi).1] at hm ⊢
      have hc := hfree i c hli hm
      obtain ⟨k1, k⟩ := s.child_ok i c hli hm
      rw [(hb c hc).1]; exact ⟨(hb c hc).2.2 k1, k⟩
  · intro i p hli hq
    by_cases hi : i = x
    · rw [hi, hx.2.1] at hq; cases hq
    · rw [(hb i hi).1] at hq
      obtain ⟨k1, k2⟩ := s.parent_ok i p ((hb i hi).2.1 hli) hq
      have hp : p ≠ x := fun h => by rw [h] at k1 k2; rw [(hx0 k1).2] at k2; cases k2
      rw [(hb p hp).1]; exact ⟨(hb p hp).2.2 k1, k2⟩
  · intro i
    by_cases hi : i = x
    · rw [hi, hx.1]; exact List.nodup_nil
    · rw [(hb i hi).1]; exact s.nodup i
  · intro i c hs
    by_cases hi : i = x
    · rw [hi, hx.2.2] at hs; cases hs
    · rw [(hb i hi).1] at hs ⊢; exact s.cedge_dom i c hs
  · intro i c hli hm hPi hPc
    by_cases hi : i = x
    · rw [hi, hx.1] at hm; cases hm
    · have hli := (hb i hi).2.1 hli
      rw [(hb i hi).1] at hm ⊢
      have hc := hfree i c hli hm
      rw [(hb c hc).1]
      exact d.edge i c hli hm (fun h => hPi (hQP i hi h)) (fun h => hPc (hQP c hc h))
  · intro i hli hq hPi
    by_cases hi : i = x
    · rw [hi] at hli hPi ⊢; exact hd hli hPi
    · rw [(hb i hi).1] at hq ⊢
      exact d.root i ((hb i hi).2.1 hli) hq (fun h => hPi (hQP i hi h))

/-- `finish` detaches `x` from its parent, if it has one, and blanks its slot -/
theorem Mid.finish {a : Arena} {r : Nat → Nat} {P : Nat → Prop} (m : Mid a r P) {x : Nat} (hx : live a x)
    (hleaf : (nd a x).children = []) : Mid (finish a x) r P := by
  have hb := fun i => finish_nd a x i hx.1
  have hl := fun i => live_finish a x i hx.1
  have hdead : nd (AR.finish a x) x = dead := by rw [hb, if_pos rfl]
  have hd : live (AR.finish a x) x → ¬ P x → (nd (AR.finish a x) x).depth = 0 :=
    fun h => absurd rfl ((hl x).1 h).2
  cases hp : (nd a x).parent with
  | none =>
    exact m.blank x
      (fun i hi => ⟨by rw [hb, if_neg hi, hp, if_neg (fun h => nomatch h)], (hl i).trans (and_iff_left hi)⟩)
      (by rw [hdead]; exact ⟨rfl, rfl, rfl⟩) (fun _ => ⟨hp, hleaf⟩) hd (fun _ _ h => h)
  | some p =>
    obtain ⟨hlp, hxm⟩ := m.links.parent_ok x p hx hp
    have hU := @nd_unlink a p x hlp.1 hx.1
    refine (m.unlink hlp hxm).blank x
      (fun i hi => ⟨?_, (hl i).trans ((and_iff_left hi).trans (live_unlink a p x i).symm)⟩)
      (by rw [hdead]; exact ⟨rfl, rfl, rfl⟩) (fun _ => by rw [hU, if_pos rfl]; exact ⟨rfl, hleaf⟩) hd
      (fun v hv h => h.resolve_right hv)
    rw [hb, if_neg hi, hp, hU, if_neg hi]
    by_cases hip : i = p
    · rw [if_pos hip, if_pos (hip ▸ rfl), hip]
    · rw [if_neg hip, if_neg fun h => hip (Option.some.inj h).symm]

/-- a fresh node without links: a root, clean if its depth is 0 -/
theorem Mid.push {a : Arena} {r : Nat → Nat} {P : Nat → Prop} (m : Mid a r P) {n : Node} (hp : n.parent = none)
    (hc : n.children = []) (he : n.cedges = []) (hd : n.depth = 0 ∨ P a.size) : Mid (a.push n) r P := by
  have hb := nd_push a n
  have hw : nd (a.push n) a.size = n := by rw [hb, if_pos rfl]
  exact m.blank a.size
    (fun i hi => ⟨by rw [hb, if_neg hi], (live_push a n i).trans (or_iff_left fun h => hi h.1)⟩)
    (by rw [hw]; exact ⟨hc, hp, he⟩) (fun h => absurd h.1 (Nat.lt_irrefl _))
    (fun _ hP => by rw [hw]; exact hd.resolve_right hP) (fun _ _ h => h)

/-! the four steps keep tombstones blank -/

theorem Tomb.set {a : Arena} (t : Tomb a) (i : Nat) {n : Node}
    (h : n.deleted = true → n.children = [] ∧ n.parent = none ∧ n.cedges = []) : Tomb (a.setIfInBounds i n) := by
  intro j hd
  rw [nd_set] at hd ⊢
  split at hd
  · rw [if_pos ‹_›]; exact h hd
  · rw [if_neg ‹_›]; exact t j hd

theorem Tomb.push {a : Arena} (t : Tomb a) {n : Node}
    (h : n.deleted = true → n.children = [] ∧ n.parent = none ∧ n.cedges = []) : Tomb (a.push n) := by
  intro j hd
  rw [nd_push] at hd ⊢
  split at hd
  · rw [if_pos ‹_›]; exact h hd
  · rw [if_neg ‹_›]; exact t j hd

theorem Tomb.removeChild {a : Arena} (t : Tomb a) (p c : Nat) (h : (removeChild (nd a p) c).deleted = true) :
    (removeChild (nd a p) c).children = [] ∧ (removeChild (nd a p) c).parent = none ∧
      (removeChild (nd a p) c).cedges = [] := by
  obtain ⟨t1, t2, t3⟩ := t p h
  simp [AR.removeChild, t1, t2, t3, alErase]

theorem Tomb.unlink {a : Arena} (t : Tomb a) (p c : Nat) : Tomb (unlink a p c) :=
  (t.set p (t.removeChild p c)).set c fun h => by
    obtain ⟨t1, _, t3⟩ := t c h
    exact ⟨t1, rfl, t3⟩

theorem Tomb.link {a : Arena} (t : Tomb a) {q c : Nat} (e : Option Int) (hq : (nd a q).deleted = false)
    (hc : (nd a c).deleted = false) : Tomb (link a q c e) :=
  (t.set q fun h => by rw [setCedge_deleted] at h; exact absurd (hq ▸ h) (by decide)).set c
    fun h => absurd (hc ▸ h) (by decide)

theorem Tomb.finish {a : Arena} (t : Tomb a) (x : Nat) : Tomb (finish a x) := by
  unfold AR.finish
  split
  · exact (t.set _ (t.removeChild _ x)).set x fun _ => ⟨rfl, rfl, rfl⟩
  · exact t.set x fun _ => ⟨rfl, rfl, rfl⟩

theorem size_unlink (a : Arena) (p c : Nat) : (unlink a p c).size = a.size := by simp [unlink]
theorem size_link (a : Arena) (q c : Nat) (e : Option Int) : (link a q c e).size = a.size := by simp [link]
theorem size_finish (a : Arena) (x : Nat) : (finish a x).size = a.size := by unfold finish; split <;> simp

theorem splice_eq {a : Arena} {v p c : Nat} (e : Option Int) (hv : v < a.size) (hp : p < a.size) (hc : c < a.size)
    (hpc : p ≠ c) (hvc : v ≠ c) (hvp : v ≠ p) (hpar : (nd a v).parent = some p) :
    splice a v p c e = finish (link (unlink a v c) p c e) v := by
  have h1 := size_unlink a v c
  apply arena_ext (by rw [size_finish, size_link, h1]; simp [splice])
  intro i
  have hU := @nd_unlink a v c hv hc
  have hL := @nd_link (unlink a v c) p c e (h1 ▸ hp) (h1 ▸ hc)
  have hLv : (nd (link (unlink a v c) p c e) v).parent = some p := by
    rw [hL, if_neg hvc, if_neg hvp, hU, if_neg hvc, if_pos rfl]; exact hpar
  rw [nd_splice a v p c e hv hp hc hpc, finish_nd _ _ _ (by rw [size_link, h1]; exact hv), hLv, hL]
  by_cases h1 : i = v
  · rw [if_pos h1, if_pos h1]
  · rw [if_neg h1, if_neg h1]
    by_cases h2 : i = p
    · rw [if_pos h2, if_pos (h2 ▸ rfl), h2, if_neg hpc, if_pos rfl, hU, if_neg hpc, if_neg (Ne.symm hvp)]
    · rw [if_neg h2, if_neg (fun h => h2 (Option.some.inj h).symm), if_neg h2]
      by_cases h3 : i = c
      · rw [if_pos h3, if_pos h3, hU, if_pos rfl]
      · rw [if_neg h3, if_neg h3, hU, if_neg h3, if_neg h1]

/-- after the slot updates of `compress_node` only the moved child `c` carries a stale depth -/
theorem splice_mid {a : Arena} {v p c : Nat} (e : Option Int) (hinv : Inv a) (hlv : live a v)
    (hpar : (nd a v).parent = some p) (hch : (nd a v).children = [c]) :
    Mid (splice a v p c e) (fun i => (nd a i).depth) (fun x => x = c) ∧
      (∀ i, live (splice a v p c e) i ↔ live a i ∧ i ≠ v) ∧ (Tomb a → Tomb (splice a v p c e)) := by
  obtain ⟨hlp, hlc, hpc, hvc, hvp⟩ := splice_ne hinv hlv hpar hch
  have hcm : c ∈ (nd a v).children := by rw [hch]; exact List.mem_singleton.2 rfl
  have hdv := (hinv.child_ok p v hlp (hinv.parent_ok v p hlv hpar).2).2.2.1
  have hdc := (hinv.child_ok v c hlv hcm).2.2.1
  have hU := @nd_unlink a v c hlv.1 hlc.1
  have hlU := live_unlink a v c
  have h1 := size_unlink a v c
  have hlL := live_link (unlink a v c) p c e
  rw [splice_eq e hlv.1 hlp.1 hlc.1 hpc hvc hvp hpar]
  have m := (((Mid.ofInv hinv).unlink hlv hcm).link e (Q := fun x => x = c) ((hlU p).2 hlp) ((hlU c).2 hlc)
    (by rw [hU, if_pos rfl]) (by show (nd a p).depth < (nd a c).depth; omega)
    (fun x hx h => h.elim False.elim (absurd · hx)) (fun h => absurd rfl h)).finish ((hlL v).2 ((hlU v).2 hlv))
    (by rw [nd_link e (h1 ▸ hlp.1) (h1 ▸ hlc.1), if_neg hvc, if_neg hvp, hU, if_neg hvc, if_pos rfl]
        show (nd a v).children.erase c = []
        rw [hch]; exact List.erase_cons_head ..)
  exact ⟨m, fun i => by rw [live_finish _ _ _ (by rw [size_link, h1]; exact hlv.1), hlL, hlU],
    fun t => ((t.unlink v c).link e ((hlU p).2 hlp).2 ((hlU c).2 hlc).2).finish v⟩

theorem splice_S (a : Arena) (v p c : Nat) (e : Option Int) (hinv : Inv a) (hlv : live a v)
    (hpar : (nd a v).parent = some p) (hch : (nd a v).children = [c]) :
    S (splice a v p c e) (fun i => (nd a i).depth) ∧ (splice a v p c e).size = a.size ∧
    (∀ i, live (splice a v p c e) i ↔ (i ≠ v ∧ live a i)) ∧
    (∀ i, (nd (splice a v p c e) i).depth = if i = v then 0 else (nd a i).depth) := by
  obtain ⟨m, hlive, _⟩ := splice_mid e hinv hlv hpar hch
  obtain ⟨hlp, hlc, hpc, hvc, hvp⟩ := splice_ne hinv hlv hpar hch
  refine ⟨m.links, by simp [splice], fun i => (hlive i).trans and_comm, fun i => ?_⟩
  rw [nd_splice a v p c e hlv.1 hlp.1 hlc.1 hpc]
  by_cases h1 : i = v
  · rw [if_pos h1, if_pos h1]; rfl
  · rw [if_neg h1, if_neg h1]
    by_cases h2 : i = p
    · rw [if_pos h2, h2]; exact setCedge_depth ..
    · rw [if_neg h2]
      by_cases h3 : i = c
      · rw [if_pos h3, h3]
      · rw [if_neg h3]

theorem finish_inv (a : Arena) (x : Nat) (hinv : Inv a) (ht : Tomb a) (hx : live a x)
    (hleaf : (nd a x).children = []) : Inv (finish a x) ∧ Tomb (finish a x) ∧ (finish a x).size = a.size :=
  ⟨((Mid.ofInv hinv).finish hx hleaf).inv, ht.finish x, size_finish a x⟩

theorem addChild_eq {a a' : Arena} {p id : Nat} {e : Option Int} (h : addChild a p e = some (a', id)) :
    a' = link (a.push { depth := (nd a p).depth + 1 }) p a.size e := by
  obtain ⟨hlp, _, hsz, hb⟩ := addChild_nd h
  have hpw : p ≠ a.size := Nat.ne_of_lt hlp.1
  apply arena_ext (by rw [size_link, Array.size_push, hsz])
  intro i
  rw [hb, nd_link e (by rw [Array.size_push]; exact Nat.lt_succ_of_lt hlp.1)
    (by rw [Array.size_push]; exact Nat.lt_succ_self _), nd_push, nd_push, nd_push, if_pos rfl, if_neg hpw]
  by_cases hi : i = a.size
  · rw [if_pos hi, if_pos hi]
  · rw [if_neg hi, if_neg hi, if_neg hi]

theorem addChild_inv (a : Arena) (p : Nat) (e : Option Int) (a' : Arena) (id : Nat)
    (hinv : Inv a) (h : addChild a p e = some (a', id)) : Inv a' ∧ id = a.size ∧ a'.size = a.size + 1 := by
  obtain ⟨hlp, hid, hsz, _⟩ := addChild_nd h
  have hpw : p ≠ a.size := Nat.ne_of_lt hlp.1
  have hw : nd (a.push { depth := (nd a p).depth + 1 }) a.size = { depth := (nd a p).depth + 1 } := by
    rw [nd_push, if_pos rfl]
  refine ⟨?_, hid, hsz⟩
  rw [addChild_eq h]
  -- the fresh slot gets rank `depth p + 1`, is pushed as the only dirty node, and `link` under `p` cleans it
  exact ((((Mid.ofInv hinv).rerank (r' := fun i => if i = a.size then (nd a p).depth + 1 else (nd a i).depth)
      (fun i c hi hc k => by rw [if_neg (Nat.ne_of_lt hi.1), if_neg (Nat.ne_of_lt hc.1)]; exact k)).mono
      (Q := fun x => x = a.size) (fun _ k => k.elim)).push rfl rfl rfl (Or.inr rfl)).link e
      ((live_push ..).2 (Or.inl hlp)) ((live_push ..).2 (Or.inr ⟨rfl, rfl⟩)) (by rw [hw])
      (by simp only [hpw, ↓reduceIte]; exact Nat.lt_succ_self _) (fun x hx k => hx k)
      (fun _ => by rw [hw, nd_push, if_neg hpw]; exact ⟨rfl, rfl⟩) |>.inv

theorem addChild_tomb {a a' : Arena} {p id : Nat} {e : Option Int} (ht : Tomb a)
    (h : addChild a p e = some (a', id)) : Tomb a' := by
  rw [addChild_eq h]
  exact (ht.push fun k => by cases k).link e ((live_push ..).2 (Or.inl (addChild_nd h).1)).2
    ((live_push ..).2 (Or.inr ⟨rfl, rfl⟩)).2

end AR
