import PhyloModel.Arena.CliCollapse
/-! The two protocol requests `ar.setlen` (a branch length overwritten in place through the public setters, both records) and
    `ar.add_copy` (`add_child` of a copy of a node of the tree) keep the arena invariant, whatever their arguments. -/
namespace AR

theorem setLenOp_good {a : Arena} (x : Nat) (v : Int) (g : Good a) : Good (setLenOp a x v).1 := by
  unfold setLenOp
  split
  next hx =>
    have hl := (isLive_iff a x).1 hx
    split
    next p hp => exact setLen_good g hl hp v
    next => exact g
  next => exact g

theorem setLenOp_ok {a : Arena} {x : Nat} {v : Int} (g : Good a) (hl : live a x) {p : Nat} (hp : (nd a x).parent = some p) :
    setLenOp a x v = (setLen a x p v, .ok none) := by
  have hx := (isLive_iff a x).2 hl
  unfold setLenOp
  rw [if_pos hx]
  split
  next q hq => rw [hp] at hq; cases hq; rfl
  next hn => rw [hp] at hn; cases hn

theorem setComment_good {a : Arena} (i : Nat) (c : Option String) (g : Good a) : Good (setComment a i c) := by
  refine g.transfer ⟨by simp [setComment], fun j => ?_⟩
  rw [setComment, nd_set]
  split
  next h => obtain ⟨rfl, _⟩ := h; simp
  next => simp

theorem addCopy_good {a : Arena} (src p : Nat) (e : Option Int) (g : Good a) : Good (addCopy a src p e).1 := by
  unfold addCopy
  split
  next =>
    have h := addChildNamed_good p e (nd a src).name g
    split
    next a' id heq => rw [heq] at h; exact setComment_good id _ h
    next => exact h
  next => exact g

end AR
