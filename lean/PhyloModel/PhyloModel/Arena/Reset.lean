import PhyloModel.Arena.Below
/-! `reset_depth_impl` re-establishes depths on a subtree (used by the depth repair) -/
namespace AR

/-- `Tree::reset_depth_impl` with fuel -/
def resetF : Nat → Arena → Nat → Nat → Option Arena
  | 0, _, _, _ => none
  | f + 1, a, x, d =>
    if x < a.size ∧ (nd a x).deleted = false then
      (nd a x).children.foldlM (fun acc c => resetF f acc c (d + 1))
        (a.setIfInBounds x { nd a x with depth := d })
    else none

/-- `b` is `a` with other depths -/
def OnlyDepth (a b : Arena) : Prop := b.size = a.size ∧ ∀ i, ∃ d, nd b i = { nd a i with depth := d }

theorem OnlyDepth.refl (a : Arena) : OnlyDepth a a := ⟨rfl, fun _ => ⟨_, rfl⟩⟩

theorem OnlyDepth.trans {a b c : Arena} (h1 : OnlyDepth a b) (h2 : OnlyDepth b c) : OnlyDepth a c :=
  ⟨h2.1.trans h1.1, fun i => by
    obtain ⟨d1, e1⟩ := h1.2 i
    obtain ⟨d2, e2⟩ := h2.2 i
    exact ⟨d2, by rw [e2, e1]⟩⟩

theorem onlyDepth_setDepth (a : Arena) (x d : Nat) : OnlyDepth a (a.setIfInBounds x { nd a x with depth := d }) :=
  ⟨by simp, fun i => by
    rw [nd_set]
    split
    next k => exact ⟨d, by rw [k.1]⟩
    next => exact ⟨_, rfl⟩⟩

/-- `reset_depth_impl` writes depths only -/
theorem resetF_onlyDepth : ∀ {f : Nat} {a a' : Arena} {x d : Nat}, resetF f a x d = some a' → OnlyDepth a a'
  | 0, _, _, _, _, h => by cases h
  | f + 1, a, a', x, d, h => by
    rw [resetF] at h
    split at h
    · exact (onlyDepth_setDepth a x d).trans (foldlM_rel OnlyDepth.refl (fun _ _ _ => OnlyDepth.trans) _
        (fun _ _ _ hc => resetF_onlyDepth hc) _ _ _ h)
    · cases h

theorem OnlyDepth.fields {a b : Arena} (h : OnlyDepth a b) (i : Nat) :
    (nd b i).deleted = (nd a i).deleted ∧ (nd b i).parent = (nd a i).parent ∧ (nd b i).pedge = (nd a i).pedge ∧
      (nd b i).children = (nd a i).children ∧ (nd b i).name = (nd a i).name ∧ (nd b i).comment = (nd a i).comment := by
  obtain ⟨d, e⟩ := h.2 i; rw [e]; exact ⟨rfl, rfl, rfl, rfl, rfl, rfl⟩

theorem resetF_mono (f g : Nat) (hfg : f ≤ g) (a : Arena) (x d : Nat) (a' : Arena)
    (h : resetF f a x d = some a') : resetF g a x d = some a' := by
  induction f generalizing g a x d a' with
  | zero => simp [resetF] at h
  | succ f ih =>
    obtain _ | g := g
    · exact absurd hfg (Nat.not_succ_le_zero f)
    rw [resetF] at h ⊢
    split at h
    · next hx =>
      rw [if_pos hx]
      exact foldlM_step _ _ (fun acc c r hr => ih g (Nat.le_of_succ_le_succ hfg) acc c (d + 1) r hr) _ _ _ h
    · simp at h

/-- same size, links and tombstones; depths, edge lengths and payload are left open -/
structure Eqv (a b : Arena) : Prop where
  size : b.size = a.size
  parent : ∀ i, (nd b i).parent = (nd a i).parent
  children : ∀ i, (nd b i).children = (nd a i).children
  deleted : ∀ i, (nd b i).deleted = (nd a i).deleted

theorem Eqv.refl (a : Arena) : Eqv a a := ⟨rfl, fun _ => rfl, fun _ => rfl, fun _ => rfl⟩
theorem Eqv.trans {a b c : Arena} (h1 : Eqv a b) (h2 : Eqv b c) : Eqv a c :=
  ⟨by rw [h2.size, h1.size], fun i => by rw [h2.parent, h1.parent], fun i => by rw [h2.children, h1.children],
   fun i => by rw [h2.deleted, h1.deleted]⟩
theorem Eqv.live_iff {a b : Arena} (h : Eqv a b) (i : Nat) : live b i ↔ live a i := by
  simp only [live, h.size, h.deleted]

theorem Eqv.W {a b : Arena} {r : Nat → Nat} (h : Eqv a b) (w : W a r) : W b r := by
  constructor
  · intro i c hl hc
    rw [h.live_iff] at hl; rw [h.children] at hc
    have := w.child_ok i c hl hc
    rw [h.live_iff, h.parent]; exact this
  · intro i p hl hp
    rw [h.live_iff] at hl; rw [h.parent] at hp
    have := w.parent_ok i p hl hp
    rw [h.live_iff, h.children]; exact this
  · intro i; rw [h.children]; exact w.nodup i

theorem Eqv.below {a b : Arena} (h : Eqv a b) {x v k : Nat} (hb : BelowK b x v k) : BelowK a x v k := by
  induction hb with
  | refl hl => exact BelowK.refl ((h.live_iff _).1 hl)
  | step _ hl hpar ih => exact BelowK.step ih ((h.live_iff _).1 hl) (by rw [← h.parent]; exact hpar)

theorem Eqv.symm {a b : Arena} (h : Eqv a b) : Eqv b a :=
  ⟨h.size.symm, fun i => (h.parent i).symm, fun i => (h.children i).symm, fun i => (h.deleted i).symm⟩

theorem OnlyDepth.eqv {a b : Arena} (h : OnlyDepth a b) : Eqv a b :=
  ⟨h.1, fun i => (h.fields i).2.1, fun i => (h.fields i).2.2.2.1, fun i => (h.fields i).1⟩

structure ResetOK (a a' : Arena) (x d : Nat) : Prop where
  eqv : Eqv a a'
  inside : ∀ v k, BelowK a x v k → (nd a' v).depth = d + k
  outside : ∀ v, (∀ k, ¬ BelowK a x v k) → (nd a' v).depth = (nd a v).depth

end AR
