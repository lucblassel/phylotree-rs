import PhyloModel.Arena.Below
/-! Root paths (`Path`), `get_path_from_root` as a climb on fuel, and how a node above `x` cuts the root path of `x`
    (what `Lca` needs for C09). -/
namespace AR

/-- `l` is the root path of `x`: from a root down to `x` along parent links -/
inductive Path (a : Arena) : List Nat → Nat → Prop where
  | root {x} : live a x → (nd a x).parent = none → Path a [x] x
  | step {l p c} : Path a l p → live a c → (nd a c).parent = some p → Path a (l ++ [c]) c

theorem Path.eq_concat {a : Arena} {l : List Nat} {x : Nat} (h : Path a l x) : ∃ l0, l = l0 ++ [x] := by
  cases h with
  | root _ _ => exact ⟨[], rfl⟩
  | step _ _ _ => exact ⟨_, rfl⟩

theorem Path.last {a : Arena} {l : List Nat} {x : Nat} (h : Path a l x) : l.getLast? = some x := by
  cases h <;> simp

theorem Path.unique {a : Arena} {l l' : List Nat} {x : Nat} (h : Path a l x) (h' : Path a l' x) : l = l' := by
  induction h generalizing l' with
  | root hl hp =>
    cases h' with
    | root _ _ => rfl
    | step _ _ hp' => rw [hp] at hp'; cases hp'
  | step hpath hl hp ih =>
    cases h' with
    | root _ hp' => rw [hp] at hp'; cases hp'
    | step hpath' _ hp' =>
      rw [hp] at hp'; cases hp'
      rw [ih hpath']

theorem Path.exists {a : Arena} {r : Nat → Nat} (w : W a r) :
    ∀ (n x : Nat), live a x → r x ≤ n → ∃ l, Path a l x := by
  intro n
  induction n using Nat.strongRecOn with
  | _ n ih =>
    intro x hl hr
    cases hp : (nd a x).parent with
    | none => exact ⟨[x], Path.root hl hp⟩
    | some p =>
      have := w.parent_lt hl hp
      obtain ⟨l, hl'⟩ := ih (r p) (by omega) p (w.parent_ok x p hl hp).1 (Nat.le_refl _)
      exact ⟨l ++ [x], Path.step hl' hl hp⟩

/-- `Tree::get_path_from_root`: climb to the root, consing — the accumulator ends up root-first -/
def climbF : Nat → Arena → Nat → List Nat → Option (List Nat)
  | 0, _, _, _ => none
  | f + 1, a, cur, acc =>
    if cur < a.size ∧ (nd a cur).deleted = false then
      match (nd a cur).parent with
      | some p => climbF f a p (cur :: acc)
      | none => some (cur :: acc)
    else none

theorem climb_path {a : Arena} {l : List Nat} {x : Nat} (h : Path a l x) :
    ∀ (f : Nat) (acc : List Nat), l.length ≤ f → climbF f a x acc = some (l ++ acc) := by
  induction h with
  | root hl hp =>
    intro f acc hf
    cases f with
    | zero => simp at hf
    | succ f =>
      have h1 : _ ∧ _ := hl
      simp [climbF, h1, hp]
  | step hpath hl hp ih =>
    intro f acc hf
    cases f with
    | zero => simp at hf
    | succ f =>
      have h1 : _ ∧ _ := hl
      simp only [climbF, h1, and_self, ↓reduceIte, hp]
      rw [ih f _ (by simp at hf; omega)]
      simp

theorem Path.split {a : Arena} {l : List Nat} {x : Nat} (h : Path a l x) :
    ∀ (l1 l2 : List Nat) (m : Nat), l = l1 ++ m :: l2 → Path a (l1 ++ [m]) m ∧ BelowK a m x l2.length := by
  induction h with
  | root hl hp =>
    intro l1 l2 m heq
    have : l1 = [] ∧ l2 = [] := by
      cases l1 with
      | nil => simp at heq; exact ⟨rfl, heq.2⟩
      | cons y ys => simp at heq
    obtain ⟨rfl, rfl⟩ := this
    simp at heq; subst heq
    exact ⟨Path.root hl hp, BelowK.refl hl⟩
  | @step l p c hpath hl hp ih =>
    intro l1 l2 m heq
    -- either m is the last element c, or m lies in l
    rcases List.eq_nil_or_concat l2 with rfl | ⟨l2', y, rfl⟩
    · have := List.append_inj' heq (by simp)
      obtain ⟨h1, h2⟩ := this
      simp at h2; subst h2; subst h1
      exact ⟨Path.step hpath hl hp, BelowK.refl hl⟩
    · have heq' : l ++ [c] = (l1 ++ m :: l2') ++ [y] := by simp [heq]
      have := List.append_inj' heq' (by simp)
      obtain ⟨h1, h2⟩ := this
      have h2' : c = y := by simpa using h2
      subst h2'
      obtain ⟨g1, g2⟩ := ih l1 l2' m h1
      refine ⟨g1, ?_⟩
      have hlen : (l2'.concat c).length = l2'.length + 1 := by simp
      rw [hlen]
      exact BelowK.step g2 hl hp

theorem Path.of_below {a : Arena} {m x k : Nat} (hb : BelowK a m x k) :
    ∀ {lm : List Nat}, Path a lm m → ∃ l2, l2.length = k ∧ Path a (lm ++ l2) x := by
  induction hb with
  | refl _ => intro lm hm; exact ⟨[], rfl, by simpa using hm⟩
  | step _ hl hp ih =>
    intro lm hm
    obtain ⟨l2, hlen, hpath⟩ := ih hm
    exact ⟨l2 ++ [_], by simp [hlen], by rw [← List.append_assoc]; exact Path.step hpath hl hp⟩

theorem Path.above {a : Arena} {m x k : Nat} (hb : BelowK a m x k) :
    ∀ {p : List Nat}, Path a p x → ∃ lm l2, p = lm ++ l2 ∧ Path a lm m ∧ l2.length = k := by
  induction hb with
  | refl _ => intro p hp; exact ⟨p, [], by simp, hp, rfl⟩
  | @step pp cc kk _ hlc hpc ih =>
    intro p hp
    cases hp with
    | root _ hpn => rw [hpc] at hpn; cases hpn
    | step hp' _ hpc' =>
      rw [hpc] at hpc'; cases hpc'
      obtain ⟨lm, l2, h1, h2, h3⟩ := ih hp'
      exact ⟨lm, l2 ++ [cc], by rw [h1]; simp, h2, by simp [h3]⟩

end AR
