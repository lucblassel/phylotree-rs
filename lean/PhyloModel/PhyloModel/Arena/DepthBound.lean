import PhyloModel.Arena.PathFacts
/-! Under the arena invariant the cached depth of a live node is the number of edges to its root, and it
    is smaller than the arena size: the executable model's fuel always suffices. -/
namespace AR

theorem Path.length_eq_depth {a : Arena} (hinv : Inv a) {l : List Nat} {x : Nat} (h : Path a l x) :
    l.length = (nd a x).depth + 1 := by
  induction h with
  | root hl hp => simp [hinv.root_depth _ hl hp]
  | @step l p c _ hl hp ih =>
    obtain ⟨hlp, hmem⟩ := hinv.parent_ok c p hl hp
    have := (hinv.child_ok p c hlp hmem).2.2.1
    simp [ih, this]

theorem depth_is_edges_to_root {a : Arena} (hinv : Inv a) (x : Nat) (hl : live a x) :
    ∃ l, Path a l x ∧ l.length = (nd a x).depth + 1 := by
  obtain ⟨l, hp⟩ := Path.exists hinv.toW ((nd a x).depth) x hl (Nat.le_refl _)
  exact ⟨l, hp, hp.length_eq_depth hinv⟩

theorem depth_lt_size {a : Arena} (hinv : Inv a) (x : Nat) (hl : live a x) : (nd a x).depth < a.size := by
  obtain ⟨l, hp, hlen⟩ := depth_is_edges_to_root hinv x hl
  have := hp.length_le hinv.toW
  omega

def maxDepthBound (a : Arena) : Nat := a.size

theorem depth_le_size {a : Arena} (hinv : Inv a) : ∀ i, live a i → (nd a i).depth ≤ a.size :=
  fun i hl => Nat.le_of_lt (depth_lt_size hinv i hl)

end AR
