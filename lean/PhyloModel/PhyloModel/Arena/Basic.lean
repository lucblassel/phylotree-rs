import PhyloModel.Misc.ListLemmas
/-! The arena of `Tree` (src/tree): slots read through the total accessor `nd`, the invariant `Inv`, and `add_child`. -/
namespace AR

/-- `Node::child_edges` (a `HashMap` in node.rs) as an association list -/
def alGet : List (Nat × Int) → Nat → Option Int
  | [], _ => none
  | (k, v) :: xs, c => if k = c then some v else alGet xs c
def alErase : List (Nat × Int) → Nat → List (Nat × Int)
  | [], _ => []
  | (k, v) :: xs, c => if k = c then alErase xs c else (k, v) :: alErase xs c
def alSet (l : List (Nat × Int)) (c : Nat) (v : Int) : List (Nat × Int) := (c, v) :: alErase l c

theorem alGet_erase (l : List (Nat × Int)) (c d : Nat) :
    alGet (alErase l c) d = if d = c then none else alGet l d := by
  induction l with
  | nil => simp [alGet, alErase]
  | cons x xs ih =>
    obtain ⟨k, v⟩ := x
    simp only [alGet, alErase]
    grind [alGet]

theorem alGet_set (l : List (Nat × Int)) (c d : Nat) (v : Int) :
    alGet (alSet l c v) d = if d = c then some v else alGet l d := by
  simp only [alSet, alGet, alGet_erase]
  grind

structure Node where
  parent : Option Nat := none
  children : List Nat := []
  pedge : Option Int := none
  cedges : List (Nat × Int) := []
  depth : Nat := 0
  deleted : Bool := false
  name : Option String := none      -- payload: never read by the structural operations
  comment : Option String := none   -- payload
deriving Repr, Inhabited

abbrev Arena := Array Node

def dead : Node := { deleted := true }
/-- total accessor: out-of-range slots read as tombstones -/
def nd (a : Arena) (i : Nat) : Node := a.getD i dead
def live (a : Arena) (i : Nat) : Prop := i < a.size ∧ (nd a i).deleted = false

def setCedge (n : Node) (c : Nat) (e : Option Int) : Node :=
  match e with
  | some v => { n with cedges := alSet n.cedges c v }
  | none => n

/-- `Tree::add_child` -/
def addChild (a : Arena) (p : Nat) (e : Option Int) : Option (Arena × Nat) :=
  if p < a.size ∧ (nd a p).deleted = false then
    let id := a.size
    let child : Node := { parent := some p, pedge := e, depth := (nd a p).depth + 1 }
    let pn := nd a p
    let pn' := setCedge { pn with children := pn.children ++ [id] } id e
    some ((a.setIfInBounds p pn').push child, id)
  else none

structure Inv (a : Arena) : Prop where
  child_ok : ∀ i c, live a i → c ∈ (nd a i).children →
      live a c ∧ (nd a c).parent = some i ∧ (nd a c).depth = (nd a i).depth + 1
        ∧ alGet (nd a i).cedges c = (nd a c).pedge
  parent_ok : ∀ i p, live a i → (nd a i).parent = some p → live a p ∧ i ∈ (nd a p).children
  nodup : ∀ i, (nd a i).children.Nodup
  root_depth : ∀ i, live a i → (nd a i).parent = none → (nd a i).depth = 0
  cedge_dom : ∀ i c, (alGet (nd a i).cedges c).isSome → c ∈ (nd a i).children

@[simp] theorem setCedge_children (n : Node) (c : Nat) (e : Option Int) : (setCedge n c e).children = n.children := by
  cases e <;> simp [setCedge]
@[simp] theorem setCedge_deleted (n : Node) (c : Nat) (e : Option Int) : (setCedge n c e).deleted = n.deleted := by
  cases e <;> simp [setCedge]
@[simp] theorem setCedge_parent (n : Node) (c : Nat) (e : Option Int) : (setCedge n c e).parent = n.parent := by
  cases e <;> simp [setCedge]
@[simp] theorem setCedge_depth (n : Node) (c : Nat) (e : Option Int) : (setCedge n c e).depth = n.depth := by
  cases e <;> simp [setCedge]
@[simp] theorem setCedge_pedge (n : Node) (c : Nat) (e : Option Int) : (setCedge n c e).pedge = n.pedge := by
  cases e <;> simp [setCedge]
@[simp] theorem setCedge_name (n : Node) (c : Nat) (e : Option Int) : (setCedge n c e).name = n.name := by
  cases e <;> rfl
@[simp] theorem setCedge_comment (n : Node) (c : Nat) (e : Option Int) : (setCedge n c e).comment = n.comment := by
  cases e <;> rfl
theorem setCedge_get (n : Node) (c d : Nat) (e : Option Int) :
    alGet (setCedge n c e).cedges d = if d = c then (e <|> alGet n.cedges c) else alGet n.cedges d := by
  cases e with
  | none => by_cases h : d = c <;> simp [setCedge, h]
  | some v => simp [setCedge, alGet_set]

theorem nd_push (a : Arena) (x : Node) (i : Nat) :
    nd (a.push x) i = if i = a.size then x else nd a i :=
  Array.getD_push a x dead i

theorem nd_set (a : Arena) (p : Nat) (x : Node) (i : Nat) :
    nd (a.setIfInBounds p x) i = if i = p ∧ p < a.size then x else nd a i :=
  Array.getD_setIfInBounds a p x dead i

theorem nd_dead (a : Arena) (i : Nat) (h : a.size ≤ i) : nd a i = dead := by
  simp [nd, Array.getD_eq_getD_getElem?, Array.getElem?_eq_none h]

theorem addChild_nd {a a' : Arena} {p id : Nat} {e : Option Int} (h : addChild a p e = some (a', id)) :
    live a p ∧ id = a.size ∧ a'.size = a.size + 1 ∧ ∀ i, nd a' i =
      if i = a.size then { parent := some p, pedge := e, depth := (nd a p).depth + 1 }
      else if i = p then setCedge { nd a p with children := (nd a p).children ++ [a.size] } a.size e
      else nd a i := by
  unfold addChild at h
  split at h
  next hp =>
    simp only [Option.some.injEq, Prod.mk.injEq] at h
    obtain ⟨rfl, rfl⟩ := h
    refine ⟨hp, rfl, by simp, fun i => ?_⟩
    simp only [nd_push, nd_set, Array.size_setIfInBounds, hp.1, and_true]
  · cases h

end AR
