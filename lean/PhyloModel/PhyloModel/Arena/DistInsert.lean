import PhyloModel.Arena.DistBase
/-! C11, the argument shared by `resolve` and `compress`.  One round of `resolve` hangs a fresh node `w` from `q`
    and moves two children `x1`, `x2` of `q` under it; one `compress_node v`, read from its result back to its
    input, does the same with `w := v` and `x1 = x2 :=` the only child of `v`.  `Inserted a b q w x1 x2`: `b` is `a`
    with the node `w` put on the parent edges of `x1` and `x2`, the old length of such an edge being the sum of the
    two new ones.  Root paths of `a` get `w` inserted in front of `x1` / `x2`; the length of the connecting path
    between two nodes of `a` is the same in `b`, the edge count can only grow. -/
namespace AR

def insW (w x1 x2 : Nat) (l : List Nat) : List Nat :=
  l.flatMap (fun u => if u = x1 ∨ u = x2 then [w, u] else [u])

theorem insW_nil (w x1 x2 : Nat) : insW w x1 x2 [] = [] := rfl

theorem insW_cons (w x1 x2 u : Nat) (l : List Nat) :
    insW w x1 x2 (u :: l) = (if u = x1 ∨ u = x2 then [w, u] else [u]) ++ insW w x1 x2 l := by
  simp [insW]

theorem insW_append (w x1 x2 : Nat) (l1 l2 : List Nat) :
    insW w x1 x2 (l1 ++ l2) = insW w x1 x2 l1 ++ insW w x1 x2 l2 := by
  simp [insW]

theorem insW_length (w x1 x2 : Nat) (l : List Nat) : l.length ≤ (insW w x1 x2 l).length := by
  induction l with
  | nil => simp [insW_nil]
  | cons u l ih =>
    rw [insW_cons]
    split <;> simp <;> omega

section
variable {w x1 x2 : Nat} {pe pe' : Nat → Option Int}

theorem insW_sum (hm : ∀ u, u = x1 ∨ u = x2 → optAdd (pe' w) (pe' u) = pe u)
    (ho : ∀ z, z ≠ w → ¬ (z = x1 ∨ z = x2) → pe' z = pe z) :
    ∀ (L : List Nat), (∀ u ∈ L, u ≠ w) → optSum ((insW w x1 x2 L).map pe') = optSum (L.map pe)
  | [], _ => rfl
  | u :: L, h => by
    have ih := insW_sum hm ho L (fun z hz => h z (by simp [hz]))
    rw [insW_cons]
    split
    next hu => simp only [List.cons_append, List.nil_append, List.map_cons, optSum_cons, ih, ← optAdd_assoc, hm u hu]
    next hu => simp only [List.cons_append, List.nil_append, List.map_cons, optSum_cons, ih, ho u (h u (by simp)) hu]

/-- The connecting path computed from the new tails.  When the old tails start with `x1` and `x2`, `w` joins the
    common prefix and is not counted: the lengths then agree only because that of `w` is zero (`hz`). -/
theorem insW_tails (b : Arena) (hm : ∀ u, u = x1 ∨ u = x2 → optAdd (nd b w).pedge (nd b u).pedge = pe u)
    (ho : ∀ z, z ≠ w → ¬ (z = x1 ∨ z = x2) → (nd b z).pedge = pe z) (hz : x1 ≠ x2 → (nd b w).pedge = some 0)
    (X Y : List Nat) (hd : ∀ x y, X.head? = some x → Y.head? = some y → x ≠ y) (hX : ∀ u ∈ X, u ≠ w)
    (hY : ∀ u ∈ Y, u ≠ w) :
    ∃ n', distOf b (insW w x1 x2 X) (insW w x1 x2 Y) = (optSum ((X ++ Y).map pe), n') ∧
      (X ++ Y).length ≤ n' := by
  have hsum : optSum ((insW w x1 x2 X ++ insW w x1 x2 Y).map (fun i => (nd b i).pedge)) = optSum ((X ++ Y).map pe) := by
    rw [← insW_append]
    exact insW_sum hm ho _ fun u hu => (List.mem_append.1 hu).elim (hX u) (hY u)
  have hlen := insW_length w x1 x2 (X ++ Y)
  rw [insW_append] at hlen
  by_cases hb : ∃ x0 X1 y0 Y1, X = x0 :: X1 ∧ Y = y0 :: Y1 ∧ (x0 = x1 ∨ x0 = x2) ∧ (y0 = x1 ∨ y0 = x2)
  · obtain ⟨x0, X1, y0, Y1, rfl, rfl, sx, sy⟩ := hb
    have hxy := hd x0 y0 rfl rfl
    have hw : (nd b w).pedge = some 0 := hz fun e => by
      subst e; exact hxy ((sx.elim id id).trans (sy.elim id id).symm)
    simp only [insW_cons, if_pos sx, if_pos sy, List.cons_append, List.nil_append] at hsum ⊢
    have hh := distOf_heads b (p := x0 :: insW w x1 x2 X1) (q := y0 :: insW w x1 x2 Y1)
      fun x y h1 h2 => Option.some.inj h1 ▸ Option.some.inj h2 ▸ hxy
    refine ⟨_, (distOf_prefix b [w] _ _).trans (hh.trans (Prod.ext ?_ rfl)), ?_⟩
    · simpa [optSum_append, optSum_cons, hw, optAdd_zero_left] using hsum
    · have := insW_length w x1 x2 X1
      have := insW_length w x1 x2 Y1
      simp only [List.length_append, List.length_cons]; omega
  · have hh : ∀ x y, (insW w x1 x2 X).head? = some x → (insW w x1 x2 Y).head? = some y → x ≠ y := by
      intro x y h1 h2
      cases X with
      | nil => cases h1
      | cons x0 X1 =>
        cases Y with
        | nil => cases h2
        | cons y0 Y1 =>
          rw [insW_cons] at h1 h2
          split at h1 <;> split at h2 <;> obtain rfl := Option.some.inj h1 <;> obtain rfl := Option.some.inj h2
          · exact absurd ⟨x0, X1, y0, Y1, rfl, rfl, ‹_›, ‹_›⟩ hb
          · exact Ne.symm (hY y0 List.mem_cons_self)
          · exact hX x0 List.mem_cons_self
          · exact hd x0 y0 rfl rfl
    exact ⟨_, by rw [distOf_heads b hh, hsum], hlen⟩

end

/-- the fields `get_distance` reads, in both arenas -/
structure Inserted (a b : Arena) (q w x1 x2 : Nat) : Prop where
  old : ∀ i, live a i → live b i ∧ i ≠ w
  livew : live b w
  parw : (nd b w).parent = some q
  parm : ∀ u, u = x1 ∨ u = x2 → (nd a u).parent = some q ∧ (nd b u).parent = some w
  paro : ∀ i, live a i → ¬ (i = x1 ∨ i = x2) → (nd b i).parent = (nd a i).parent
  pem : ∀ u, u = x1 ∨ u = x2 → optAdd (nd b w).pedge (nd b u).pedge = (nd a u).pedge
  peo : ∀ i, i ≠ w → ¬ (i = x1 ∨ i = x2) → (nd b i).pedge = (nd a i).pedge
  zero : x1 ≠ x2 → (nd b w).pedge = some 0

section
variable {a b : Arena} {q w x1 x2 : Nat}

theorem Inserted.path (s : Inserted a b q w x1 x2) {l : List Nat} {z : Nat} (h : Path a l z) :
    Path b (insW w x1 x2 l) z := by
  induction h with
  | @root z hl hp =>
    have hz : ¬ (z = x1 ∨ z = x2) := fun hm => by rw [(s.parm z hm).1] at hp; cases hp
    rw [insW_cons, if_neg hz]
    exact Path.root (s.old z hl).1 ((s.paro z hl hz).trans hp)
  | @step l p0 c0 _ hl hp ih =>
    rw [insW_append, insW_cons]
    split
    next hc =>
      -- a moved node hangs from `q` before and from `w` after
      obtain ⟨h1, h2⟩ := s.parm c0 hc
      obtain rfl : q = p0 := Option.some.inj (h1.symm.trans hp)
      exact List.append_assoc _ [w] [c0] ▸ Path.step (Path.step ih s.livew s.parw) (s.old c0 hl).1 h2
    next hc => exact Path.step ih (s.old c0 hl).1 ((s.paro c0 hl hc).trans hp)

theorem Inserted.sameLen (s : Inserted a b q w x1 x2) (g : Good a) {r : Nat → Nat} (wb : W b r) {x y : Nat}
    (hlx : live a x) (hly : live a y) (hxy : x ≠ y) : SameLen (· ≤ ·) a b x y := by
  obtain ⟨P, hP⟩ := path_total g x hlx
  obtain ⟨Q, hQ⟩ := path_total g y hly
  have hPold := (hP.ranks g.1.toW).2
  have hQold := (hQ.ranks g.1.toW).2
  obtain ⟨C, X, Y, rfl, rfl, _, hd⟩ := cursor_spec P Q
  have hP' := s.path hP
  have hQ' := s.path hQ
  rw [insW_append] at hP' hQ'
  obtain ⟨n', e, hle⟩ := insW_tails b s.pem s.peo s.zero X Y hd
    (fun u hu => (s.old u (hPold u (List.mem_append_right _ hu)).1).2)
    (fun u hu => (s.old u (hQold u (List.mem_append_right _ hu)).1).2)
  exact SameLen.of_paths g.1.toW wb hxy hP hQ hd hP' hQ' e hle

end

end AR
