import PhyloModel.Arena.AbsRose
import PhyloModel.Misc.Sackin
/-! # Textbook definitions of the read-only answers, on trees

`RoseNL` is a rose tree that carries only what a Newick text carries: node name, branch length, ordered kids
(no arena ids, no cached depths).  `erase : Rose → RoseNL` forgets ids and cached depths.  Every id-free
answer is DEFINED on `RoseNL` straight from the topology, names and branch lengths (`…NL`), and the `Rose`
version (`…R`) is that definition applied to `erase t` — so it cannot depend on ids or cached depths.
Answers that are lists of node ids (`tipIdsR`, `idsNamedR`) are defined on `Rose`. -/
namespace AR

inductive RoseNL where
  | node (name : Option String) (len : Option Int) (kids : List RoseNL)
deriving Repr, Inhabited

def RoseNL.name : RoseNL → Option String | .node n _ _ => n
def RoseNL.len : RoseNL → Option Int | .node _ l _ => l
def RoseNL.kids : RoseNL → List RoseNL | .node _ _ k => k

mutual
def erase : Rose → RoseNL
  | .node _ n l _ ks => .node n l (eraseL ks)
def eraseL : List Rose → List RoseNL
  | [] => []
  | k :: ks => erase k :: eraseL ks
end

theorem eraseL_eq_map : ∀ ks : List Rose, eraseL ks = ks.map erase
  | [] => rfl
  | k :: ks => by rw [eraseL, eraseL_eq_map ks]; rfl

@[simp] theorem erase_name (t : Rose) : (erase t).name = t.name := by
  cases t; simp [erase, RoseNL.name, Rose.name]
@[simp] theorem erase_len (t : Rose) : (erase t).len = t.len := by
  cases t; simp [erase, RoseNL.len, Rose.len]
@[simp] theorem erase_kids (t : Rose) : (erase t).kids = t.kids.map erase := by
  cases t; simp [erase, RoseNL.kids, Rose.kids, eraseL_eq_map]

mutual
def nodesNL : RoseNL → List RoseNL | .node n l ks => .node n l ks :: nodesNLL ks
def nodesNLL : List RoseNL → List RoseNL | [] => [] | k :: ks => nodesNL k ++ nodesNLL ks
end

theorem nodesNL_eq (t : RoseNL) : nodesNL t = t :: nodesNLL t.kids := by cases t; simp [nodesNL, RoseNL.kids]

mutual
theorem nodesNL_erase : ∀ t : Rose, nodesNL (erase t) = (nodesR t).map erase
  | .node i n l d ks => by simp only [erase, nodesNL, nodesR, List.map_cons, nodesNLL_erase ks]
theorem nodesNLL_erase : ∀ ts : List Rose, nodesNLL (eraseL ts) = (nodesRL ts).map erase
  | [] => by simp [eraseL, nodesNLL, nodesRL]
  | t :: ts => by simp only [eraseL, nodesNLL, nodesRL, List.map_append, nodesNL_erase t, nodesNLL_erase ts]
end

def RoseNL.isTip (t : RoseNL) : Bool := t.kids.isEmpty

def tipsNL (t : RoseNL) : List RoseNL := (nodesNL t).filter RoseNL.isTip
def tipsNLL (ts : List RoseNL) : List RoseNL := (nodesNLL ts).filter RoseNL.isTip

theorem tipsNL_tip (n : Option String) (l : Option Int) : tipsNL (.node n l []) = [.node n l []] := by
  simp [tipsNL, nodesNL, nodesNLL, RoseNL.isTip, RoseNL.kids]
theorem tipsNL_inner (n : Option String) (l : Option Int) (k : RoseNL) (ks : List RoseNL) :
    tipsNL (.node n l (k :: ks)) = tipsNLL (k :: ks) := by
  simp [tipsNL, tipsNLL, nodesNL, RoseNL.isTip, RoseNL.kids]
theorem tipsNLL_nil : tipsNLL [] = [] := by simp [tipsNLL, nodesNLL]
theorem tipsNLL_cons (k : RoseNL) (ks : List RoseNL) : tipsNLL (k :: ks) = tipsNL k ++ tipsNLL ks := by
  simp [tipsNLL, tipsNL, nodesNLL]

def nLeavesNL (t : RoseNL) : Nat := (tipsNL t).length
def leafNamesNL (t : RoseNL) : List (Option String) := (tipsNL t).map RoseNL.name

def isRootedNL (t : RoseNL) : Bool := t.kids.length == 2

/-- binary: every non-root node has at most two kids; the root at most three (an unrooted binary tree is
    written with a trifurcating virtual root), which for a rooted tree means exactly two -/
def isBinaryNL (t : RoseNL) : Bool :=
  decide (t.kids.length ≤ 3) && (nodesNLL t.kids).all (fun s => decide (s.kids.length ≤ 2))

/-- sum of the branch lengths of all non-root nodes; absent when one of them is absent -/
def totalLengthNL (t : RoseNL) : Option Int :=
  let es := (nodesNLL t.kids).map RoseNL.len
  if es.all Option.isSome then some (es.map (·.getD 0)).sum else none

def RoseNL.isCherry (s : RoseNL) : Bool :=
  match s.kids with
  | [x, y] => x.isTip && y.isTip
  | _ => false

def cherriesNL (t : RoseNL) : Nat := ((nodesNL t).filter RoseNL.isCherry).length

/-- the Colless term `|L − R|` of a node with two kids (tip counts below the kids); a node with a single
    kid contributes the tip count below it (`R = 0`); tips contribute nothing -/
def collessTermNL (s : RoseNL) : Nat :=
  match s.kids with
  | [l, r] => absDiff (nLeavesNL l) (nLeavesNL r)
  | [l] => nLeavesNL l
  | _ => 0

/-- Colless index of a binary tree: sum over the nodes of `|L − R|` -/
def collessNL (t : RoseNL) : Nat := ((nodesNL t).map collessTermNL).sum

mutual
def shapeNL : RoseNL → SK.T | .node _ _ ks => .node (shapeNLL ks)
def shapeNLL : List RoseNL → List SK.T | [] => [] | k :: ks => shapeNL k :: shapeNLL ks
end

/-- Sackin index: sum over the internal nodes of the number of tips below them (`SK.sackin`), equivalently
    (`SK.sackin_two_definitions`) the sum over the tips of their number of edges to the root -/
def sackinNL (t : RoseNL) : Nat := SK.sackin (shapeNL t)

theorem sackinNL_depth_form (t : RoseNL) : sackinNL t = SK.depthSum 0 (shapeNL t) :=
  (SK.sackin_two_definitions _).symm

/-- a step of a path: (index of the kid taken, its branch length) -/
abbrev Step := Nat × Option Int

mutual
/-- for every tip, left to right, the steps leading from the root to it -/
def tipPathsNL : RoseNL → List (List Step)
  | .node _ _ [] => [[]]
  | .node _ _ (k :: ks) => tipPathsNLL 0 (k :: ks)
def tipPathsNLL : Nat → List RoseNL → List (List Step)
  | _, [] => []
  | j, k :: ks => (tipPathsNL k).map (fun p => (j, k.len) :: p) ++ tipPathsNLL (j + 1) ks
end

/-- the length of a path as the real code reports it: the sum of the branch lengths when all are present,
    else the number of edges (times `unit`) -/
def pathLen (unit : Int) (p : List Step) : Int := distVal unit (optSum (p.map (·.2)), p.length)

def heightNL (unit : Int) (t : RoseNL) : Option Int := maxOf ((tipPathsNL t).map (pathLen unit))

/-- the path between two nodes given by their root paths: drop the common prefix, join the two legs -/
def joinPaths : List Step → List Step → List Step
  | x :: xs, y :: ys => if x.1 = y.1 then joinPaths xs ys else (x :: xs) ++ (y :: ys)
  | xs, ys => xs ++ ys

def pairsOfG {α : Type} : List α → List (α × α)
  | [] => []
  | x :: xs => xs.map (fun y => (x, y)) ++ pairsOfG xs

def diameterNL (unit : Int) (t : RoseNL) : Option Int :=
  maxOf ((pairsOfG (tipPathsNL t)).map (fun pq => pathLen unit (joinPaths pq.1 pq.2)))

def countNameNL (t : RoseNL) (n : Option String) : Nat := ((nodesNL t).filter (fun s => s.name == n)).length

def nLeavesR (t : Rose) : Nat := nLeavesNL (erase t)
def leafNamesR (t : Rose) : List (Option String) := leafNamesNL (erase t)
def isRootedR (t : Rose) : Bool := isRootedNL (erase t)
def isBinaryR (t : Rose) : Bool := isBinaryNL (erase t)
def totalLengthR (t : Rose) : Option Int := totalLengthNL (erase t)
def cherriesR (t : Rose) : Nat := cherriesNL (erase t)
def collessR (t : Rose) : Nat := collessNL (erase t)
def sackinR (t : Rose) : Nat := sackinNL (erase t)
def heightR (unit : Int) (t : Rose) : Option Int := heightNL unit (erase t)
def diameterR (unit : Int) (t : Rose) : Option Int := diameterNL unit (erase t)
def countNameR (t : Rose) (n : Option String) : Nat := countNameNL (erase t) n

def Rose.isTip (t : Rose) : Bool := t.kids.isEmpty

def tipsR (t : Rose) : List Rose := (nodesR t).filter Rose.isTip
def tipIdsR (t : Rose) : List Nat := (tipsR t).map Rose.id
def idsNamedR (t : Rose) (n : Option String) : List Nat := ((nodesR t).filter (fun s => s.name == n)).map Rose.id

@[simp] theorem erase_isTip (t : Rose) : (erase t).isTip = t.isTip := by
  simp [RoseNL.isTip, Rose.isTip]

theorem tipsNL_erase (t : Rose) : tipsNL (erase t) = (tipsR t).map erase := by
  simp only [tipsNL, tipsR, nodesNL_erase, List.filter_map]
  congr 1
  apply List.filter_congr
  intro s _
  simp

theorem nLeavesR_eq (t : Rose) : nLeavesR t = (tipsR t).length := by
  simp [nLeavesR, nLeavesNL, tipsNL_erase]

theorem leafNamesR_eq (t : Rose) : leafNamesR t = (tipsR t).map Rose.name := by
  simp only [leafNamesR, leafNamesNL, tipsNL_erase, List.map_map]
  apply List.map_congr_left
  intro s _
  simp

theorem countNameR_eq (t : Rose) (n : Option String) : countNameR t n = (idsNamedR t n).length := by
  simp only [countNameR, countNameNL, idsNamedR, nodesNL_erase, List.filter_map, List.length_map]
  congr 1
  apply List.filter_congr
  intro s _
  simp

theorem nodesNLL_eq_flatMap : ∀ ks : List RoseNL, nodesNLL ks = ks.flatMap nodesNL
  | [] => rfl
  | k :: ks => by rw [nodesNLL, nodesNLL_eq_flatMap ks]; simp

theorem nLeavesNL_tip (n : Option String) (l : Option Int) : nLeavesNL (.node n l []) = 1 := by
  simp [nLeavesNL, tipsNL_tip]

theorem nLeavesNL_inner (n : Option String) (l : Option Int) (k : RoseNL) (ks : List RoseNL) :
    nLeavesNL (.node n l (k :: ks)) = ((k :: ks).map nLeavesNL).sum := by
  rw [nLeavesNL, tipsNL_inner]
  generalize k :: ks = l'
  induction l' with
  | nil => simp [tipsNLL_nil]
  | cons x xs ih => simp [tipsNLL_cons, ih, nLeavesNL]

theorem cherriesNL_node (n : Option String) (l : Option Int) (ks : List RoseNL) :
    cherriesNL (.node n l ks) = (if (RoseNL.node n l ks).isCherry then 1 else 0) + (ks.map cherriesNL).sum := by
  simp only [cherriesNL, nodesNL, List.filter_cons]
  have : ((nodesNLL ks).filter RoseNL.isCherry).length = (ks.map cherriesNL).sum := by
    induction ks with
    | nil => simp [nodesNLL]
    | cons x xs ih => simp [nodesNLL, List.filter_append, ih, cherriesNL]
  split <;> simp [this] <;> omega

theorem collessNL_node (n : Option String) (l : Option Int) (ks : List RoseNL) :
    collessNL (.node n l ks) = collessTermNL (.node n l ks) + (ks.map collessNL).sum := by
  simp only [collessNL, nodesNL, List.map_cons, List.sum_cons]
  congr 1
  induction ks with
  | nil => simp [nodesNLL]
  | cons x xs ih => simp [nodesNLL, List.sum_append, ih, collessNL]

/-- sanity: the answers on `((A:1,B:2)C:3,D:4)R;` -/
def exNL : RoseNL :=
  .node (some "R") none [.node (some "C") (some 3) [.node (some "A") (some 1) [], .node (some "B") (some 2) []],
    .node (some "D") (some 4) []]

example : nLeavesNL exNL = 3 ∧ leafNamesNL exNL = [some "A", some "B", some "D"] ∧ isRootedNL exNL = true ∧
    isBinaryNL exNL = true ∧ totalLengthNL exNL = some 10 ∧ cherriesNL exNL = 1 ∧ collessNL exNL = 1 ∧
    sackinNL exNL = 5 ∧ heightNL 1 exNL = some 5 ∧ diameterNL 1 exNL = some 9 := by decide

/-! A childless node and a node with exactly two kids (every node of a binary tree): the leaf count and the
    Colless index without the sums over the child list. -/

theorem collessNL_tip (n : Option String) (l : Option Int) : collessNL (.node n l []) = 0 := by
  rw [collessNL_node]; rfl

theorem nLeavesNL_pair (n : Option String) (l : Option Int) (a b : RoseNL) :
    nLeavesNL (.node n l [a, b]) = nLeavesNL a + nLeavesNL b := by
  rw [nLeavesNL_inner]; simp

theorem collessNL_pair (n : Option String) (l : Option Int) (a b : RoseNL) :
    collessNL (.node n l [a, b]) = absDiff (nLeavesNL a) (nLeavesNL b) + collessNL a + collessNL b := by
  rw [collessNL_node]; simp [collessTermNL, RoseNL.kids, Nat.add_assoc]

/-- a subtree with `k + 1` tips beside a single tip (a rung of the comb) -/
theorem absDiff_succ_one (k : Nat) : absDiff (k + 1) 1 = k := by cases k <;> rfl

/-- `|L − R| ≤ (L − 1) + (R − 1)` for non-empty sides -/
theorem absDiff_succ_succ_le (a b : Nat) : absDiff (a + 1) (b + 1) ≤ a + b := by
  unfold absDiff; split <;> rw [Nat.add_sub_add_right]
  · exact Nat.le_trans (Nat.sub_le b a) (Nat.le_add_left b a)
  · exact Nat.le_trans (Nat.sub_le a b) (Nat.le_add_right a b)

end AR
