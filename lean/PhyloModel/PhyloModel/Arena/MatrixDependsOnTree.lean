import PhyloModel.Arena.Rename
import PhyloModel.Dist.Taxa
/-! # C04 corollary for the distance matrices

`DMF.dmRecursive` (`Tree::distance_matrix_recursive`) and `DMF.dmRose` (the contributions of
`Tree::distance_matrix`) are computed from the abstract tree through id-keyed tables.  They are invariant
under an injective renaming of the ids, hence two arenas with the same erased tree produce the same taxa
list and the same matrix cells. -/
namespace AR
open DM DMF

mutual
def renameRT (ρ : Nat → Nat) : RT → RT
  | .node i l ks => .node (ρ i) l (renameRTL ρ ks)
def renameRTL (ρ : Nat → Nat) : List RT → List RT
  | [] => []
  | k :: ks => renameRT ρ k :: renameRTL ρ ks
end

@[simp] theorem renameRT_len (ρ : Nat → Nat) (t : RT) : (renameRT ρ t).len = t.len := by
  cases t; simp [renameRT, RT.len]

mutual
theorem absDM_rename (u : Int) (ρ : Nat → Nat) : ∀ t : Rose, absDM u (renameR ρ t) = renameRT ρ (absDM u t)
  | .node i n l d ks => by simp only [renameR, absDM, renameRT, absDML_rename u ρ ks]
theorem absDML_rename (u : Int) (ρ : Nat → Nat) : ∀ ts : List Rose,
    absDM.absDML u (renameRL ρ ts) = renameRTL ρ (absDM.absDML u ts)
  | [] => by simp [renameRL, absDM.absDML, renameRTL]
  | t :: ts => by simp only [renameRL, absDM.absDML, renameRTL, absDM_rename u ρ t, absDML_rename u ρ ts]
end

def rn (ρ : Nat → Nat) (p : Nat × Option String) : Nat × Option String := (ρ p.1, p.2)

mutual
theorem tipsWithNames_rename (ρ : Nat → Nat) : ∀ t : Rose,
    tipsWithNames (renameR ρ t) = (tipsWithNames t).map (rn ρ)
  | .node i n _ _ [] => by simp [renameR, renameRL, tipsWithNames, rn]
  | .node _ _ _ _ (k :: ks) => by
    have := tipsWithNamesL_rename ρ (k :: ks)
    simp only [renameR, renameRL, tipsWithNames] at this ⊢
    exact this
theorem tipsWithNamesL_rename (ρ : Nat → Nat) : ∀ ts : List Rose,
    tipsWithNamesL (renameRL ρ ts) = (tipsWithNamesL ts).map (rn ρ)
  | [] => by simp [renameRL, tipsWithNamesL]
  | t :: ts => by
    simp only [renameRL, tipsWithNamesL, List.map_append, tipsWithNames_rename ρ t, tipsWithNamesL_rename ρ ts]
end

theorem renameR_len (ρ : Nat → Nat) (t : Rose) : (renameR ρ t).len = t.len := by
  cases t; simp [renameR, Rose.len]

mutual
theorem allLens_rename (ρ : Nat → Nat) : ∀ t : Rose, allLens (renameR ρ t) = allLens t
  | .node _ _ _ _ ks => by simp only [renameR, allLens, allLensL_rename ρ ks]
theorem allLensL_rename (ρ : Nat → Nat) : ∀ ts : List Rose, allLensL (renameRL ρ ts) = allLensL ts
  | [] => by simp [renameRL, allLensL]
  | t :: ts => by simp only [renameRL, allLensL, renameR_len, allLens_rename ρ t, allLensL_rename ρ ts]
end

mutual
theorem leafIds_absDM (u : Int) : ∀ t : Rose, leafIds (absDM u t) = (tipsWithNames t).map (·.1)
  | .node i n _ _ [] => by simp [absDM, absDM.absDML, leafIds, tipsWithNames]
  | .node _ _ _ _ (k :: ks) => by
    have := leafIdsL_absDML u (k :: ks)
    simp only [absDM, absDM.absDML, leafIds, tipsWithNames] at this ⊢
    exact this
theorem leafIdsL_absDML (u : Int) : ∀ ts : List Rose,
    leafIdsL (absDM.absDML u ts) = (tipsWithNamesL ts).map (·.1)
  | [] => by simp [absDM.absDML, leafIdsL, tipsWithNamesL]
  | t :: ts => by
    simp only [absDM.absDML, leafIdsL, tipsWithNamesL, List.map_append, leafIds_absDM u t, leafIdsL_absDML u ts]
end

mutual
theorem tips_sub_ids : ∀ t : Rose, ∀ p ∈ tipsWithNames t, p.1 ∈ idsR t
  | .node i n l d [], p, hp => by
    simp only [tipsWithNames, List.mem_singleton] at hp
    subst hp
    simp [idsR_node]
  | .node i n l d (k :: ks), p, hp => by
    rw [tipsWithNames] at hp
    rw [idsR_node]
    exact List.mem_cons_of_mem _ (tipsL_sub_ids (k :: ks) p hp)
theorem tipsL_sub_ids : ∀ ts : List Rose, ∀ p ∈ tipsWithNamesL ts, p.1 ∈ idsRL ts
  | [], p, hp => by simp [tipsWithNamesL] at hp
  | t :: ts, p, hp => by
    simp only [tipsWithNamesL, List.mem_append] at hp
    rw [idsRL_cons, List.mem_append]
    rcases hp with hp | hp
    · exact Or.inl (tips_sub_ids t p hp)
    · exact Or.inr (tipsL_sub_ids ts p hp)
end

theorem leafIds_absDM_sub (u : Int) (t : Rose) : ∀ z ∈ leafIds (absDM u t), z ∈ idsR t := by
  intro z hz
  rw [leafIds_absDM, List.mem_map] at hz
  obtain ⟨p, hp, rfl⟩ := hz
  exact tips_sub_ids t p hp

mutual
theorem leafIds_rename (ρ : Nat → Nat) : ∀ t : RT, leafIds (renameRT ρ t) = (leafIds t).map ρ
  | .node i _ [] => by simp [renameRT, renameRTL, leafIds]
  | .node _ _ (k :: ks) => by
    have := leafIdsL_rename ρ (k :: ks)
    simp only [renameRT, renameRTL, leafIds] at this ⊢
    exact this
theorem leafIdsL_rename (ρ : Nat → Nat) : ∀ ts : List RT, leafIdsL (renameRTL ρ ts) = (leafIdsL ts).map ρ
  | [] => by simp [renameRTL, leafIdsL]
  | t :: ts => by simp only [renameRTL, leafIdsL, List.map_append, leafIds_rename ρ t, leafIdsL_rename ρ ts]
end

mutual
theorem depthTo_rename (ρ : Nat → Nat) (x : Nat) : ∀ t : RT, (∀ z ∈ leafIds t, ρ z = ρ x → z = x) →
    depthTo (renameRT ρ t) (ρ x) = depthTo t x
  | .node i _ [], h => by
    simp only [renameRT, renameRTL, depthTo]
    by_cases hix : i = x
    · simp [hix]
    · have : ¬ ρ i = ρ x := fun e => hix (h i (by simp [leafIds]) e)
      simp [hix, this]
  | .node _ _ (k :: ks), h => by
    have := depthToL_rename ρ x (k :: ks) (by simpa [leafIds] using h)
    simp only [renameRT, renameRTL, depthTo] at this ⊢
    exact this
theorem depthToL_rename (ρ : Nat → Nat) (x : Nat) : ∀ ts : List RT, (∀ z ∈ leafIdsL ts, ρ z = ρ x → z = x) →
    depthToL (renameRTL ρ ts) (ρ x) = depthToL ts x
  | [], _ => by simp [renameRTL, depthToL]
  | t :: ts, h => by
    have h1 := depthTo_rename ρ x t (fun z hz => h z (by simp [leafIdsL, hz]))
    have h2 := depthToL_rename ρ x ts (fun z hz => h z (by simp [leafIdsL, hz]))
    simp only [renameRTL, depthToL, h1, h2, renameRT_len]
end

mutual
theorem pathLen_rename (ρ : Nat → Nat) (x y : Nat) : ∀ t : RT, (∀ z ∈ leafIds t, ρ z = ρ x → z = x) →
    (∀ z ∈ leafIds t, ρ z = ρ y → z = y) → DM.pathLen (renameRT ρ t) (ρ x) (ρ y) = DM.pathLen t x y
  | .node i l [], _, _ => by simp [renameRT, renameRTL, DM.pathLen, DM.pathLenL]
  | .node i l (k :: ks), hx, hy => by
    have := pathLenL_rename ρ x y (k :: ks) (by simpa [leafIds] using hx) (by simpa [leafIds] using hy)
    simp only [renameRT, renameRTL, DM.pathLen] at this ⊢
    exact this
theorem pathLenL_rename (ρ : Nat → Nat) (x y : Nat) : ∀ ts : List RT,
    (∀ z ∈ leafIdsL ts, ρ z = ρ x → z = x) → (∀ z ∈ leafIdsL ts, ρ z = ρ y → z = y) →
    DM.pathLenL (renameRTL ρ ts) (ρ x) (ρ y) = DM.pathLenL ts x y
  | [], _, _ => by simp [renameRTL, DM.pathLenL]
  | t :: ts, hx, hy => by
    have hxt : ∀ z ∈ leafIds t, ρ z = ρ x → z = x := fun z hz => hx z (by simp [leafIdsL, hz])
    have hyt : ∀ z ∈ leafIds t, ρ z = ρ y → z = y := fun z hz => hy z (by simp [leafIdsL, hz])
    have hxs : ∀ z ∈ leafIdsL ts, ρ z = ρ x → z = x := fun z hz => hx z (by simp [leafIdsL, hz])
    have hys : ∀ z ∈ leafIdsL ts, ρ z = ρ y → z = y := fun z hz => hy z (by simp [leafIdsL, hz])
    simp only [renameRTL, DM.pathLenL, depthTo_rename ρ x t hxt, depthTo_rename ρ y t hyt,
      depthToL_rename ρ x ts hxs, depthToL_rename ρ y ts hys, pathLen_rename ρ x y t hxt hyt,
      pathLenL_rename ρ x y ts hxs hys, renameRT_len]
end

theorem getD_map_rn (ρ : Nat → Nat) (l : List (Nat × Option String)) (i : Nat) (hi : i < l.length) :
    ((l.map (rn ρ)).getD i (0, none)).1 = ρ (l.getD i (0, none)).1 ∧ l.getD i (0, none) ∈ l := by
  rw [List.getD_eq_getElem?_getD, List.getD_eq_getElem?_getD, List.getElem?_map,
    List.getElem?_eq_getElem hi]
  simp [rn]

theorem cellsOf_rename (ρ : Nat → Nat) (sorted : List (Nat × Option String)) (f f' : Nat → Nat → Option Rat)
    (h : ∀ p ∈ sorted, ∀ q ∈ sorted, f' (ρ p.1) (ρ q.1) = f p.1 q.1) :
    cellsOf (sorted.map (rn ρ)) f' = cellsOf sorted f := by
  simp only [cellsOf, List.length_map]
  apply foldlM_congr
  intro i hi acc
  have hi' := List.mem_range.1 hi
  apply foldlM_congr
  intro j hj acc'
  have hj' : j < sorted.length := by have := List.mem_range.1 hj; omega
  obtain ⟨e1, m1⟩ := getD_map_rn ρ sorted i hi'
  obtain ⟨e2, m2⟩ := getD_map_rn ρ sorted j hj'
  rw [e1, e2, h _ m1 _ m2]

theorem matrixOf_rename (ρ : Nat → Nat) (t : Rose) (f f' : Nat → Nat → Option Rat)
    (h : ∀ p ∈ tipsWithNames t, ∀ q ∈ tipsWithNames t, f' (ρ p.1) (ρ q.1) = f p.1 q.1) :
    matrixOf (renameR ρ t) f' = matrixOf t f := by
  rw [matrixOf_eq, matrixOf_eq, tipsWithNames_rename]
  have hany : ((tipsWithNames t).map (rn ρ)).any (fun p => p.2.isNone) = (tipsWithNames t).any (fun p => p.2.isNone) := by
    rw [List.any_map]; rfl
  have hsort : ((tipsWithNames t).map (rn ρ)).mergeSort tipLe = ((tipsWithNames t).mergeSort tipLe).map (rn ρ) := by
    rw [List.map_mergeSort (r := tipLe) (s := tipLe)]
    intro a _ b _; rfl
  rw [hany, hsort]
  have hperm := List.mergeSort_perm (tipsWithNames t) tipLe
  rw [cellsOf_rename ρ _ f f' (fun p hp q hq => h p (hperm.mem_iff.1 hp) q (hperm.mem_iff.1 hq))]
  simp only [List.map_map]
  rfl

theorem dmRecR_rename (ρ : Nat → Nat) (t : Rose) (hinj : ∀ x ∈ idsR t, ∀ y ∈ idsR t, ρ x = ρ y → x = y) :
    dmRecR (renameR ρ t) = dmRecR t := by
  have hnames : (tipsWithNames (renameR ρ t)).map (·.2) = (tipsWithNames t).map (·.2) := by
    rw [tipsWithNames_rename, List.map_map]; rfl
  have hM : matrixOf (renameR ρ t) (fun x y => DM.pathLen (absDM 0 (renameR ρ t)) x y)
      = matrixOf t (fun x y => DM.pathLen (absDM 0 t) x y) := by
    apply matrixOf_rename
    intro p hp q hq
    rw [absDM_rename]
    have hsub := leafIds_absDM_sub 0 t
    exact pathLen_rename ρ p.1 q.1 (absDM 0 t)
      (fun z hz e => hinj z (hsub z hz) p.1 (tips_sub_ids t p hp) e)
      (fun z hz e => hinj z (hsub z hz) q.1 (tips_sub_ids t q hq) e)
  simp only [dmRecR, hnames, allLens_rename, hM]

theorem dmRecursive_depends_only_on_tree {a b : Arena} (ga : Good a) (gb : Good b) (ha : AtMostOneRoot a)
    (hb : AtMostOneRoot b) {ta tb : Rose} (hta : absRoot a = .ok ta) (htb : absRoot b = .ok tb)
    (he : erase ta = erase tb) : dmRecursive a = dmRecursive b := by
  obtain ⟨ρ, hren, hinj⟩ := absRoot_renaming ga gb ha hb hta htb he
  obtain ⟨ra, _, ca⟩ := absRoot_ctx ga.1 ha hta
  obtain ⟨rb, _, cb⟩ := absRoot_ctx gb.1 hb htb
  rw [dmRecursive_eq ca.root_eq hta, dmRecursive_eq cb.root_eq htb, ← hren, dmRecR_rename ρ ta hinj]

def gk (ρ : Nat → Nat) (p : Nat × Rat) : Nat × Rat := (ρ p.1, p.2)
def gp (ρ : Nat → Nat) (p : (Nat × Nat) × Rat) : (Nat × Nat) × Rat := ((ρ p.1.1, ρ p.1.2), p.2)

theorem shift_map (ρ : Nat → Nat) (d : Rat) (c : List (Nat × Rat)) :
    shift d (c.map (gk ρ)) = (shift d c).map (gk ρ) := by
  simp only [shift, List.map_map]; rfl

theorem cross_map (ρ : Nat → Nat) : ∀ (c r : List (Nat × Rat)),
    cross (c.map (gk ρ)) (r.map (gk ρ)) = (cross c r).map (gp ρ)
  | [], r => by simp [cross]
  | p :: c, r => by
    have ih := cross_map ρ c r
    simp only [cross, List.map_cons, List.flatMap_cons, List.map_append, List.map_map] at ih ⊢
    rw [ih]
    rfl

mutual
theorem cache_rename (ρ : Nat → Nat) : ∀ t : RT, cache (renameRT ρ t) = (cache t).map (gk ρ)
  | .node i _ [] => by simp [renameRT, renameRTL, cache, gk]
  | .node _ _ (k :: ks) => by
    have := cacheL_rename ρ (k :: ks)
    simp only [renameRT, renameRTL, cache] at this ⊢
    exact this
theorem cacheL_rename (ρ : Nat → Nat) : ∀ ts : List RT, cacheL (renameRTL ρ ts) = (cacheL ts).map (gk ρ)
  | [] => by simp [renameRTL, cacheL]
  | t :: ts => by
    simp only [renameRTL, cacheL, List.map_append, renameRT_len, cache_rename ρ t, cacheL_rename ρ ts, shift_map]
end

mutual
theorem pairs_rename (ρ : Nat → Nat) : ∀ t : RT, pairs (renameRT ρ t) = (pairs t).map (gp ρ)
  | .node _ _ ks => by simp only [renameRT, pairs, pairsL_rename ρ ks]
theorem pairsL_rename (ρ : Nat → Nat) : ∀ ts : List RT, pairsL (renameRTL ρ ts) = (pairsL ts).map (gp ρ)
  | [] => by simp [renameRTL, pairsL]
  | t :: ts => by
    simp only [renameRTL, pairsL, List.map_append, renameRT_len, pairs_rename ρ t, pairsL_rename ρ ts,
      cache_rename, cacheL_rename, shift_map, cross_map]
end

theorem contrib_rename (ρ : Nat → Nat) (T : RT) (x y : Nat)
    (hinj : ∀ u ∈ x :: y :: leafIds T, ∀ v ∈ x :: y :: leafIds T, ρ u = ρ v → u = v) :
    contrib ((pairs T).map (gp ρ)) (ρ x) (ρ y) = contrib (pairs T) x y := by
  simp only [contrib, List.filter_map, List.foldl_map]
  have hf : (pairs T).filter ((fun p => (p.1.1 == ρ x && p.1.2 == ρ y) || (p.1.1 == ρ y && p.1.2 == ρ x)) ∘ gp ρ)
      = (pairs T).filter (fun p => (p.1.1 == x && p.1.2 == y) || (p.1.1 == y && p.1.2 == x)) := by
    apply List.filter_congr
    intro ⟨⟨k1, k2⟩, d⟩ hp
    obtain ⟨m1, m2⟩ := pairs_mem_leaf T k1 k2 d hp
    have inj : ∀ k ∈ leafIds T, ∀ z ∈ x :: y :: leafIds T, (ρ k == ρ z) = (k == z) := by
      intro k hk z hz
      rw [Bool.eq_iff_iff]
      simp only [beq_iff_eq]
      exact ⟨fun e => hinj k (by simp [hk]) z hz e, fun e => by rw [e]⟩
    simp only [Function.comp, gp, inj k1 m1 x (by simp), inj k1 m1 y (by simp), inj k2 m2 x (by simp),
      inj k2 m2 y (by simp)]
  rw [hf]
  rfl

theorem dmRoseR_rename (ρ : Nat → Nat) (unit : Int) (t : Rose)
    (hinj : ∀ x ∈ idsR t, ∀ y ∈ idsR t, ρ x = ρ y → x = y) :
    matrixOf (renameR ρ t) (contrib (DM.pairs (absDM unit (renameR ρ t))))
      = matrixOf t (contrib (DM.pairs (absDM unit t))) := by
  apply matrixOf_rename
  intro p hp q hq
  rw [absDM_rename, pairs_rename]
  apply contrib_rename
  have hall : ∀ u ∈ p.1 :: q.1 :: leafIds (absDM unit t), u ∈ idsR t := by
    intro u hu
    simp only [List.mem_cons] at hu
    rcases hu with rfl | rfl | hu
    · exact tips_sub_ids t p hp
    · exact tips_sub_ids t q hq
    · exact leafIds_absDM_sub unit t u hu
  intro u hu v hv e
  exact hinj u (hall u hu) v (hall v hv) e

theorem dmRose_depends_only_on_tree {a b : Arena} (ga : Good a) (gb : Good b) (ha : AtMostOneRoot a)
    (hb : AtMostOneRoot b) {ta tb : Rose} (hta : absRoot a = .ok ta) (htb : absRoot b = .ok tb)
    (he : erase ta = erase tb) (unit : Int) : dmRose a unit = dmRose b unit := by
  obtain ⟨ρ, hren, hinj⟩ := absRoot_renaming ga gb ha hb hta htb he
  rw [dmRose_eq unit hta, dmRose_eq unit htb, ← hren, dmRoseR_rename ρ unit ta hinj]

/-- non-vacuity on the two layouts of the cherry `(x:3,y:4);` -/
example : dmRecursive exA = dmRecursive exB ∧ dmRose exA 1 = dmRose exB 1 :=
  ⟨dmRecursive_depends_only_on_tree exA_ok.1 exB_ok.1 exA_ok.2 exB_ok.2 exA_abs exB_abs ex_erase,
   dmRose_depends_only_on_tree exA_ok.1 exB_ok.1 exA_ok.2 exB_ok.2 exA_abs exB_abs ex_erase 1⟩

end AR
