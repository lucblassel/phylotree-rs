import PhyloModel.Arena.PruneBTop
namespace AR

/-- `hD` is met by `D = a.size` (`depth_le_size`: pigeonhole on the root path) -/
theorem prune_inv (a : Arena) (x : Nat) (hia : Inv a) (hta : Tomb a) (hx : live a x) (D : Nat)
    (hD : ∀ i, live a i → (nd a i).depth ≤ D) :
    ∃ a1, pruneF (D + 1) a x = some a1 ∧ Inv a1 ∧ Tomb a1 ∧ a1.size = a.size ∧ ¬ live a1 x := by
  obtain ⟨a1, h1, ok⟩ := prune_main2 (D + 1) D a x hia hta hx hD (by omega)
  exact ⟨a1, h1, ok.inv, ok.tomb, ok.size, ok.gone x 0 (BelowK.refl hx)⟩

end AR
