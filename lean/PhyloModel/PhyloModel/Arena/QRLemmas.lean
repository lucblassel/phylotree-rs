import PhyloModel.Arena.Query
namespace AR
@[simp] theorem QR.bind_ok {α β : Type} (v : α) (f : α → QR β) : (QR.ok v >>= f) = f v := rfl
@[simp] theorem QR.bind_err {α β : Type} (k : String) (f : α → QR β) : ((QR.err k : QR α) >>= f) = QR.err k := rfl
@[simp] theorem QR.bind_panic {α β : Type} (f : α → QR β) : ((QR.panic : QR α) >>= f) = QR.panic := rfl
@[simp] theorem QR.pure_eq {α : Type} (v : α) : (pure v : QR α) = QR.ok v := rfl
theorem QR.bind_eq_ok {α β : Type} (x : QR α) (f : α → QR β) (v : β) :
    (x >>= f) = .ok v ↔ ∃ u, x = .ok u ∧ f u = .ok v := by
  cases x <;> simp
theorem QR.bind_eq_err {α β : Type} (x : QR α) (f : α → QR β) (k : String) :
    (x >>= f) = .err k ↔ x = .err k ∨ ∃ u, x = .ok u ∧ f u = .err k := by
  cases x <;> simp

theorem QR.map_ok_iff {α β : Type} (x : QR α) (f : α → β) (q : β) :
    (x >>= fun v => pure (f v)) = QR.ok q ↔ ∃ v, x = .ok v ∧ q = f v := by
  rw [QR.bind_eq_ok]
  simp only [QR.pure_eq, QR.ok.injEq, eq_comm]

theorem QR.map_err_iff {α β : Type} (x : QR α) (f : α → β) (k : String) :
    (x >>= fun v => pure (f v)) = (QR.err k : QR β) ↔ x = .err k := by
  cases x <;> simp

theorem QR.map_panic_iff {α β : Type} (x : QR α) (f : α → β) :
    (x >>= fun v => pure (f v)) = (QR.panic : QR β) ↔ x = .panic := by
  cases x <;> simp

section
/-- two query results that fail alike and, where both succeed, carry `R`-related values -/
def QR.Rel {α β : Type} (R : α → β → Prop) : QR α → QR β → Prop
  | .ok a, .ok b => R a b
  | .err e, .err e' => e = e'
  | .panic, .panic => True
  | _, _ => False

variable {α β γ δ : Type} {R : α → β → Prop} {x : QR α} {y : QR β}

theorem QR.Rel.bind {S : γ → δ → Prop} {f : α → QR γ} {g : β → QR δ} (h : QR.Rel R x y)
    (hfg : ∀ a b, R a b → QR.Rel S (f a) (g b)) : QR.Rel S (x >>= f) (y >>= g) := by
  cases x <;> cases y <;> first | exact h.elim | exact hfg _ _ h | exact h

theorem QR.Rel.eq {x y : QR α} (h : QR.Rel Eq x y) : x = y := by
  cases x <;> cases y <;> first | exact h.elim | exact congrArg _ h | rfl

theorem QR.Rel.imp {R' : α → β → Prop} (h : QR.Rel R x y) (hi : ∀ a b, x = .ok a → y = .ok b → R a b → R' a b) :
    QR.Rel R' x y := by
  cases x <;> cases y <;> first | exact h.elim | exact hi _ _ rfl rfl h | exact h

/-- the form in which `Rel` is used: related results, continued by functions that agree on related values -/
theorem QR.Rel.bind_eq {f : α → QR γ} {g : β → QR γ} (h : QR.Rel R x y) (hfg : ∀ a b, R a b → f a = g b) :
    x >>= f = y >>= g :=
  (h.bind (S := Eq) fun a b r => by rw [hfg a b r]; cases g b <;> trivial).eq
end

theorem mapM_loop_ok {α β : Type} (f : α → QR β) (g : α → β) : ∀ (l : List α) (acc : List β),
    (∀ x ∈ l, f x = .ok (g x)) → List.mapM.loop f l acc = .ok (acc.reverse ++ l.map g)
  | [], acc, _ => by simp [List.mapM.loop]
  | x :: l, acc, h => by
    have hx := h x (by simp)
    have ih := mapM_loop_ok f g l (g x :: acc) (fun y hy => h y (by simp [hy]))
    simp only [List.mapM.loop, hx, QR.bind_ok, ih]
    simp

theorem mapM_ok {α β : Type} (f : α → QR β) (g : α → β) (l : List α) (h : ∀ x ∈ l, f x = .ok (g x)) :
    l.mapM f = .ok (l.map g) := by
  simpa [List.mapM] using mapM_loop_ok f g l [] h

theorem foldlM_congr {α β : Type} (f g : β → α → QR β) : ∀ (l : List α) (b : β),
    (∀ x ∈ l, ∀ b, f b x = g b x) → l.foldlM f b = l.foldlM g b
  | [], _, _ => rfl
  | x :: l, b, h => by
    rw [List.foldlM_cons, List.foldlM_cons, h x (by simp) b]
    congr 1
    funext b'
    exact foldlM_congr f g l b' (fun y hy => h y (by simp [hy]))

theorem isLive_eq_false {a : Arena} {i : Nat} (h : ¬ live a i) : isLive a i = false :=
  Bool.eq_false_iff.2 (fun hl => h ((isLive_iff a i).1 hl))

/-- `Iterator::max` is the library's `List.max?` -/
theorem maxOf_eq (l : List Int) : maxOf l = l.max? := by cases l <;> rfl

end AR
