import PhyloModel.Arena.DistInsert
import PhyloModel.Arena.CompressPost
/-! C11, `compress_node` / `compress`: splicing out a one-child non-root node `v` (its two branch lengths
    added) keeps the length of the connecting path between any two live nodes other than `v`; the edge count
    can only drop.  Read backwards, the step puts `v` back on the parent edge of its child (`Inserted`,
    `Arena/DistInsert`).  Lifted to `compress`: every pair of live nodes that are not themselves spliced out — in
    particular every pair of tips — keeps its path length. -/
namespace AR

/-! ### lists in which `v` is always followed by `c` and `c` always preceded by `v` -/

inductive Linked (v c : Nat) : List Nat → Prop where
  | nil : Linked v c []
  | other {z l} : z ≠ v → z ≠ c → Linked v c l → Linked v c (z :: l)
  | pair {l} : Linked v c l → Linked v c (v :: c :: l)

theorem Linked.append {v c : Nat} {l1 l2 : List Nat} (h1 : Linked v c l1) (h2 : Linked v c l2) :
    Linked v c (l1 ++ l2) := by
  induction h1 with
  | nil => simpa using h2
  | other hz1 hz2 _ ih => exact Linked.other hz1 hz2 ih
  | pair _ ih => exact Linked.pair ih

theorem Linked.suffix {v c : Nat} {L : List Nat} (h : Linked v c L) :
    ∀ (C X : List Nat), L = C ++ X → X.head? ≠ some c → Linked v c X := by
  induction h with
  | nil => intro C X e _; obtain ⟨-, rfl⟩ := List.append_eq_nil_iff.1 e.symm; exact .nil
  | other hz1 hz2 h ih =>
    intro C X e hh
    cases C with
    | nil => subst e; exact .other hz1 hz2 h
    | cons _ C => exact ih C X (List.cons.inj e).2 hh
  | pair h ih =>
    intro C X e hh
    match C, e with
    | [], e => subst e; exact .pair h
    | [_], e => cases e; exact absurd rfl hh
    | _ :: _ :: C, e => exact ih C X (List.cons.inj (List.cons.inj e).2).2 hh

/-! ### what one successful `compress_node v` does to the fields `get_distance` reads -/

structure Spliced (a a' : Arena) (v p c : Nat) : Prop where
  lv : live a v
  par : (nd a v).parent = some p
  kids : (nd a v).children = [c]
  dead : ¬ live a' v
  liveo : ∀ i, i ≠ v → (live a' i ↔ live a i)
  parc : (nd a' c).parent = some p
  paro : ∀ i, i ≠ v → i ≠ c → (nd a' i).parent = (nd a i).parent
  pec : sumLen (nd a v).pedge (nd a c).pedge = some (nd a' c).pedge
  peo : ∀ i, i ≠ v → i ≠ c → (nd a' i).pedge = (nd a i).pedge

theorem compressNode_spliced {a : Arena} (g : Good a) (v : Nat) :
    (∃ a' p c, compressNode a v = (a', .ok none) ∧ Good a' ∧ Spliced a a' v p c) ∨
    ∃ k, compressNode a v = (a, .err k) := by
  rcases compressNode_cases v g with ⟨h1, k, h2⟩ | ⟨p, c, e, a', hlv, hpar, hch, he, g', s, h⟩
  · exact .inr ⟨k, Prod.ext h1 h2⟩
  · have hcv : c ≠ v := (splice_ne g.1 hlv hpar hch).2.2.2.1.symm
    refine .inl ⟨a', p, c, h, g', hlv, hpar, hch, fun hl => ((s.live_iff v).1 hl).2 rfl,
      fun i hi => (s.live_iff i).trans (and_iff_left hi), ?_, ?_, ?_, ?_⟩
    · rw [s.parent, if_neg hcv, if_pos rfl]
    · intro i h1 h2; rw [s.parent, if_neg h1, if_neg h2]
    · rw [s.pedge, if_neg hcv, if_pos rfl]; exact he
    · intro i h1 h2; rw [s.pedge, if_neg h1, if_neg h2]

section
variable {a a' : Arena} {v p c : Nat}

theorem Spliced.facts (s : Spliced a a' v p c) (hinv : Inv a) :
    live a c ∧ (nd a c).parent = some v ∧ live a p ∧ v ≠ c ∧ v ≠ p ∧ p ≠ c := by
  obtain ⟨hlp, hlc, hpc, hvc, hvp⟩ := splice_ne hinv s.lv s.par s.kids
  exact ⟨hlc, (hinv.child_ok v c s.lv (by simp [s.kids])).2.1, hlp, hvc, hvp, hpc⟩

/-- a root path of the old arena is linked; for `v` itself, the path down to its parent -/
theorem Spliced.linked (s : Spliced a a' v p c) (hinv : Inv a) {l : List Nat} {x : Nat} (h : Path a l x) :
    (x ≠ v → Linked v c l) ∧ (x = v → ∃ l', l = l' ++ [v] ∧ Linked v c l') := by
  obtain ⟨_, hcpar, _, hvc, hvp, _⟩ := s.facts hinv
  induction h with
  | @root x hl hp =>
    have hx : x ≠ v := by rintro rfl; rw [s.par] at hp; cases hp
    have hxc : x ≠ c := by rintro rfl; rw [hcpar] at hp; cases hp
    exact ⟨fun _ => .other hx hxc .nil, fun h => absurd h hx⟩
  | @step l p0 c0 hpath hl hp ih =>
    by_cases h1 : c0 = v
    · subst h1
      obtain rfl : p = p0 := Option.some.inj (s.par.symm.trans hp)
      exact ⟨fun h => absurd rfl h, fun _ => ⟨l, rfl, ih.1 (Ne.symm hvp)⟩⟩
    · refine ⟨fun _ => ?_, fun h => absurd h h1⟩
      by_cases h2 : c0 = c
      · subst h2
        obtain rfl : v = p0 := Option.some.inj (hcpar.symm.trans hp)
        obtain ⟨l', rfl, hl'⟩ := ih.2 rfl
        exact List.append_assoc .. ▸ hl'.append (.pair .nil)
      · -- a child of `v` is `c`
        have h3 : p0 ≠ v := fun e => h2 (by
          have := (hinv.parent_ok c0 p0 hl hp).2
          rwa [e, s.kids, List.mem_singleton] at this)
        exact (ih.1 h3).append (.other h1 h2 .nil)

theorem sumLen_optAdd {x y : Option Int} {z : Option Int} (h : sumLen x y = some z) : optAdd x y = z := by
  cases x <;> cases y <;> simp only [sumLen] at h <;> cases h <;> rfl

/-- read backwards: `a` is `a'` with `v` put back between `p` and `c` -/
theorem Spliced.inserted (s : Spliced a a' v p c) (hinv : Inv a) : Inserted a' a p v c c := by
  have hcpar := (s.facts hinv).2.1
  have hv : ∀ i, live a' i → i ≠ v := fun i hl e => s.dead (e ▸ hl)
  refine ⟨fun i hl => ⟨(s.liveo i (hv i hl)).1 hl, hv i hl⟩, s.lv, s.par, ?_, ?_, ?_, ?_, fun h => absurd rfl h⟩
  · intro u hu; obtain rfl := hu.elim id id; exact ⟨s.parc, hcpar⟩
  · intro i hl hi; exact (s.paro i (hv i hl) fun e => hi (.inl e)).symm
  · intro u hu; obtain rfl := hu.elim id id; exact sumLen_optAdd s.pec
  · intro i hi hc; exact (s.peo i hi fun e => hc (.inl e)).symm

end

/-- `compress_node v` succeeded: any two distinct live nodes other than `v` keep their path length -/
theorem compressNode_sameLen {a a' : Arena} {v : Nat} {o : Option Nat} (g : Good a)
    (h : compressNode a v = (a', .ok o)) {x y : Nat} (hlx : live a x) (hly : live a y) (hxv : x ≠ v)
    (hyv : y ≠ v) (hxy : x ≠ y) : SameLen (· ≥ ·) a a' x y := by
  rcases compressNode_spliced g v with ⟨a1, p, c, e, g', s⟩ | ⟨k, e⟩ <;> rw [e] at h <;> cases h
  exact ((s.inserted g.1).sameLen g' g.1.toW ((s.liveo x hxv).2 hlx) ((s.liveo y hyv).2 hly) hxy).symm

/-! ### the loop: `compress` can stop half-way (a one-child node with only one of its two lengths present is
    refused, `MissingBranchLengths`), leaving the nodes before it spliced out -/

theorem compressLoop_cons {a : Arena} (g : Good a) (v : Nat) (vs : List Nat) :
    (∃ a1 p c, compressNode a v = (a1, .ok none) ∧ Spliced a a1 v p c ∧ Good a1 ∧
      compressLoop (v :: vs) a = compressLoop vs a1) ∨
    ∃ k, compressLoop (v :: vs) a = (a, .err k) := by
  rcases compressNode_spliced g v with ⟨a1, p, c, e, g1, s⟩ | ⟨k, e⟩
  · exact .inl ⟨a1, p, c, e, s, g1, by rw [compressLoop, e]⟩
  · exact .inr ⟨k, by rw [compressLoop, e]⟩

theorem compressLoop_any : ∀ (vs : List Nat) {a : Arena}, Good a →
    (∀ i, IsTip (compressLoop vs a).1 i ↔ IsTip a i) ∧
    ∀ (x y : Nat), live a x → live a y → x ∉ vs → y ∉ vs → x ≠ y →
      SameLen (· ≥ ·) a (compressLoop vs a).1 x y
  | [], a, g => ⟨fun _ => Iff.rfl, fun x y hlx hly _ _ hxy => SameLen.refl (R := (· ≥ ·)) Nat.le_refl g hlx hly hxy⟩
  | v :: vs, a, g => by
    rcases compressLoop_cons g v vs with ⟨a1, p, c, hcn, s, g1, e⟩ | ⟨k, e⟩ <;> rw [e]
    · obtain ⟨t1, s1⟩ := compressLoop_any vs g1
      refine ⟨fun i => (t1 i).trans ((compressNode_step g hcn).2 i), ?_⟩
      intro x y hlx hly hx hy hxy
      rw [List.mem_cons, not_or] at hx hy
      exact SameLen.trans (R := (· ≥ ·)) (fun h1 h2 => Nat.le_trans h2 h1) hxy (compressNode_sameLen g hcn hlx hly hx.1 hy.1 hxy)
        (fun l1 l2 => s1 x y l1 l2 hx.2 hy.2 hxy)
    · exact ⟨fun _ => Iff.rfl, fun x y hlx hly _ _ hxy => SameLen.refl (R := (· ≥ ·)) Nat.le_refl g hlx hly hxy⟩

theorem compressLoop_sub : ∀ (vs : List Nat) {a : Arena}, Good a →
    ∀ i, live (compressLoop vs a).1 i → live a i
  | [], _, _, _, h => h
  | v :: vs, a, g, i, h => by
    rcases compressLoop_cons g v vs with ⟨a1, p, c, _, sp, g1, e⟩ | ⟨k, e⟩ <;> rw [e] at h
    · have h1 := compressLoop_sub vs g1 i h
      by_cases hiv : i = v
      · subst hiv; exact sp.lv
      · exact (sp.liveo i hiv).1 h1
    · exact h

theorem compressLoop_outcome : ∀ (vs : List Nat) {a : Arena}, Good a →
    (∃ o, (compressLoop vs a).2 = .ok o) ∨ ∃ k, (compressLoop vs a).2 = .err k
  | [], _, _ => Or.inl ⟨none, rfl⟩
  | v :: vs, a, g => by
    rcases compressLoop_cons g v vs with ⟨a1, _, _, _, _, g1, e⟩ | ⟨k, e⟩ <;> rw [e]
    · exact compressLoop_outcome vs g1
    · exact .inr ⟨k, rfl⟩

theorem IsTip.not_unary {a : Arena} {x : Nat} (h : IsTip a x) : ¬ Unary a x := by
  intro hu; have := hu.2.2; rw [h.2] at this; simp at this

/-- **`compress` keeps every path length** between live nodes that are not themselves one-child non-root
    nodes (those are exactly the nodes `compress` removes) -/
theorem compress_sameLen {a a' : Arena} {o : Option Nat} (g : Good a) (h : compress a = (a', .ok o))
    {x y : Nat} (hlx : live a x) (hly : live a y) (hx : ¬ Unary a x) (hy : ¬ Unary a y) (hxy : x ≠ y) :
    SameLen (· ≥ ·) a a' x y := by
  have := (compressLoop_any (toCompress a) g).2 x y hlx hly (fun hm => hx ((mem_toCompress a x).1 hm))
    (fun hm => hy ((mem_toCompress a y).1 hm)) hxy
  rwa [show compressLoop (toCompress a) a = (a', .ok o) from h] at this

/-- **leaf-to-leaf path lengths are unchanged by `compress`, whatever its outcome** (also when it stops
    half-way with an error): same tips, same length between any two of them -/
theorem compress_tip_distances_any {a : Arena} (g : Good a) :
    (∀ i, IsTip (compress a).1 i ↔ IsTip a i) ∧
    ∀ x y, IsTip a x → IsTip a y → x ≠ y →
      ∃ d n n', distance a x y = .ok (d, n) ∧ distance (compress a).1 x y = .ok (d, n') ∧ n' ≤ n := by
  obtain ⟨t1, s1⟩ := compressLoop_any (toCompress a) g
  refine ⟨t1, ?_⟩
  exact fun x y hx hy hxy => s1 x y hx.1 hy.1
    (fun hm => hx.not_unary ((mem_toCompress a x).1 hm)) (fun hm => hy.not_unary ((mem_toCompress a y).1 hm)) hxy

/-- **leaf-to-leaf path lengths are unchanged by `compress`**: the tips after are the tips before, and for
    any two distinct tips `get_distance` answers before and after with the same length; the edge count
    does not grow -/
theorem compress_tip_distances {a a' : Arena} {o : Option Nat} (g : Good a) (h : compress a = (a', .ok o)) :
    (∀ i, IsTip a' i ↔ IsTip a i) ∧
    ∀ x y, IsTip a x → IsTip a y → x ≠ y →
      ∃ d n n', distance a x y = .ok (d, n) ∧ distance a' x y = .ok (d, n') ∧ n' ≤ n := by
  have := compress_tip_distances_any g
  rwa [h] at this

/-! ### non-vacuity: root 0 with the chain 0 - 1 - 2 (node 1 has one child), tips 3, 4 below 2 and tip 5 below 0 -/

def exC : Arena := runOps #[] [.add none, .addChild 0 (some 2) none, .addChild 1 (some 3) none,
  .addChild 2 (some 1) none, .addChild 2 (some 5) none, .addChild 0 (some 7) none]

theorem exC_good : Good exC := runOps_good _ empty_good

theorem exC_compress : compress exC = ((compress exC).1, .ok none) :=
  Prod.ext rfl (by decide)

theorem exC_tips : IsTip exC 3 ∧ IsTip exC 5 := by
  unfold IsTip live; decide

/-- the hypotheses of `compress_tip_distances` hold for `exC` and the tips 3, 5; the common length is 13,
    over 4 edges before and 3 edges after -/
example : distance exC 3 5 = .ok (some 13, 4) ∧ distance (compress exC).1 3 5 = .ok (some 13, 3) :=
  ⟨distIs_eq (by decide), distIs_eq (by decide)⟩

example : ∃ d n n', distance exC 3 5 = .ok (d, n) ∧ distance (compress exC).1 3 5 = .ok (d, n') ∧ n' ≤ n :=
  (compress_tip_distances exC_good exC_compress).2 3 5 exC_tips.1 exC_tips.2 (by decide)

/-- a tree on which `compress` stops half-way: node 1 is spliced out, then node 5 (length 7 above, no length
    below) is refused; the tips 3 and 6 keep their (missing) length, over one edge fewer -/
def exC2 : Arena := runOps #[] [.add none, .addChild 0 (some 2) none, .addChild 1 (some 3) none,
  .addChild 2 (some 1) none, .addChild 2 (some 5) none, .addChild 0 (some 7) none, .addChild 5 none none]

example : (compress exC2).2 = .err "MissingBranchLengths" ∧
    distance exC2 3 6 = .ok (none, 5) ∧ distance (compress exC2).1 3 6 = .ok (none, 4) ∧
    distance exC2 3 4 = .ok (some 6, 2) ∧ distance (compress exC2).1 3 4 = .ok (some 6, 2) :=
  ⟨by decide, distIs_eq (by decide), distIs_eq (by decide), distIs_eq (by decide), distIs_eq (by decide)⟩

end AR
