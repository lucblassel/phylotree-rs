import PhyloModel.Arena.CompressPost
/-! Postcondition and frame of `resolve`: for every outcome of its random choices, when it returns no node
    has more than two children, and the set of tips is what it was. -/
namespace AR

/-- the nodes `Tree::resolve` collects -/
def Wide (a : Arena) (i : Nat) : Prop := 2 < (nd a i).children.length

/-- one round: no new node with more than two children, `q` has one child fewer, the tips are the same -/
theorem resolveRound_step {a a' : Arena} {q x y : Nat} (g : Good a) (h : resolveRound a q x y = some a') :
    (∀ i, Wide a' i → Wide a i) ∧ (nd a' q).children.length + 1 = (nd a q).children.length ∧
      (∀ i, IsTip a' i ↔ IsTip a i) := by
  obtain ⟨hlq, hxy, hmx, hmy, _, s⟩ := resolveRound_ok g h
  have hqw : q ≠ a.size := Nat.ne_of_lt hlq.1
  have hmy' : y ∈ (nd a q).children.erase x := ((g.1.nodup q).mem_erase_iff).2 ⟨Ne.symm hxy, hmy⟩
  have hqlen : (nd a' q).children.length + 1 = (nd a q).children.length := by
    rw [s.children, if_neg hqw, if_pos rfl, List.length_append, List.length_erase_of_mem hmy',
      List.length_erase_of_mem hmx]
    have := List.length_erase_of_mem hmx
    have := List.length_pos_of_mem hmy'
    simp; omega
  refine ⟨fun i hw => ?_, hqlen, fun i => ?_⟩
  · unfold Wide at hw ⊢
    by_cases hq : i = q
    · rw [hq] at hw ⊢; omega
    · rw [s.children, if_neg hq] at hw
      split at hw
      · exact absurd hw (Nat.lt_irrefl 2)
      · exact hw
  · rw [IsTip, IsTip, s.live_iff, s.children]
    by_cases h0 : i = a.size
    · subst h0
      simp only [↓reduceIte, reduceCtorEq, and_false, false_iff, not_and]
      exact fun hl => absurd hl.1 (Nat.lt_irrefl _)
    · by_cases h1 : i = q
      · subst h1
        simp [h0, List.ne_nil_of_mem hmx]
      · simp [h0, h1]

/-- the inner loop on `q`: it creates no node with more than two children and stops when `q` is none -/
theorem resolveNode_post : ∀ (f : Nat) {a : Arena} (q : Nat) (picks : List (Nat × Nat)) {a' : Arena}
    {rest : List (Nat × Nat)}, Good a → resolveNode f a q picks = some (a', rest) →
    (∀ i, Wide a' i → Wide a i ∧ i ≠ q) ∧ (∀ i, IsTip a' i ↔ IsTip a i)
  | 0, _, _, _, _, _, _, h => by simp [resolveNode] at h
  | f + 1, a, q, picks, a', rest, g, h => by
    unfold resolveNode at h
    split at h
    · cases h
    next x y rest' =>
      split at h
      · cases h
      next a1 hr =>
        obtain ⟨w1, w2, w3⟩ := resolveRound_step g hr
        simp only at h
        split at h
        next hle =>
          cases h
          exact ⟨fun i hw => ⟨w1 i hw, fun e => by rw [e, Wide] at hw; omega⟩, w3⟩
        next =>
          obtain ⟨t1, t3⟩ := resolveNode_post f q rest' (resolveRound_good q x y g hr) h
          exact ⟨fun i hw => ⟨w1 i (t1 i hw).1, (t1 i hw).2⟩, fun i => (t3 i).trans (w3 i)⟩

theorem resolveLoop_post : ∀ (qs : List Nat) {a : Arena} (picks : List (Nat × Nat)) {a' : Arena}
    {rest : List (Nat × Nat)}, Good a → resolveLoop qs a picks = some (a', rest) →
    (∀ i, Wide a' i → Wide a i ∧ i ∉ qs) ∧ (∀ i, IsTip a' i ↔ IsTip a i)
  | [], a, picks, a', rest, _, h => by
    simp [resolveLoop] at h; obtain ⟨rfl, _⟩ := h
    exact ⟨fun i hw => ⟨hw, List.not_mem_nil⟩, fun _ => Iff.rfl⟩
  | q :: qs, a, picks, a', rest, g, h => by
    unfold resolveLoop at h
    split at h
    · cases h
    next a1 rest1 hn =>
      obtain ⟨t1, t3⟩ := resolveNode_post _ q picks g hn
      obtain ⟨r1, r2⟩ := resolveLoop_post qs rest1 (resolveNode_good _ q picks g hn) h
      exact ⟨fun i hw => ⟨(t1 i (r1 i hw).1).1, by
          rw [List.mem_cons, not_or]; exact ⟨(t1 i (r1 i hw).1).2, (r1 i hw).2⟩⟩,
        fun i => (r2 i).trans (t3 i)⟩

/-- **postcondition of `resolve`**, for every outcome of its random choices: no node has more than two
    children, and the tips are exactly the tips before -/
theorem resolve_post {a a' : Arena} (picks : List (Nat × Nat)) (g : Good a) (h : resolve a picks = some a') :
    (∀ i, (nd a' i).children.length ≤ 2) ∧ (∀ i, IsTip a' i ↔ IsTip a i) := by
  unfold resolve at h
  split at h
  next a1 hl =>
    cases h
    obtain ⟨r1, r2⟩ := resolveLoop_post _ picks g hl
    refine ⟨fun i => Nat.le_of_not_lt fun hw => ?_, r2⟩
    -- such a node had more than two children at the start and is in range (a slot out of range reads as a blank tombstone): it was listed
    obtain ⟨hwa, hn⟩ := r1 i hw
    refine hn (List.mem_filter.2 ⟨List.mem_range.2 (Nat.lt_of_not_le fun hge => ?_), decide_eq_true hwa⟩)
    rw [Wide, nd_dead a i hge] at hwa
    exact absurd hwa (by decide)
  · cases h

end AR
