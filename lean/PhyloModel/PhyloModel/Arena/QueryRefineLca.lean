import PhyloModel.Arena.QueryRefineDistance
/-! # `get_common_ancestor` as a function of the abstract tree

Nodes are addressed by pre-order position.  `lcaNL T i j` is the position of the deepest common ancestor of
the `i`-th and `j`-th node of `T`: the node whose root path is the longest common prefix of their root paths. -/
namespace AR

def lcaNL (T : RoseNL) (i j : Nat) : Nat :=
  let P := nodePathsNL T
  P.idxOf ((P.getD i []).take (common (P.getD i []) (P.getD j [])))

def commonIds (qx qy : List Nat) : List Nat := qx.take (cursor qx qy)

theorem commonIds_cons (x y : Nat) (xs ys : List Nat) :
    commonIds (x :: xs) (y :: ys) = if x = y then x :: commonIds xs ys else [] := by
  rw [commonIds, cursor]
  split <;> rfl

/-- the node the arena code reads off the two root paths is the end of their common prefix -/
theorem getD_cursor : ∀ (qx qy : List Nat) (r : Nat),
    (r :: qx).getD (cursor qx qy) 0 = endOf r (commonIds qx qy)
  | [], qy, r => by simp [cursor, commonIds, endOf]
  | x :: xs, [], r => by simp [cursor, commonIds, endOf]
  | x :: xs, y :: ys, r => by
    rw [commonIds_cons]
    by_cases h : x = y
    · have := getD_cursor xs ys x
      simp only [cursor, h, ↓reduceIte, endOf] at this ⊢
      rw [← this]
      simp
    · simp [cursor, h, endOf]

theorem commonAncestor_paths {a : Arena} {rk : Nat → Nat} (w : W a rk) {r x y : Nat} {qx qy : List Nat}
    (hx : Path a (r :: qx) x) (hy : Path a (r :: qy) y) (hne : x ≠ y) :
    commonAncestor a x y = .ok (endOf r (commonIds qx qy)) := by
  simp only [commonAncestor, hne, ↓reduceIte, pathFromRoot_eq w hx, pathFromRoot_eq w hy, QR.bind_ok, cursor,
    Nat.add_one_ne_zero, Nat.add_sub_cancel, getD_cursor]

mutual
theorem nodeSteps_prefix : ∀ (t : RTI) (s p : List (Nat × Nat)), s ∈ nodeSteps t → p <+: s → p ∈ nodeSteps t
  | .node j ks, s, p, hs, hp => by
    simp only [nodeSteps, List.mem_cons] at hs ⊢
    rcases hs with rfl | hs
    · left; exact List.prefix_nil.mp hp
    · cases p with
      | nil => left; rfl
      | cons x p' => right; exact nodeStepsL_prefix 0 ks s (x :: p') hs hp (by simp)
theorem nodeStepsL_prefix : ∀ (j : Nat) (ts : List RTI) (s p : List (Nat × Nat)), s ∈ nodeStepsL j ts →
    p <+: s → p ≠ [] → p ∈ nodeStepsL j ts
  | _, [], s, _, hs, _, _ => by simp [nodeStepsL] at hs
  | j, t :: ts, s, p, hs, hp, hne => by
    simp only [nodeStepsL, List.mem_append, List.mem_map] at hs ⊢
    rcases hs with ⟨s', hs', rfl⟩ | hs
    · left
      cases p with
      | nil => exact absurd rfl hne
      | cons x p' =>
        rw [List.cons_prefix_cons] at hp
        exact ⟨p', nodeSteps_prefix t s' p' hs' hp.2, by rw [hp.1]⟩
    · right; exact nodeStepsL_prefix (j + 1) ts s p hs hp hne
end

theorem coh_inj_idx : ∀ (s s' : List (Nat × Nat)), Coh s s' → s.map (·.1) = s'.map (·.1) → s = s'
  | [], [], _, _ => rfl
  | [], _ :: _, _, h => by simp at h
  | _ :: _, [], _, h => by simp at h
  | x :: xs, y :: ys, hc, h => by
    simp only [Coh] at hc
    simp only [List.map_cons, List.cons.injEq] at h
    have h2 := hc.1.1 h.1
    rw [coh_inj_idx xs ys (hc.2 h.1) h.2, Prod.ext h.1 h2]

theorem coh_inj_ids : ∀ (s s' : List (Nat × Nat)), Coh s s' → idsOf s = idsOf s' → s = s'
  | [], [], _, _ => rfl
  | [], _ :: _, _, h => by simp [idsOf] at h
  | _ :: _, [], _, h => by simp [idsOf] at h
  | x :: xs, y :: ys, hc, h => by
    simp only [Coh] at hc
    simp only [idsOf, List.map_cons, List.cons.injEq] at h
    have h1 := hc.1.2 h.1
    rw [coh_inj_ids xs ys (hc.2 h1) h.2, Prod.ext h1 h.1]

/-- **`get_common_ancestor` of any two nodes** of the tree, addressed by their pre-order positions, is the node
    at the textbook position -/
theorem commonAncestor_refines {a : Arena} (g : Good a) (h1 : AtMostOneRoot a) {t : Rose} (h : absRoot a = .ok t)
    (i j x y : Nat) (hx : (idsR t)[i]? = some x) (hy : (idsR t)[j]? = some y) :
    ∃ m, (idsR t)[lcaNL (erase t) i j]? = some m ∧ commonAncestor a x y = .ok m := by
  obtain ⟨r, t0, c⟩ := absRoot_ctx g.1 h1 h
  have w := g.1.toW
  have hroot : Path a [r] r := Path.root c.is_root.1 c.is_root.2
  obtain ⟨sx, hsx, hmx, rfl⟩ := c.nodeSteps_getElem? i x hx
  obtain ⟨sy, hsy, hmy, rfl⟩ := c.nodeSteps_getElem? j y hy
  have px := nodeSteps_path w t0 r [r] c.rep hroot sx hmx
  have py := nodeSteps_path w t0 r [r] c.rep hroot sy hmy
  have hcoh := nodeSteps_coh w t0 r c.rep sx hmx sy hmy
  have hcp : sx.take (common sx sy) ∈ nodeSteps t0 := nodeSteps_prefix t0 sx _ hmx (List.take_prefix _ _)
  -- position of the common prefix
  have hpos : lcaNL (erase t) i j = (nodeSteps t0).idxOf (sx.take (common sx sy)) := by
    rw [c.dec, ← dec]
    simp only [lcaNL, nodePathsNL_dec, List.getD_eq_getElem?_getD, List.getElem?_map, hsx, hsy, Option.map_some,
      Option.getD_some, common_map, ← List.map_take]
    refine idxOf_map_inj (fun s => s.map (stepF a)) (nodeSteps t0) (sx.take (common sx sy)) ?_
    intro s' hs' he
    apply coh_inj_idx s' _ (nodeSteps_coh w t0 r c.rep s' hs' _ hcp)
    have := congrArg (List.map (·.1)) he
    simpa [List.map_map, Function.comp_def, stepF] using this
  refine ⟨endOf r (idsOf (sx.take (common sx sy))), ?_, ?_⟩
  · rw [hpos, c.dec, idsR_decorate, ← nodeSteps_ends t0, List.getElem?_map, getElem?_idxOf' _ _ hcp, c.t0_id]
    rfl
  · by_cases hne : endOf r (idsOf sx) = endOf r (idsOf sy)
    · have := Path.unique px (hne ▸ py)
      simp only [List.cons_append, List.nil_append, List.cons.injEq, true_and] at this
      have hs := coh_inj_ids sx sy hcoh this
      subst hs
      simp [commonAncestor, common_self]
    · have px' : Path a (r :: idsOf sx) (endOf r (idsOf sx)) := px
      have py' : Path a (r :: idsOf sy) (endOf r (idsOf sy)) := py
      rw [commonAncestor_paths w px' py' hne, commonIds, ← coh_common sx sy hcoh, idsOf, idsOf, List.map_take]

/-- C04 corollary: in two arenas holding the same erased tree, the common ancestors of the nodes at the same
    pre-order positions sit at the same pre-order position -/
theorem commonAncestor_depends_only_on_tree {a b : Arena} (ga : Good a) (gb : Good b) (ha : AtMostOneRoot a)
    (hb : AtMostOneRoot b) {ta tb : Rose} (hta : absRoot a = .ok ta) (htb : absRoot b = .ok tb)
    (he : erase ta = erase tb) (i j xa ya xb yb : Nat) (h1 : (idsR ta)[i]? = some xa)
    (h2 : (idsR ta)[j]? = some ya) (h3 : (idsR tb)[i]? = some xb) (h4 : (idsR tb)[j]? = some yb) :
    ∃ (p ma mb : Nat), (idsR ta)[p]? = some ma ∧ (idsR tb)[p]? = some mb ∧
      commonAncestor a xa ya = .ok ma ∧ commonAncestor b xb yb = .ok mb := by
  obtain ⟨ma, k1, k2⟩ := commonAncestor_refines ga ha hta i j xa ya h1 h2
  obtain ⟨mb, k3, k4⟩ := commonAncestor_refines gb hb htb i j xb yb h3 h4
  rw [← he] at k3
  exact ⟨_, ma, mb, k1, k3, k2, k4⟩
end AR
