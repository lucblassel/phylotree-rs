import PhyloModel.Arena.QueryRefineBinary
/-! `sackin` and `colless` as functions of the abstract tree -/
namespace AR

def checkRBR (t : Rose) : QR Unit :=
  if !isRootedR t then .err "IsNotRooted" else if !isBinaryR t then .err "IsNotBinary" else .ok ()

theorem checkRootedBinary_refines {a : Arena} (g : Good a) (h1 : AtMostOneRoot a) {t : Rose}
    (h : absRoot a = .ok t) : checkRootedBinary a = checkRBR t := by
  simp only [checkRootedBinary, isRooted_refines g h1 h, isBinary_refines g h1 h, QR.bind_ok, checkRBR]
  cases isRootedR t <;> cases isBinaryR t <;> rfl

theorem Rep.tipp_eq {a : Arena} {i : Nat} {t : RTI} (h : Rep a i t) : tipp a i = t.kids.isEmpty := by
  rw [tipp, ← h.kids_ids]
  cases t.kids <;> rfl

mutual
theorem tipDepthSum_pre (a : Arena) : ∀ (t : RTI) (i : Nat), Rep a i t →
    C12.tipDepthSum a t = (((pre t).filter (tipp a)).map (fun i => (nd a i).depth)).sum
  | .node j [], i, h => by
    have ht : tipp a i = true := h.tipp_eq
    obtain rfl : j = i := h.id_eq
    simp [C12.tipDepthSum, pre, preL, ht]
  | .node j (k :: ks), i, h => by
    have ht : tipp a i = false := h.tipp_eq
    obtain rfl : j = i := h.id_eq
    rw [C12.tipDepthSum, pre, List.filter_cons, ht, tipDepthSumL_pre a (k :: ks) _ h.kids_rep]
    simp
theorem tipDepthSumL_pre (a : Arena) : ∀ (ts : List RTI) (cs : List Nat), RepL a cs ts →
    C12.tipDepthSumL a ts = (((preL ts).filter (tipp a)).map (fun i => (nd a i).depth)).sum
  | [], _, _ => by simp [C12.tipDepthSumL, preL]
  | t :: ts, cs, h => by
    obtain ⟨c, cs, rfl, h⟩ := h.cons_inv
    rw [C12.tipDepthSumL, tipDepthSum_pre a t c h.1, tipDepthSumL_pre a ts cs h.2, preL]
    simp
end

mutual
theorem shapeNL_dec (a : Arena) : ∀ t : RTI, shapeNL (dec a t) = C12.shape t
  | .node i ks => by
    have := shapeNLL_dec a ks
    simp only [dec, decorate, erase, shapeNL, C12.shape] at this ⊢
    rw [this]
theorem shapeNLL_dec (a : Arena) : ∀ ts : List RTI, shapeNLL (eraseL (decorateL a ts)) = C12.shape.shapeL ts
  | [] => by simp [decorateL, eraseL, shapeNLL, C12.shape.shapeL]
  | t :: ts => by
    have h1 := shapeNL_dec a t
    have h2 := shapeNLL_dec a ts
    simp only [dec] at h1
    simp only [decorateL, eraseL, shapeNLL, C12.shape.shapeL, h1, h2]
end

/-- `sackin`: refused on unrooted / non-binary trees, otherwise the textbook Sackin index of the tree.  The
    code adds up CACHED depths of the tips; under the invariant these are the edge counts to the root. -/
theorem sackin_refines {a : Arena} (g : Good a) (h1 : AtMostOneRoot a) {t : Rose} (h : absRoot a = .ok t) :
    sackin a = (do checkRBR t; pure (sackinR t)) := by
  obtain ⟨r, t0, c⟩ := absRoot_ctx g.1 h1 h
  simp only [sackin, checkRootedBinary_refines g h1 h]
  congr 1
  funext _
  congr 1
  rw [((leaves_perm_ctx c).map _).sum_nat, ← tipDepthSum_pre a t0 r c.rep,
    C12.sackin_is_textbook a g.1 t0 r c.rep c.is_root.2, c.dec, sackinR, sackinNL, ← dec, shapeNL_dec]

def nTipsBelow (a : Arena) (c : Nat) : Nat :=
  match subtreeLeaves a c with
  | .ok l => l.length
  | _ => 0

theorem subtreeLeaves_rep {a : Arena} (hinv : Inv a) {c : Nat} {k : RTI} (h : Rep a c k) :
    subtreeLeaves a c = .ok ((pre k).filter (tipp a)) := by
  obtain ⟨t', ht', _, hh, _⟩ := rep_total hinv c h.is_live
  have := rep_unique a t' k c ht' h
  subst this
  simp only [subtreeLeaves, subtree, preorder_rep a t' _ c ht' hh, QR.ofOpt, QR.bind_ok, QR.pure_eq]
  rfl

theorem nTipsBelow_rep {a : Arena} (hinv : Inv a) {c : Nat} {k : RTI} (h : Rep a c k) :
    nTipsBelow a c = nLeavesNL (dec a k) := by
  simp only [nTipsBelow, subtreeLeaves_rep hinv h, nLeavesNL_dec h]

/-- the Colless term of a slot, textbook form -/
def collTermB (a : Arena) (i : Nat) : Nat :=
  match (nd a i).children with
  | [l, r] => absDiff (nTipsBelow a l) (nTipsBelow a r)
  | [l] => nTipsBelow a l
  | _ => 0

theorem collessTerm_dec {a : Arena} (hinv : Inv a) {s0 : RTI} (h : Rep a s0.id s0) :
    collessTermNL (dec a s0) = collTermB a s0.id := by
  have hk := h.kids_ids
  have hkid := h.kid
  simp only [collessTermNL, collTermB, dec_kids, ← hk]
  match hm : s0.kids with
  | [] => simp
  | [x] =>
    have hx := hkid x (by simp [hm])
    simp [nTipsBelow_rep hinv hx]
  | [x, y] =>
    have hx := hkid x (by simp [hm])
    have hy := hkid y (by simp [hm])
    simp [nTipsBelow_rep hinv hx, nTipsBelow_rep hinv hy]
  | x :: y :: z :: rest => simp

theorem collessNL_dec {a : Arena} (hinv : Inv a) {i : Nat} {t0 : RTI} (h : Rep a i t0) :
    collessNL (dec a t0) = ((pre t0).map (collTermB a)).sum := by
  have := list_map (a := a) (dec a) collessTermNL (collTermB a) (fun s0 h0 => collessTerm_dec hinv h0)
    (subs t0) (subs_rep t0 i h)
  rw [collessNL, nodesNL_dec, this, subs_ids]

/-- the term the executable `colless` computes for slot `i` -/
def collTermQ (a : Arena) (i : Nat) : QR Nat := do
  let kids := (nd a i).children
  let l ← subtreeLeaves a (kids.getD 0 0)
  let r ← if kids.length > 1 then subtreeLeaves a (kids.getD 1 0) else pure []
  pure (absDiff l.length r.length)

theorem colless_eq (a : Arena) : colless a = (do
    checkRootedBinary a
    let terms ← ((List.range a.size).filter (fun i => !(nd a i).children.isEmpty)).mapM (collTermQ a)
    pure terms.sum) := rfl

theorem absDiff_zero (n : Nat) : absDiff n 0 = n := by cases n <;> rfl

theorem collTermQ_ok {a : Arena} (hinv : Inv a) {s0 : RTI} (h : Rep a s0.id s0)
    (h2 : (nd a s0.id).children.length ≤ 2) (h0 : (nd a s0.id).children ≠ []) :
    collTermQ a s0.id = .ok (collTermB a s0.id) := by
  have hk := h.kids_ids
  have hkid := h.kid
  simp only [collTermQ, collTermB]
  rw [← hk] at h2 h0 ⊢
  -- by arity: the reads `getD 0 0`, `getD 1 0` of the program are the one or two kids `collTermB` matches on
  match hm : s0.kids with
  | [] => simp [hm] at h0
  | [x] =>
    have hx := hkid x (by simp [hm])
    simp [subtreeLeaves_rep hinv hx, nTipsBelow, absDiff_zero]
  | [x, y] =>
    have hx := hkid x (by simp [hm])
    have hy := hkid y (by simp [hm])
    simp [subtreeLeaves_rep hinv hx, subtreeLeaves_rep hinv hy, nTipsBelow]
  | x :: y :: z :: rest => simp [hm] at h2

theorem sum_map_filter_zero (l : List Nat) (p : Nat → Bool) (f : Nat → Nat) (h : ∀ x ∈ l, p x = false → f x = 0) :
    ((l.filter p).map f).sum = (l.map f).sum := by
  induction l with
  | nil => rfl
  | cons x l ih =>
    have ih' := ih (fun y hy => h y (by simp [hy]))
    simp only [List.filter_cons]
    cases hp : p x with
    | true => simp [ih']
    | false => simp [ih', h x (by simp) hp]

/-- `colless`: refused on unrooted / non-binary trees, otherwise the sum over the nodes of the tree of
    `|L − R|`, `L`, `R` the numbers of tips below the two kids (`R = 0` for a node with a single kid) -/
theorem colless_refines {a : Arena} (g : Good a) (h1 : AtMostOneRoot a) {t : Rose} (h : absRoot a = .ok t) :
    colless a = (do checkRBR t; pure (collessR t)) := by
  obtain ⟨r, t0, c⟩ := absRoot_ctx g.1 h1 h
  rw [colless_eq, checkRootedBinary_refines g h1 h]
  simp only [checkRBR]
  cases hr : isRootedR t with
  | false => rfl
  | true =>
  cases hb : isBinaryR t with
  | false => rfl
  | true =>
  simp only [Bool.not_true, Bool.false_eq_true, ↓reduceIte, QR.bind_ok, QR.pure_eq]
  -- arities from the guard
  have hbin := isBinaryNL_dec c
  have hb' : isBinaryNL (dec a t0) = true := by rw [← hb, c.dec, isBinaryR, dec]
  rw [hbin, Bool.and_eq_true, List.all_eq_true] at hb'
  have hr' : (nd a r).children.length = 2 := by
    have := isRooted_refines g h1 h
    rw [isRooted_ctx c, hr] at this
    simpa using this
  have harity : ∀ i ∈ pre t0, (nd a i).children.length ≤ 2 := by
    intro i hi
    rw [c.pre_eq, List.mem_cons] at hi
    rcases hi with rfl | hi
    · omega
    · simpa using hb'.2 i hi
  -- every scanned slot with children is a node of the tree
  have hperm := scan_perm' c g (fun i => !(nd a i).children.isEmpty) (fun i hc _ => by simp [hc])
  have hterms : ∀ i ∈ (List.range a.size).filter (fun i => !(nd a i).children.isEmpty),
      collTermQ a i = .ok (collTermB a i) := by
    intro i hi
    have hi' := hperm.mem_iff.1 hi
    rw [List.mem_filter] at hi'
    obtain ⟨hmem, hne⟩ := hi'
    rw [← subs_ids, List.mem_map] at hmem
    obtain ⟨s0, hs0, rfl⟩ := hmem
    have hrep := subs_rep t0 r c.rep s0 hs0
    refine collTermQ_ok g.1 hrep (harity _ (by rw [← subs_ids]; exact List.mem_map_of_mem hs0)) ?_
    intro he; simp [he] at hne
  rw [mapM_ok _ _ _ hterms]
  simp only [QR.bind_ok]
  congr 1
  rw [(hperm.map _).sum_nat, c.dec, collessR, ← dec, collessNL_dec g.1 c.rep]
  apply sum_map_filter_zero
  intro i _ hp
  have : (nd a i).children = [] := by simpa using hp
  simp [collTermB, this]

end AR
