import PhyloModel.Arena.QueryRefineBase
import PhyloModel.Props.C09
/-! `is_binary`, `cherries`, `length` as functions of the abstract tree -/
namespace AR

theorem RootCtx.pre_eq {a : Arena} {t : Rose} {r : Nat} {t0 : RTI} (c : RootCtx a t r t0) :
    pre t0 = r :: preL t0.kids := by rw [AR.pre_eq, c.t0_id]

theorem RootCtx.nonroot {a : Arena} {t : Rose} {r : Nat} {t0 : RTI} (c : RootCtx a t r t0) (i : Nat)
    (hi : i ∈ preL t0.kids) : live a i ∧ (nd a i).parent ≠ none ∧ i ≠ r := by
  have hnd := c.nodup
  rw [c.pre_eq, List.nodup_cons] at hnd
  have hl : live a i := (c.mem i).1 (by rw [c.pre_eq]; simp [hi])
  have hne : i ≠ r := fun e => hnd.1 (e ▸ hi)
  exact ⟨hl, fun hp => hne (c.only_root i hl hp), hne⟩

theorem all_eq_of_map_eq {α β : Type} {l1 : List α} {l2 : List β} {f : α → Bool} {g : β → Bool}
    (h : l1.map f = l2.map g) : l1.all f = l2.all g := by
  have e1 : l1.all f = (l1.map f).all id := by rw [List.all_map]; rfl
  have e2 : l2.all g = (l2.map g).all id := by rw [List.all_map]; rfl
  rw [e1, e2, h]

def binClause (a : Arena) (rooted : Bool) (i : Nat) : Bool :=
  if (nd a i).parent.isNone then
    !((rooted && decide ((nd a i).children.length > 2)) || (!rooted && decide ((nd a i).children.length > 3)))
  else decide ((nd a i).children.length ≤ 2)

theorem isBinary_eq {a : Arena} {t : Rose} {r : Nat} {t0 : RTI} (c : RootCtx a t r t0) :
    isBinary a = .ok ((List.range a.size).all (binClause a ((nd a r).children.length == 2))) := by
  have := c.size_ne_zero
  simp only [isBinary, this, ↓reduceIte, isRooted_ctx c, QR.bind_ok, QR.pure_eq]
  -- what is left of the program is the scan whose test is `binClause` unfolded
  rfl

theorem isBinary_ctx {a : Arena} {t : Rose} {r : Nat} {t0 : RTI} (c : RootCtx a t r t0) (g : Good a) :
    isBinary a = .ok (decide ((nd a r).children.length ≤ 3) &&
      (preL t0.kids).all (fun i => decide ((nd a i).children.length ≤ 2))) := by
  rw [isBinary_eq c]
  congr 1
  have hroot : binClause a ((nd a r).children.length == 2) r = decide ((nd a r).children.length ≤ 3) := by
    simp only [binClause, c.is_root.2, Option.isNone_none, ↓reduceIte]
    exact C12.root_binarity_test _
  have hnon : ∀ i ∈ preL t0.kids, binClause a ((nd a r).children.length == 2) i
      = decide ((nd a i).children.length ≤ 2) := by
    intro i hi
    have := (c.nonroot i hi).2.1
    cases hp : (nd a i).parent with
    | none => exact absurd hp this
    | some p => simp [binClause, hp]
  -- slots that hold no node pass the test, so only the nodes of the tree count
  have hscan : (List.range a.size).all (binClause a ((nd a r).children.length == 2))
      = (pre t0).all (binClause a ((nd a r).children.length == 2)) := by
    rw [← (live_scan_perm c).all_eq, List.all_filter]
    apply List.all_congr rfl
    intro i
    cases hl : isLive a i with
    | true => rfl
    | false => simp [binClause, (g.blank hl).1, (g.blank hl).2]
  rw [hscan, c.pre_eq, List.all_cons, hroot]
  congr 1
  rw [Bool.eq_iff_iff]
  simp only [List.all_eq_true]
  exact ⟨fun h i hi => hnon i hi ▸ h i hi, fun h i hi => (hnon i hi).symm ▸ h i hi⟩

theorem isBinaryNL_dec {a : Arena} {t : Rose} {r : Nat} {t0 : RTI} (c : RootCtx a t r t0) :
    isBinaryNL (dec a t0) = (decide ((nd a r).children.length ≤ 3) &&
      (preL t0.kids).all (fun i => decide ((nd a i).children.length ≤ 2))) := by
  have h0 := dec_kids_len c.rep'
  rw [c.t0_id] at h0
  rw [isBinaryNL, h0, dec_kids, nodesNLL_map_dec]
  congr 1
  have hl : ∀ s0 ∈ subsL t0.kids, Rep a s0.id s0 := subsL_rep _ _ c.rep.kids_rep
  have := list_map (a := a) (dec a) (fun s => decide (s.kids.length ≤ 2))
    (fun i => decide ((nd a i).children.length ≤ 2)) (fun s0 h0 => by simp only [dec_kids_len h0])
    (subsL t0.kids) hl
  rw [subsL_ids] at this
  exact all_eq_of_map_eq this

/-- `is_binary`: every non-root node of the tree has at most two kids, the root at most three -/
theorem isBinary_refines {a : Arena} (g : Good a) (h1 : AtMostOneRoot a) {t : Rose} (h : absRoot a = .ok t) :
    isBinary a = .ok (isBinaryR t) := by
  obtain ⟨r, t0, c⟩ := absRoot_ctx g.1 h1 h
  rw [isBinary_ctx c g, c.dec, isBinaryR, ← dec, isBinaryNL_dec c]

def cherryp (a : Arena) (i : Nat) : Bool :=
  match (nd a i).children with
  | [x, y] => tipp a x && tipp a y
  | _ => false

theorem cherries_eq (a : Arena) (hs : a.size ≠ 0) (b : Bool) (hb : isBinary a = .ok b) :
    cherries a = if b then .ok ((List.range a.size).filter (cherryp a)).length else .err "IsNotBinary" := by
  simp only [cherries, hb, QR.bind_ok, hs, ↓reduceIte, QR.pure_eq]
  cases b with
  | false => rfl
  | true =>
    simp only [Bool.not_true, Bool.false_eq_true, ↓reduceIte]
    -- the two filters agree by unfolding: the program's test is `cherryp` with `tipp` written out
    congr 2

theorem isCherry_dec {a : Arena} {s0 : RTI} (h : Rep a s0.id s0) : (dec a s0).isCherry = cherryp a s0.id := by
  have hk := h.kids_ids
  have hkid := h.kid
  simp only [RoseNL.isCherry, cherryp, dec_kids, ← hk]
  match hm : s0.kids with
  | [] => simp
  | [x] => simp
  | [x, y] =>
    have hx := hkid x (by simp [hm])
    have hy := hkid y (by simp [hm])
    simp [dec_isTip hx, dec_isTip hy, tipp]
  | x :: y :: z :: rest => simp

theorem cherriesNL_dec {a : Arena} {i : Nat} {t0 : RTI} (h : Rep a i t0) :
    cherriesNL (dec a t0) = ((pre t0).filter (cherryp a)).length := by
  have := list_filter_map (a := a) (dec a) RoseNL.isCherry (cherryp a) (fun _ => ()) (fun _ => ())
    (fun s0 h0 => isCherry_dec h0) (fun _ _ => rfl) (subs t0) (subs_rep t0 i h)
  have := congrArg List.length this
  simpa [cherriesNL, nodesNL_dec, subs_ids] using this

/-- `cherries`: refused on non-binary trees, otherwise the number of nodes with exactly two kids, both tips -/
theorem cherries_refines {a : Arena} (g : Good a) (h1 : AtMostOneRoot a) {t : Rose} (h : absRoot a = .ok t) :
    cherries a = if isBinaryR t then .ok (cherriesR t) else .err "IsNotBinary" := by
  obtain ⟨r, t0, c⟩ := absRoot_ctx g.1 h1 h
  rw [cherries_eq a c.size_ne_zero _ (isBinary_refines g h1 h)]
  split
  · congr 1
    rw [c.dec, cherriesR, ← dec, cherriesNL_dec c.rep]
    apply List.Perm.length_eq
    apply scan_perm' c g
    intro i hc _
    simp [cherryp, hc]
  · rfl

theorem optSum_perm {l1 l2 : List (Option Int)} (h : l1.Perm l2) : optSum l1 = optSum l2 := by
  simp only [C09.optSum_spec, h.all_eq, (h.map (·.getD 0)).sum_int]

theorem totalLength_eq (a : Arena) : totalLength a = QR.ofOpt (optSum
    (((List.range a.size).filter (fun i => (nd a i).parent.isSome)).map (fun i => (nd a i).pedge)))
    "MissingBranchLengths" := by
  simp only [totalLength, C09.optSum_spec]
  split <;> rfl

theorem totalLengthNL_dec {a : Arena} {i : Nat} {t0 : RTI} (h : Rep a i t0) :
    totalLengthNL (dec a t0) = optSum ((preL t0.kids).map (fun i => (nd a i).pedge)) := by
  have := list_map (a := a) (dec a) RoseNL.len (fun i => (nd a i).pedge) (fun s0 _ => by simp)
    (subsL t0.kids) (subsL_rep _ _ h.kids_rep)
  rw [subsL_ids] at this
  simp only [totalLengthNL, C09.optSum_spec, dec_kids, nodesNLL_map_dec, this]

/-- `length`: the sum of the branch lengths of all non-root nodes of the tree, refused when one is missing -/
theorem totalLength_refines {a : Arena} (g : Good a) (h1 : AtMostOneRoot a) {t : Rose} (h : absRoot a = .ok t) :
    totalLength a = QR.ofOpt (totalLengthR t) "MissingBranchLengths" := by
  obtain ⟨r, t0, c⟩ := absRoot_ctx g.1 h1 h
  rw [totalLength_eq, c.dec, totalLengthR, ← dec, totalLengthNL_dec c.rep]
  congr 1
  apply optSum_perm
  apply List.Perm.map
  have hp := scan_perm' c g (fun i => (nd a i).parent.isSome) (fun i _ hpn => by simp [hpn])
  have e : (pre t0).filter (fun i => (nd a i).parent.isSome) = preL t0.kids := by
    rw [c.pre_eq, List.filter_cons]
    simp only [c.is_root.2, Option.isSome_none, Bool.false_eq_true, ↓reduceIte]
    rw [List.filter_eq_self]
    intro i hi
    have := (c.nonroot i hi).2.1
    cases hpp : (nd a i).parent with
    | none => exact absurd hpp this
    | some _ => rfl
  rw [e] at hp
  exact hp

end AR
