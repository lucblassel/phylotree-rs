import PhyloModel.Arena.GTrav
import PhyloModel.Arena.QueryRefineIndices
import PhyloModel.Props.C10
/-! # Traversals and subtree listings as functions of the abstract tree

For every node `s` of the abstract tree `t` of a well-formed arena `a` (i.e. for every live slot `s.id`), the
four traversals started at `s.id`, `get_subtree`, `get_subtree_leaves` and `get_descendants` return the
corresponding list of ids of `s`; and the NAMES read along the returned list are the id-free traversal of the
erased tree `erase s`. -/
namespace AR

def idTree (s : Rose) : GT Nat := GT.map Prod.fst (roseGT s)

def preIdsR (s : Rose) : List Nat := (idTree s).pre
def postIdsR (s : Rose) : List Nat := (idTree s).post
def inoIdsR (s : Rose) : Option (List Nat) := (idTree s).ino
def levelIdsR (s : Rose) : List Nat := (idTree s).level

def preNamesNL (T : RoseNL) : List (Option String) := (nlGT T).pre
def postNamesNL (T : RoseNL) : List (Option String) := (nlGT T).post
def inoNamesNL (T : RoseNL) : Option (List (Option String)) := (nlGT T).ino
def levelNamesNL (T : RoseNL) : List (Option String) := (nlGT T).level

theorem idTree_decorate (a : Arena) (s0 : RTI) : idTree (decorate a s0) = GT.map id (rtiGT s0) := by
  rw [idTree, roseGT_decorate, GT.map_map]; rfl

theorem nlGT_dec (a : Arena) (s0 : RTI) :
    nlGT (erase (decorate a s0)) = GT.map (fun i => (nd a i).name) (rtiGT s0) := by
  rw [roseGT_erase, roseGT_decorate, GT.map_map]; rfl

theorem preIdsR_decorate (a : Arena) (s0 : RTI) : preIdsR (decorate a s0) = pre s0 := by
  rw [preIdsR, idTree_decorate, GT.pre_map, pre_rtiGT, List.map_id]
theorem postIdsR_decorate (a : Arena) (s0 : RTI) : postIdsR (decorate a s0) = post s0 := by
  rw [postIdsR, idTree_decorate, GT.post_map, post_rtiGT, List.map_id]
theorem inoIdsR_decorate (a : Arena) (s0 : RTI) : inoIdsR (decorate a s0) = ino s0 := by
  rw [inoIdsR, idTree_decorate, GT.ino_map, ino_rtiGT]
  cases ino s0 <;> simp
theorem levelIdsR_decorate (a : Arena) (s0 : RTI) : levelIdsR (decorate a s0) = (rtiGT s0).level := by
  rw [levelIdsR, idTree_decorate, GT.level_map, List.map_id]

mutual
theorem pre_roseGT : ∀ t : Rose, (roseGT t).pre.map Prod.fst = (nodesR t).map Rose.id
  | .node i n l d ks => by simp only [roseGT, GT.pre, nodesR, List.map_cons, Rose.id, preL_roseGTL ks]
theorem preL_roseGTL : ∀ ts : List Rose, (GT.preL (roseGTL ts)).map Prod.fst = (nodesRL ts).map Rose.id
  | [] => by simp [roseGTL, GT.preL, nodesRL]
  | t :: ts => by simp only [roseGTL, GT.preL, nodesRL, List.map_append, pre_roseGT t, preL_roseGTL ts]
end

theorem preIdsR_eq (s : Rose) : preIdsR s = idsR s := by
  rw [preIdsR, idTree, GT.pre_map, pre_roseGT, idsR]

theorem fuel_ok {a : Arena} (hinv : Inv a) {i : Nat} {s0 : RTI} (h : Rep a i s0) :
    height s0 ≤ fuelOf a ∧ szR s0 ≤ fuelOf a := by
  obtain ⟨t', ht', _, hh, hs⟩ := rep_total hinv i h.is_live
  have := rep_unique a t' s0 i ht' h
  subst this
  exact ⟨hh, hs⟩

theorem descendants_fold {a : Arena} (hinv : Inv a) (ks : List RTI) (cs acc : List Nat) (h : RepL a cs ks) :
    cs.foldlM (fun acc c => do let l ← subtree a c; pure (acc ++ l)) acc = QR.ok (acc ++ preL ks) := by
  obtain ⟨rfl, hk⟩ := repL_iff.1 h
  clear h
  induction ks generalizing acc with
  | nil => simp [preL]
  | cons k ks ih =>
    rw [List.forall_mem_cons] at hk
    have hsub : subtree a k.id = .ok (pre k) := by
      simp [subtree, preorder_rep a k _ _ hk.1 (fuel_ok hinv hk.1).1, QR.ofOpt]
    rw [List.map_cons, List.foldlM_cons, hsub]
    show (ks.map RTI.id).foldlM (fun acc c => do let l ← subtree a c; pure (acc ++ l)) (acc ++ pre k) = _
    rw [ih _ hk.2]
    simp [preL]

theorem traversals_refine_rep {a : Arena} (hinv : Inv a) {s0 : RTI} (hrep : Rep a s0.id s0) :
    subtree a s0.id = .ok (pre s0) ∧ postorder a s0.id = .ok (post s0) ∧
    inorder a s0.id = QR.ofOpt (ino s0) "IsNotBinary" ∧ levelorderQ a s0.id = .ok (rtiGT s0).level ∧
    subtreeLeaves a s0.id = .ok ((pre s0).filter (tipp a)) ∧ descendants a s0.id = .ok (pre s0).tail := by
  obtain ⟨hh, hz⟩ := fuel_ok hinv hrep
  have hl := hrep.is_live
  refine ⟨?_, ?_, ?_, ?_, ?_, ?_⟩
  · simp [subtree, preorder_rep a s0 _ _ hrep hh, QR.ofOpt]
  · simp [postorder, postorder_rep a s0 _ _ hrep hh, QR.ofOpt]
  · obtain ⟨t', ht', he⟩ := inorder_closed hinv _ hl
    have := rep_unique a t' s0 _ ht' hrep
    subst this
    rw [he]
    unfold inoQ QR.ofOpt
    cases ino t' <;> rfl
  · have := (C10.levelorder_refines a s0 (fuelOf a) _ hrep hz).1
    simp only [levelorderQ, levelorder, this, QR.ofOpt, bfsD_level s0 _ hz]
  · exact subtreeLeaves_rep hinv hrep
  · have hget : AR.get a s0.id = .ok (nd a s0.id) := by
      simp [AR.get, (isLive_iff a _).2 hl]
    simp only [descendants, hget, QR.bind_ok]
    rw [descendants_fold hinv s0.kids _ [] hrep.kids_rep, AR.pre_eq]
    simp

/-- **ids**: every traversal / listing started at a node of the tree returns the textbook list of that
    node's sub-tree -/
theorem traversals_refine {a : Arena} (g : Good a) (h1 : AtMostOneRoot a) {t : Rose} (h : absRoot a = .ok t)
    (s : Rose) (hs : s ∈ nodesR t) :
    subtree a s.id = .ok (preIdsR s) ∧ postorder a s.id = .ok (postIdsR s) ∧
    inorder a s.id = QR.ofOpt (inoIdsR s) "IsNotBinary" ∧ levelorderQ a s.id = .ok (levelIdsR s) ∧
    subtreeLeaves a s.id = .ok (tipIdsR s) ∧ descendants a s.id = .ok (preIdsR s).tail := by
  obtain ⟨r, t0, c⟩ := absRoot_ctx g.1 h1 h
  rw [c.dec] at hs
  obtain ⟨s0, _, rfl, hrep, _⟩ := mem_nodesR_decorate c.rep s hs
  rw [decorate_id] at hrep
  have := traversals_refine_rep g.1 hrep
  rw [decorate_id, preIdsR_decorate, postIdsR_decorate, inoIdsR_decorate, levelIdsR_decorate,
    tipIdsR_decorate hrep]
  exact this

def qnames (a : Arena) (q : QR (List Nat)) : QR (List (Option String)) :=
  match q with
  | .ok l => .ok (l.map (fun i => (nd a i).name))
  | .err k => .err k
  | .panic => .panic

/-- **names**: the names read along the reported lists are the id-free traversals of the erased sub-tree -/
theorem traversal_names {a : Arena} (g : Good a) (h1 : AtMostOneRoot a) {t : Rose} (h : absRoot a = .ok t)
    (s : Rose) (hs : s ∈ nodesR t) :
    qnames a (subtree a s.id) = .ok (preNamesNL (erase s)) ∧
    qnames a (postorder a s.id) = .ok (postNamesNL (erase s)) ∧
    qnames a (inorder a s.id) = QR.ofOpt (inoNamesNL (erase s)) "IsNotBinary" ∧
    qnames a (levelorderQ a s.id) = .ok (levelNamesNL (erase s)) ∧
    qnames a (subtreeLeaves a s.id) = .ok (leafNamesNL (erase s)) ∧
    qnames a (descendants a s.id) = .ok (preNamesNL (erase s)).tail := by
  obtain ⟨k1, k2, k3, k4, k5, k6⟩ := traversals_refine g h1 h s hs
  obtain ⟨r, t0, c⟩ := absRoot_ctx g.1 h1 h
  rw [c.dec] at hs
  obtain ⟨s0, _, rfl, hrep, _⟩ := mem_nodesR_decorate c.rep s hs
  rw [decorate_id] at hrep
  rw [k1, k2, k3, k4, k5, k6]
  refine ⟨?_, ?_, ?_, ?_, ?_, ?_⟩
  · simp only [qnames, preNamesNL, nlGT_dec, GT.pre_map, preIdsR_decorate, pre_rtiGT]
  · simp only [qnames, postNamesNL, nlGT_dec, GT.post_map, postIdsR_decorate, post_rtiGT]
  · simp only [inoNamesNL, nlGT_dec, GT.ino_map, inoIdsR_decorate, ino_rtiGT]
    cases ino s0 <;> simp [QR.ofOpt, qnames]
  · simp only [qnames, levelNamesNL, nlGT_dec, GT.level_map, levelIdsR_decorate]
  · have := tipNames_decorate hrep
    simp only [leafNamesR] at this
    simp only [qnames, this, tipIdsR_decorate hrep]
  · simp only [qnames, preNamesNL, nlGT_dec, GT.pre_map, preIdsR_decorate, pre_rtiGT, List.map_tail]

end AR
