import PhyloModel.Arena.QueryRefine
/-! # C04 corollary: the answers depend only on the tree

Two arenas — whatever their slot layout, tombstones, cached depths and edit histories — whose abstract trees
agree after forgetting ids and cached depths (`erase`, i.e. agree as Newick trees: names, branch lengths,
ordered topology) give the same answer to every id-free read-only query.  In particular the arena reached
by an edit history answers like the arena of a freshly parsed tree with the same Newick text.
(Read-only queries are pure functions `Arena → answer` in the model, so they cannot change the answer of a
later query; the interplay with the two caches of the Rust code is `Props/C04.lean`.) -/
namespace AR

theorem answers_depend_only_on_tree {a b : Arena} (ga : Good a) (gb : Good b) (ha : AtMostOneRoot a)
    (hb : AtMostOneRoot b) {ta tb : Rose} (hta : absRoot a = .ok ta) (htb : absRoot b = .ok tb)
    (he : erase ta = erase tb) :
    nLeaves a = nLeaves b ∧ isRooted a = isRooted b ∧ isBinary a = isBinary b ∧
    totalLength a = totalLength b ∧ cherries a = cherries b ∧ colless a = colless b ∧ sackin a = sackin b ∧
    (∀ u, treeHeight a u = treeHeight b u) ∧ (∀ u, diameter a u = diameter b u) ∧
    ((leaves a).map (fun i => (nd a i).name)).Perm ((leaves b).map (fun i => (nd b i).name)) ∧
    (∀ n, (searchName a n).length = (searchName b n).length) := by
  have e1 : isRootedR ta = isRootedR tb := by simp only [isRootedR, he]
  have e2 : isBinaryR ta = isBinaryR tb := by simp only [isBinaryR, he]
  have e3 : checkRBR ta = checkRBR tb := by simp only [checkRBR, e1, e2]
  refine ⟨?_, ?_, ?_, ?_, ?_, ?_, ?_, ?_, ?_, ?_, ?_⟩
  · rw [nLeaves_refines ga ha hta, nLeaves_refines gb hb htb, nLeavesR, nLeavesR, he]
  · rw [isRooted_refines ga ha hta, isRooted_refines gb hb htb, e1]
  · rw [isBinary_refines ga ha hta, isBinary_refines gb hb htb, e2]
  · rw [totalLength_refines ga ha hta, totalLength_refines gb hb htb, totalLengthR, totalLengthR, he]
  · rw [cherries_refines ga ha hta, cherries_refines gb hb htb, e2, cherriesR, cherriesR, he]
  · rw [colless_refines ga ha hta, colless_refines gb hb htb, e3, collessR, collessR, he]
  · rw [sackin_refines ga ha hta, sackin_refines gb hb htb, e3, sackinR, sackinR, he]
  · intro u
    rw [treeHeight_refines ga ha hta, treeHeight_refines gb hb htb, e1, heightR, heightR, he]
  · intro u
    rw [diameter_refines ga ha hta, diameter_refines gb hb htb, diameterR, diameterR, he]
  · have h1 := leafNames_refines ga ha hta
    have h2 := leafNames_refines gb hb htb
    rw [leafNamesR, he] at h1
    exact h1.trans h2.symm
  · intro n
    rw [searchName_count ga ha hta, searchName_count gb hb htb, countNameR, countNameR, he]

/-- C04 corollary for the traversals from the root: two well-formed arenas with the same erased tree report
    the same sequences of names -/
theorem traversals_depend_only_on_tree {a b : Arena} (ga : Good a) (gb : Good b) (ha : AtMostOneRoot a)
    (hb : AtMostOneRoot b) {ta tb : Rose} (hta : absRoot a = .ok ta) (htb : absRoot b = .ok tb)
    (he : erase ta = erase tb) :
    root a = .ok ta.id ∧ root b = .ok tb.id ∧
    qnames a (subtree a ta.id) = qnames b (subtree b tb.id) ∧
    qnames a (postorder a ta.id) = qnames b (postorder b tb.id) ∧
    qnames a (inorder a ta.id) = qnames b (inorder b tb.id) ∧
    qnames a (levelorderQ a ta.id) = qnames b (levelorderQ b tb.id) ∧
    qnames a (subtreeLeaves a ta.id) = qnames b (subtreeLeaves b tb.id) ∧
    qnames a (descendants a ta.id) = qnames b (descendants b tb.id) := by
  have hma : ta ∈ nodesR ta := by cases ta; simp [nodesR]
  have hmb : tb ∈ nodesR tb := by cases tb; simp [nodesR]
  obtain ⟨a1, a2, a3, a4, a5, a6⟩ := traversal_names ga ha hta ta hma
  obtain ⟨b1, b2, b3, b4, b5, b6⟩ := traversal_names gb hb htb tb hmb
  obtain ⟨ra, t0a, ca⟩ := absRoot_ctx ga.1 ha hta
  obtain ⟨rb, t0b, cb⟩ := absRoot_ctx gb.1 hb htb
  have ida : ta.id = ra := by rw [ca.dec, decorate_id, ca.t0_id]
  have idb : tb.id = rb := by rw [cb.dec, decorate_id, cb.t0_id]
  refine ⟨by rw [ida]; exact ca.root_ok, by rw [idb]; exact cb.root_ok, ?_, ?_, ?_, ?_, ?_, ?_⟩
  · rw [a1, b1, he]
  · rw [a2, b2, he]
  · rw [a3, b3, he]
  · rw [a4, b4, he]
  · rw [a5, b5, he]
  · rw [a6, b6, he]

/-- C04 corollary: the node-to-node distances, nodes addressed by pre-order position, depend only on the tree -/
theorem distances_depend_only_on_tree {a b : Arena} (ga : Good a) (gb : Good b) (ha : AtMostOneRoot a)
    (hb : AtMostOneRoot b) {ta tb : Rose} (hta : absRoot a = .ok ta) (htb : absRoot b = .ok tb)
    (he : erase ta = erase tb) (i j xa ya xb yb : Nat) (h1 : (idsR ta)[i]? = some xa)
    (h2 : (idsR ta)[j]? = some ya) (h3 : (idsR tb)[i]? = some xb) (h4 : (idsR tb)[j]? = some yb) :
    distance a xa ya = distance b xb yb := by
  rw [distance_refines ga ha hta i j xa ya h1 h2, distance_refines gb hb htb i j xb yb h3 h4, he]

/-- name lookup: with blank tombstones, `get_by_name` finds a node in one arena iff it does in the other -/
theorem getByName_depends_only_on_tree_partial {a b : Arena} (ga : Good a) (gb : Good b) (ha : AtMostOneRoot a)
    (hb : AtMostOneRoot b) (na : BlankNames a) (nb : BlankNames b) {ta tb : Rose} (hta : absRoot a = .ok ta)
    (htb : absRoot b = .ok tb) (he : erase ta = erase tb) (s : String) :
    (getByName a s = none ↔ getByName b s = none) := by
  have h1 := (getByName_refines_partial ga ha na hta s).2
  have h2 := (getByName_refines_partial gb hb nb htb s).2
  have e : (idsNamedR ta (some s)).length = (idsNamedR tb (some s)).length := by
    rw [← countNameR_eq, ← countNameR_eq, countNameR, countNameR, he]
  rw [h1, h2, ← List.length_eq_zero_iff, ← List.length_eq_zero_iff, e]

/-- **edit histories**: the arena reached by ANY admissible edit history answers every id-free query like
    any other well-formed arena holding the same tree — e.g. the one the parser builds from the current
    Newick text -/
theorem history_irrelevant {a0 b : Arena} (ops : List Op) (g0 : Good a0) (r0 : AtMostOneRoot a0)
    (hadm : AdmissibleRun a0 ops) (gb : Good b) (hb : AtMostOneRoot b) {ta tb : Rose}
    (hta : absRoot (runOps a0 ops) = .ok ta) (htb : absRoot b = .ok tb) (he : erase ta = erase tb) :
    let a := runOps a0 ops
    nLeaves a = nLeaves b ∧ isRooted a = isRooted b ∧ isBinary a = isBinary b ∧
    totalLength a = totalLength b ∧ cherries a = cherries b ∧ colless a = colless b ∧ sackin a = sackin b ∧
    (∀ u, treeHeight a u = treeHeight b u) ∧ (∀ u, diameter a u = diameter b u) ∧
    ((leaves a).map (fun i => (nd a i).name)).Perm ((leaves b).map (fun i => (nd b i).name)) ∧
    (∀ n, (searchName a n).length = (searchName b n).length) := by
  obtain ⟨ga, ha⟩ := runOps_oneRoot ops g0 r0 hadm
  exact answers_depend_only_on_tree ga gb ha hb hta htb he

/-! ### non-vacuity: two different layouts of the cherry `(x:3,y:4);` -/

mutual
def Rose.beq : Rose → Rose → Bool
  | .node i n l d ks, .node i' n' l' d' ks' => i == i' && n == n' && l == l' && d == d' && Rose.beqL ks ks'
def Rose.beqL : List Rose → List Rose → Bool
  | [], [] => true
  | k :: ks, k' :: ks' => Rose.beq k k' && Rose.beqL ks ks'
  | _, _ => false
end

mutual
theorem Rose.beq_eq : ∀ t t' : Rose, Rose.beq t t' = true → t = t'
  | .node i n l d ks, .node i' n' l' d' ks', h => by
    simp only [Rose.beq, Bool.and_eq_true, beq_iff_eq] at h
    obtain ⟨⟨⟨⟨rfl, rfl⟩, rfl⟩, rfl⟩, hk⟩ := h
    rw [Rose.beqL_eq ks ks' hk]
theorem Rose.beqL_eq : ∀ ts ts' : List Rose, Rose.beqL ts ts' = true → ts = ts'
  | [], [], _ => rfl
  | [], _ :: _, h => by simp [Rose.beqL] at h
  | _ :: _, [], h => by simp [Rose.beqL] at h
  | k :: ks, k' :: ks', h => by
    simp only [Rose.beqL, Bool.and_eq_true] at h
    rw [Rose.beq_eq k k' h.1, Rose.beqL_eq ks ks' h.2]
end

/-- the Boolean test "the abstraction of `a` is `t`", for evaluation on concrete arenas -/
def absIs (a : Arena) (t : Rose) : Bool := match absRoot a with | .ok t' => Rose.beq t' t | _ => false

theorem absRoot_of_check (a : Arena) (t : Rose) (h : absIs a t = true) : absRoot a = .ok t := by
  unfold absIs at h
  cases hr : absRoot a with
  | ok t' => rw [hr] at h; rw [Rose.beq_eq t' t h]
  | err k => rw [hr] at h; cases h
  | panic => rw [hr] at h; cases h

/-- built directly: slots 0 (root), 1, 2 -/
def exA : Arena := runOps #[] [.add none, .addChild 0 (some 3) (some "x"), .addChild 0 (some 4) (some "y")]
/-- built with a detour: a first child is added and pruned again (slot 1 is a tombstone), slots 2, 3 are the tips -/
def exB : Arena := runOps #[] [.add none, .addChild 0 (some 9) (some "z"), .prune 1,
  .addChild 0 (some 3) (some "x"), .addChild 0 (some 4) (some "y")]

def exTa : Rose := .node 0 none none 0 [.node 1 (some "x") (some 3) 1 [], .node 2 (some "y") (some 4) 1 []]
def exTb : Rose := .node 0 none none 0 [.node 2 (some "x") (some 3) 1 [], .node 3 (some "y") (some 4) 1 []]

theorem exA_ok : Good exA ∧ AtMostOneRoot exA :=
  runOps_empty (by simp only [AdmissibleRun, Admissible, and_true]; exact no_root_empty)
theorem exB_ok : Good exB ∧ AtMostOneRoot exB :=
  runOps_empty (by simp only [AdmissibleRun, Admissible, and_true]; exact no_root_empty)

theorem exA_abs : absRoot exA = .ok exTa := absRoot_of_check _ _ (by decide)
theorem exB_abs : absRoot exB = .ok exTb := absRoot_of_check _ _ (by decide)
theorem ex_erase : erase exTa = erase exTb := rfl

/-- the hypotheses of `answers_depend_only_on_tree` are satisfiable by two arenas of different size and
    layout (one with a tombstone) -/
example : nLeaves exA = nLeaves exB ∧ sackin exA = sackin exB ∧ (∀ u, diameter exA u = diameter exB u) := by
  have := answers_depend_only_on_tree exA_ok.1 exB_ok.1 exA_ok.2 exB_ok.2 exA_abs exB_abs ex_erase
  exact ⟨this.1, this.2.2.2.2.2.2.1, this.2.2.2.2.2.2.2.2.1⟩

example : exA.size = 3 ∧ exB.size = 4 ∧ idsR exTa = [0, 1, 2] ∧ idsR exTb = [0, 2, 3] := by decide

end AR
