import Batteries.Data.List.Perm
import PhyloModel.Arena.Cli
import PhyloModel.Arena.CompressPost
import PhyloModel.Arena.QRLemmas
/-! Small shared tools for the C18 command-line proofs: decidability of `live` / `IsTip` (for the concrete
    examples), projections out of the result monad `QR`, and three small facts about `BelowK`, `getByName`
    and `List.Forall₂`. -/
namespace AR

instance decLiveCli (a : Arena) (i : Nat) : Decidable (live a i) := by unfold live; exact inferInstance
instance decIsTipCli (a : Arena) (i : Nat) : Decidable (IsTip a i) := by unfold IsTip; exact inferInstance

def QR.fst {α β : Type} : QR (α × β) → QR α
  | .ok p => .ok p.1
  | .err k => .err k
  | .panic => .panic

def QR.isOk {α : Type} : QR α → Bool | .ok _ => true | _ => false
def QR.getD {α : Type} (r : QR α) (d : α) : α := match r with | .ok v => v | _ => d

theorem BelowK.parent_below {a : Arena} {r c i k : Nat} (h : BelowK a r c k) (hp : (nd a c).parent = some i)
    (hr : (nd a r).parent = none) : ∃ k', BelowK a r i k' := by
  cases h with
  | refl _ => rw [hr] at hp; cases hp
  | step hb _ hpar => rw [hpar] at hp; cases hp; exact ⟨_, hb⟩

theorem getByName_name {a : Arena} {name : String} {x : Nat} (h : getByName a name = some x) :
    (nd a x).name = some name := by
  unfold getByName at h
  have := List.find?_some h
  simpa using this

theorem forall₂_and_right_cli {α β : Type} {R : α → β → Prop} {P : β → Prop} {l1 : List α} {l2 : List β}
    (h : List.Forall₂ R l1 l2) (hp : ∀ x ∈ l2, P x) : List.Forall₂ (fun n x => R n x ∧ P x) l1 l2 := by
  induction h with
  | nil => exact List.Forall₂.nil
  | cons hr _ ih =>
    exact List.Forall₂.cons ⟨hr, hp _ (by simp)⟩ (ih (fun x hx => hp x (List.mem_cons_of_mem _ hx)))

end AR
