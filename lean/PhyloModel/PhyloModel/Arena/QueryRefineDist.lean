import PhyloModel.Arena.QueryRefineIndices
/-! Root paths of the abstract tree, the distance the executable query reads off two of them, and `height`
    as a function of the abstract tree -/
namespace AR

/-! ### step lists of an id tree: (index of the kid taken, id of the kid) -/

mutual
/-- for every node, in pre-order, the steps leading from the root to it -/
def nodeSteps : RTI → List (List (Nat × Nat))
  | .node _ ks => [] :: nodeStepsL 0 ks
def nodeStepsL : Nat → List RTI → List (List (Nat × Nat))
  | _, [] => []
  | j, k :: ks => (nodeSteps k).map (fun s => (j, k.id) :: s) ++ nodeStepsL (j + 1) ks
end

mutual
/-- the same for the tips only, left to right -/
def tipSteps : RTI → List (List (Nat × Nat))
  | .node _ [] => [[]]
  | .node _ (k :: ks) => tipStepsL 0 (k :: ks)
def tipStepsL : Nat → List RTI → List (List (Nat × Nat))
  | _, [] => []
  | j, k :: ks => (tipSteps k).map (fun s => (j, k.id) :: s) ++ tipStepsL (j + 1) ks
end

def stepF (a : Arena) (s : Nat × Nat) : Step := (s.1, (nd a s.2).pedge)

theorem eraseL_decorateL (a : Arena) (ks : List RTI) : eraseL (decorateL a ks) = ks.map (dec a) := by
  rw [decorateL_eq_map, eraseL_eq_map, List.map_map]; rfl

mutual
theorem tipPathsNL_dec (a : Arena) : ∀ t : RTI, tipPathsNL (dec a t) = (tipSteps t).map (fun s => s.map (stepF a))
  | .node i [] => by simp [dec, decorate, decorateL, erase, eraseL, tipPathsNL, tipSteps]
  | .node i (k :: ks) => by
    have := tipPathsNLL_dec a 0 (k :: ks)
    simp only [dec, decorate, decorateL, erase, eraseL, tipPathsNL, tipSteps, eraseL_decorateL]
    simpa [dec] using this
theorem tipPathsNLL_dec (a : Arena) : ∀ (j : Nat) (ts : List RTI),
    tipPathsNLL j (ts.map (dec a)) = (tipStepsL j ts).map (fun s => s.map (stepF a))
  | _, [] => by simp [tipPathsNLL, tipStepsL]
  | j, k :: ks => by
    simp only [List.map_cons, tipPathsNLL, tipStepsL, List.map_append, List.map_map, tipPathsNL_dec a k,
      tipPathsNLL_dec a (j + 1) ks]
    congr 1
    apply List.map_congr_left
    intro s _
    simp [stepF]
end

/-- the node a list of ids leads to, starting at `i` -/
def endOf (i : Nat) : List Nat → Nat
  | [] => i
  | x :: xs => endOf x xs

def idsOf (s : List (Nat × Nat)) : List Nat := s.map (·.2)

mutual
theorem tipSteps_ends (a : Arena) : ∀ (t : RTI) (i : Nat), Rep a i t →
    (tipSteps t).map (fun s => endOf i (idsOf s)) = (pre t).filter (tipp a)
  | .node j [], i, h => by
    have ht : tipp a i = true := h.tipp_eq
    obtain rfl : j = i := h.id_eq
    simp [tipSteps, pre, preL, ht, endOf, idsOf]
  | .node j (k :: ks), i, h => by
    have ht : tipp a i = false := h.tipp_eq
    obtain rfl : j = i := h.id_eq
    rw [tipSteps, pre, List.filter_cons, ht, tipStepsL_ends a 0 (k :: ks) _ j h.kids_rep]
    simp
theorem tipStepsL_ends (a : Arena) : ∀ (j : Nat) (ts : List RTI) (cs : List Nat) (i : Nat), RepL a cs ts →
    (tipStepsL j ts).map (fun s => endOf i (idsOf s)) = (preL ts).filter (tipp a)
  | _, [], _, _, _ => by simp [tipStepsL, preL]
  | j, t :: ts, cs, i, h => by
    obtain ⟨c, cs, rfl, h⟩ := h.cons_inv
    have h1 := tipSteps_ends a t c h.1
    have h2 := tipStepsL_ends a (j + 1) ts cs i h.2
    simp only [tipStepsL, List.map_append, List.map_map, preL, List.filter_append, h2, ← h1]
    congr 1
    apply List.map_congr_left
    intro s _
    simp [idsOf, endOf, h.1.id_eq]
end

mutual
theorem nodeSteps_path {a : Arena} {rk : Nat → Nat} (w : W a rk) : ∀ (t : RTI) (i : Nat) (lp : List Nat),
    Rep a i t → Path a lp i → ∀ s ∈ nodeSteps t, Path a (lp ++ idsOf s) (endOf i (idsOf s))
  | .node j ks, i, lp, h, hp, s, hs => by
    simp only [Rep] at h
    obtain ⟨rfl, hl, hk⟩ := h
    simp only [nodeSteps, List.mem_cons] at hs
    rcases hs with rfl | hs
    · simpa [idsOf, endOf] using hp
    · exact nodeStepsL_path w 0 ks _ i lp hl (fun c hc => hc) hk hp s hs
theorem nodeStepsL_path {a : Arena} {rk : Nat → Nat} (w : W a rk) : ∀ (j : Nat) (ts : List RTI) (cs : List Nat)
    (i : Nat) (lp : List Nat), live a i → (∀ c ∈ cs, c ∈ (nd a i).children) → RepL a cs ts → Path a lp i →
    ∀ s ∈ nodeStepsL j ts, Path a (lp ++ idsOf s) (endOf i (idsOf s))
  | _, [], _, _, _, _, _, _, _, s, hs => by simp [nodeStepsL] at hs
  | j, t :: ts, cs, i, lp, hl, hsub, h, hp, s, hs => by
    obtain ⟨c, cs, rfl, h⟩ := h.cons_inv
    simp only [nodeStepsL, List.mem_append, List.mem_map] at hs
    rcases hs with ⟨s', hs', rfl⟩ | hs
    · have hc := w.child_ok i c hl (hsub c (by simp))
      have hpc : Path a (lp ++ [c]) c := Path.step hp hc.1 hc.2.1
      have := nodeSteps_path w t c (lp ++ [c]) h.1 hpc s' hs'
      simpa [idsOf, endOf, h.1.id_eq] using this
    · exact nodeStepsL_path w (j + 1) ts cs i lp hl (fun c' hc' => hsub c' (by simp [hc'])) h.2 hp s hs
end

mutual
theorem tipSteps_sub : ∀ (t : RTI), ∀ s ∈ tipSteps t, s ∈ nodeSteps t
  | .node _ [], s, hs => by simpa [tipSteps, nodeSteps, nodeStepsL] using hs
  | .node _ (k :: ks), s, hs => by
    rw [tipSteps] at hs
    exact List.mem_cons_of_mem _ (tipStepsL_sub 0 (k :: ks) s hs)
theorem tipStepsL_sub : ∀ (j : Nat) (ts : List RTI), ∀ s ∈ tipStepsL j ts, s ∈ nodeStepsL j ts
  | _, [], s, hs => by simp [tipStepsL] at hs
  | j, t :: ts, s, hs => by
    simp only [tipStepsL, nodeStepsL, List.mem_append, List.mem_map] at hs ⊢
    rcases hs with ⟨s', hs', rfl⟩ | hs
    · exact Or.inl ⟨s', tipSteps_sub t s' hs', rfl⟩
    · exact Or.inr (tipStepsL_sub (j + 1) ts s hs)
end

theorem tipStepsL_path {a : Arena} {rk : Nat → Nat} (w : W a rk) : ∀ (j : Nat) (ts : List RTI) (cs : List Nat)
    (i : Nat) (lp : List Nat), live a i → (∀ c ∈ cs, c ∈ (nd a i).children) → RepL a cs ts → Path a lp i →
    ∀ s ∈ tipStepsL j ts, Path a (lp ++ idsOf s) (endOf i (idsOf s)) :=
  fun j ts cs i lp hl hsub h hp s hs => nodeStepsL_path w j ts cs i lp hl hsub h hp s (tipStepsL_sub j ts s hs)

def joinIds (qx qy : List Nat) : List Nat := qx.drop (cursor qx qy) ++ qy.drop (cursor qx qy)

def edgesOf (a : Arena) (l : List Nat) : Option Int × Nat := (optSum (l.map (fun i => (nd a i).pedge)), l.length)

theorem joinIds_nil_left (qy : List Nat) : joinIds [] qy = qy := by simp [joinIds, cursor]
theorem joinIds_cons (x y : Nat) (xs ys : List Nat) :
    joinIds (x :: xs) (y :: ys) = if x = y then joinIds xs ys else (x :: xs) ++ (y :: ys) := by
  rw [joinIds, cursor]
  split <;> rfl
theorem joinIds_self : ∀ q : List Nat, joinIds q q = []
  | [] => joinIds_nil_left []
  | x :: xs => by rw [joinIds_cons]; simp [joinIds_self xs]

theorem distance_paths {a : Arena} {rk : Nat → Nat} (w : W a rk) {r x y : Nat} {qx qy : List Nat}
    (hx : Path a (r :: qx) x) (hy : Path a (r :: qy) y) :
    distance a x y = .ok (edgesOf a (joinIds qx qy)) := by
  by_cases hne : x = y
  · subst hne
    obtain rfl : qx = qy := by simpa using Path.unique hx hy
    simp [distance, joinIds_self, edgesOf, optSum]
  · simp only [distance, hne, ↓reduceIte, pathFromRoot_eq w hx, pathFromRoot_eq w hy, QR.bind_ok, QR.pure_eq,
      cursor, List.drop_succ_cons, edgesOf, joinIds]

/-- the value of a distance query as the caller uses it -/
def distOr (unit : Int) (q : QR (Option Int × Nat)) : Int :=
  match q with
  | .ok d => distVal unit d
  | _ => 0

theorem pathLen_steps (a : Arena) (unit : Int) (s : List (Nat × Nat)) :
    pathLen unit (s.map (stepF a)) = distVal unit (edgesOf a (idsOf s)) := by
  simp only [pathLen, edgesOf, idsOf, List.map_map, List.length_map]
  rfl

theorem maxOf_ext {l1 l2 : List Int} (h : ∀ x, x ∈ l1 ↔ x ∈ l2) : maxOf l1 = maxOf l2 := by
  rw [maxOf_eq, maxOf_eq]
  exact Option.ext fun m => by simp only [List.max?_eq_some_iff, h]

theorem maxOf_perm {l1 l2 : List Int} (h : l1.Perm l2) : maxOf l1 = maxOf l2 :=
  maxOf_ext (fun _ => h.mem_iff)

theorem treeHeight_eq (a : Arena) (unit : Int) (r : Nat) (b : Bool) (hr : root a = .ok r) (hb : isRooted a = .ok b) :
    treeHeight a unit = if !b then .err "IsNotRooted" else (do
      let ds ← (leaves a).mapM (fun l => do let d ← distance a r l; pure (distVal unit d))
      QR.ofOpt (maxOf ds) "IsEmpty") := by
  simp only [treeHeight, hb, hr, QR.bind_ok]

theorem height_core {a : Arena} (g : Good a) {t : Rose} {r : Nat} {t0 : RTI} (c : RootCtx a t r t0) (unit : Int) :
    ((pre t0).filter (tipp a)).map (fun l => distOr unit (distance a r l))
      = (tipPathsNL (dec a t0)).map (pathLen unit) ∧
    ∀ l ∈ (pre t0).filter (tipp a), ∃ d, distance a r l = .ok d := by
  have w := g.1.toW
  have hroot : Path a [r] r := Path.root c.is_root.1 c.is_root.2
  have hval : ∀ s ∈ tipSteps t0, distance a r (endOf r (idsOf s)) = .ok (edgesOf a (idsOf s)) := by
    intro s hs
    rw [distance_paths w hroot (nodeSteps_path w t0 r [r] c.rep hroot s (tipSteps_sub t0 s hs)), joinIds_nil_left]
    rfl
  constructor
  · rw [← tipSteps_ends a t0 r c.rep, tipPathsNL_dec, List.map_map, List.map_map]
    apply List.map_congr_left
    intro s hs
    simp only [Function.comp, hval s hs, distOr, pathLen_steps]
  · intro l hl
    rw [← tipSteps_ends a t0 r c.rep, List.mem_map] at hl
    obtain ⟨s, hs, rfl⟩ := hl
    exact ⟨_, hval s hs⟩

/-- `height`: refused on unrooted trees, otherwise the largest root-to-tip path length of the tree (sum of
    branch lengths, edge count when a length on the path is absent) -/
theorem treeHeight_refines {a : Arena} (g : Good a) (h1 : AtMostOneRoot a) {t : Rose} (h : absRoot a = .ok t)
    (unit : Int) :
    treeHeight a unit = if !isRootedR t then .err "IsNotRooted" else QR.ofOpt (heightR unit t) "IsEmpty" := by
  obtain ⟨r, t0, c⟩ := absRoot_ctx g.1 h1 h
  rw [treeHeight_eq a unit r _ c.root_ok (isRooted_refines g h1 h)]
  split
  · rfl
  · obtain ⟨k1, k2⟩ := height_core g c unit
    have hperm := leaves_perm_ctx c
    have hm : (leaves a).mapM (fun l => do let d ← distance a r l; pure (distVal unit d))
        = .ok ((leaves a).map (fun l => distOr unit (distance a r l))) := by
      apply mapM_ok
      intro l hl
      obtain ⟨d, hd⟩ := k2 l (hperm.mem_iff.1 hl)
      simp [hd, distOr]
    rw [hm]
    simp only [QR.bind_ok]
    congr 1
    rw [maxOf_perm (hperm.map _), k1, c.dec, heightR, heightNL, dec]

end AR
