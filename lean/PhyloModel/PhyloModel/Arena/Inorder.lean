import PhyloModel.Arena.AbsRose
import PhyloModel.Arena.QRLemmas
/-! In-order: the arena recursion computes the rose-level in-order of the represented tree — left subtree,
    node, right subtree (a single child counts as a left child); a node with more than two children
    anywhere in the subtree is refused. -/
namespace AR

def ino : RTI → Option (List Nat)
  | .node i [] => some [i]
  | .node i [l] => (ino l).map (· ++ [i])
  | .node i [l, r] => (ino l).bind fun a => (ino r).map fun b => a ++ [i] ++ b
  | .node _ (_ :: _ :: _ :: _) => none

def inoQ (t : RTI) : QR (List Nat) :=
  match ino t with
  | some l => .ok l
  | none => .err "IsNotBinary"

theorem inorder_rep (a : Arena) : ∀ (f : Nat) (t : RTI) (i : Nat), Rep a i t → height t ≤ f →
    inorderF f a i = some (inoQ t) := fun f t i h hf =>
  Rep.fuel_ind (P := fun f i t => inorderF f a i = some (inoQ t)) (fun f i ks hl hc _ hk => by
    have hlive : isLive a i = true := (isLive_iff a i).2 hl
    rw [inorderF, hc]
    simp only [hlive, Bool.not_true, Bool.false_eq_true, ↓reduceIte]
    -- by arity; the kids' answers are `hk`
    match ks, hk with
    | [], _ => rfl
    | [l], hk =>
      simp only [List.map_cons, List.map_nil, hk l (by simp), Option.map_some, inoQ, ino]
      cases ino l <;> rfl
    | [l, r], hk =>
      simp only [List.map_cons, List.map_nil, hk l (by simp), hk r (by simp), inoQ, ino]
      cases ino l <;> cases ino r <;> rfl
    | _ :: _ :: _ :: _, _ => rfl) t f i h hf

theorem ino_perm : ∀ (t : RTI) (l : List Nat), ino t = some l → l.Perm (pre t)
  | .node i [], l, h => by simp [ino] at h; subst h; simp [pre, preL]
  | .node i [k], l, h => by
    simp only [ino, Option.map_eq_some_iff] at h
    obtain ⟨l1, h1, rfl⟩ := h
    have := ino_perm k l1 h1
    simp only [pre, preL, List.append_nil]
    exact (List.perm_append_comm).trans (List.Perm.cons i this)
  | .node i [k1, k2], l, h => by
    simp only [ino, Option.bind_eq_some_iff, Option.map_eq_some_iff] at h
    obtain ⟨l1, h1, l2, h2, rfl⟩ := h
    have p1 := ino_perm k1 l1 h1
    have p2 := ino_perm k2 l2 h2
    simp only [pre, preL, List.append_nil]
    have : (l1 ++ [i] ++ l2).Perm (i :: (l1 ++ l2)) := by
      rw [List.append_assoc]
      exact (List.perm_middle).trans (List.Perm.refl _)
    exact this.trans (List.Perm.cons i (p1.append p2))
  | .node _ (_ :: _ :: _ :: _), l, h => by simp [ino] at h

theorem inorder_closed {a : Arena} (hinv : Inv a) (i : Nat) (hl : live a i) :
    ∃ t, Rep a i t ∧ inorder a i = inoQ t := by
  obtain ⟨t, ht, _, hh, _⟩ := rep_total hinv i hl
  refine ⟨t, ht, ?_⟩
  unfold inorder
  rw [inorder_rep a _ t i ht hh]

end AR
