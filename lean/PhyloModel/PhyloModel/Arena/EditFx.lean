import PhyloModel.Arena.Group
/-! What the two link-changing edits leave in every slot, field by field.
    `compress_node` and the regrouping step of `merge_children` / `resolve` are a fixed sequence of slot writes
    (`splice`, `group`) followed by depth repairs, and a repair writes depths only (`OnlyDepth`).  `SplicedFx` and
    `GroupedFx` give every field but `depth` and the edge table of every slot of the result as a function of the old
    arena; what a user needs (roots, tips, root paths and lengths, the abstraction, names) is read off by `rw`. -/
namespace AR

/-! ### `compress_node` -/

/-- `v` (parent `p`, only child `c`) is a blank tombstone, `c` hangs from `p` by `e`, `p` lists `c` last and no
    longer `v`; nothing else has moved -/
structure SplicedFx (a b : Arena) (v p c : Nat) (e : Option Int) : Prop where
  size : b.size = a.size
  deleted : ∀ i, (nd b i).deleted = if i = v then true else (nd a i).deleted
  parent : ∀ i, (nd b i).parent = if i = v then none else if i = c then some p else (nd a i).parent
  pedge : ∀ i, (nd b i).pedge = if i = v then none else if i = c then e else (nd a i).pedge
  children : ∀ i, (nd b i).children =
    if i = v then [] else if i = p then ((nd a p).children ++ [c]).erase v else (nd a i).children
  name : ∀ i, (nd b i).name = if i = v then none else (nd a i).name
  comment : ∀ i, (nd b i).comment = if i = v then none else (nd a i).comment

theorem splice_fx {a : Arena} {v p c : Nat} (e : Option Int) (hv : v < a.size) (hp : p < a.size) (hc : c < a.size)
    (hpc : p ≠ c) (hvc : v ≠ c) (hvp : v ≠ p) : SplicedFx a (splice a v p c e) v p c e := by
  have hb := nd_splice a v p c e hv hp hc hpc
  refine ⟨by simp [splice], ?_, ?_, ?_, ?_, ?_, ?_⟩
  -- each field of slot `i` is read off `nd_splice`, by the same cases on `i`
  all_goals
    intro i
    rw [hb]
    by_cases h1 : i = v
    · simp [h1, dead]
    · by_cases h2 : i = p
      · subst h2; simp [h1, hpc, removeChild]
      · by_cases h3 : i = c
        · subst h3; simp [h1, h2]
        · simp [h1, h2, h3]

theorem SplicedFx.after {a b b' : Arena} {v p c : Nat} {e : Option Int} (s : SplicedFx a b v p c e)
    (h : OnlyDepth b b') : SplicedFx a b' v p c e :=
  have k := h.fields
  ⟨h.1.trans s.size, fun i => (k i).1.trans (s.deleted i), fun i => (k i).2.1.trans (s.parent i),
    fun i => (k i).2.2.1.trans (s.pedge i), fun i => (k i).2.2.2.1.trans (s.children i),
    fun i => (k i).2.2.2.2.1.trans (s.name i), fun i => (k i).2.2.2.2.2.trans (s.comment i)⟩

theorem SplicedFx.live_iff {a b : Arena} {v p c : Nat} {e : Option Int} (s : SplicedFx a b v p c e) (i : Nat) :
    live b i ↔ live a i ∧ i ≠ v := by
  rw [live, live, s.size, s.deleted]
  by_cases h : i = v
  · simp [h]
  · simp [h]

/-! ### the regrouping step -/

/-- the fresh slot `a.size` hangs from `q` by `pe` and lists `[c1, c2]`, which hang from it by `e1`, `e2`; `q` lists
    the fresh slot last and no longer them; nothing else has moved -/
structure GroupedFx (a b : Arena) (q c1 c2 : Nat) (pe e1 e2 : Option Int) : Prop where
  size : b.size = a.size + 1
  deleted : ∀ i, (nd b i).deleted = if i = a.size then false else (nd a i).deleted
  parent : ∀ i, (nd b i).parent =
    if i = a.size then some q else if i = c1 ∨ i = c2 then some a.size else (nd a i).parent
  pedge : ∀ i, (nd b i).pedge =
    if i = a.size then pe else if i = c1 then e1 else if i = c2 then e2 else (nd a i).pedge
  children : ∀ i, (nd b i).children =
    if i = a.size then [c1, c2]
    else if i = q then ((nd a q).children.erase c1).erase c2 ++ [a.size] else (nd a i).children
  name : ∀ i, (nd b i).name = if i = a.size then none else (nd a i).name
  comment : ∀ i, (nd b i).comment = if i = a.size then none else (nd a i).comment

theorem group_fx {a : Arena} {q c1 c2 : Nat} (pe e1 e2 : Option Int) (hq : q < a.size) (h1 : c1 < a.size)
    (h2 : c2 < a.size) (hq1 : q ≠ c1) (hq2 : q ≠ c2) (h12 : c1 ≠ c2) :
    GroupedFx a (group a q c1 c2 pe e1 e2) q c1 c2 pe e1 e2 := by
  have hb := nd_group a q c1 c2 pe e1 e2 hq h1 h2 hq1 hq2 h12
  refine ⟨by simp [group], ?_, ?_, ?_, ?_, ?_, ?_⟩
  all_goals
    intro i
    rw [hb]
    by_cases g0 : i = a.size
    · simp [g0, wNode]
    · by_cases g1 : i = q
      · subst g1; simp [g0, hq1, hq2, qNode, removeChild]
      · by_cases g2 : i = c1
        · subst g2; simp [g0, g1]
        · by_cases g3 : i = c2
          · subst g3; simp [g0, g1, g2]
          · simp [g0, g1, g2, g3]

theorem GroupedFx.after {a b b' : Arena} {q c1 c2 : Nat} {pe e1 e2 : Option Int}
    (s : GroupedFx a b q c1 c2 pe e1 e2) (h : OnlyDepth b b') : GroupedFx a b' q c1 c2 pe e1 e2 :=
  have k := h.fields
  ⟨h.1.trans s.size, fun i => (k i).1.trans (s.deleted i), fun i => (k i).2.1.trans (s.parent i),
    fun i => (k i).2.2.1.trans (s.pedge i), fun i => (k i).2.2.2.1.trans (s.children i),
    fun i => (k i).2.2.2.2.1.trans (s.name i), fun i => (k i).2.2.2.2.2.trans (s.comment i)⟩

theorem GroupedFx.live_iff {a b : Arena} {q c1 c2 : Nat} {pe e1 e2 : Option Int}
    (s : GroupedFx a b q c1 c2 pe e1 e2) (i : Nat) : live b i ↔ live a i ∨ i = a.size := by
  rw [live, live, s.size, s.deleted]
  by_cases h : i = a.size
  · simp [h]
  · rw [if_neg h, or_iff_left h]
    exact and_congr_left fun _ => ⟨fun k => Nat.lt_of_le_of_ne (Nat.le_of_lt_succ k) h, Nat.lt_succ_of_lt⟩

end AR
