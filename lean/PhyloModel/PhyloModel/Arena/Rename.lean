import PhyloModel.Arena.PartitionsDependOnTree
/-! # Two abstract trees with the same Newick content differ by a renaming of ids

`renameR ρ t` applies `ρ` to every id of `t`.  If `eraseId ta = eraseId tb` (same names, lengths, depths and
ordered topology) and the ids of `ta` are distinct, there is a `ρ` with `renameR ρ ta = tb`; it is injective
on the ids of `ta` when the ids of `tb` are distinct too.  Id-keyed computations (distance matrices) are
transported along such a renaming in `Arena/MatrixDependsOnTree.lean`. -/
namespace AR

mutual
def renameR (ρ : Nat → Nat) : Rose → Rose
  | .node i n l d ks => .node (ρ i) n l d (renameRL ρ ks)
def renameRL (ρ : Nat → Nat) : List Rose → List Rose
  | [] => []
  | k :: ks => renameR ρ k :: renameRL ρ ks
end

def idsRL (ts : List Rose) : List Nat := (nodesRL ts).map Rose.id

theorem idsR_node (i : Nat) (n : Option String) (l : Option Int) (d : Nat) (ks : List Rose) :
    idsR (.node i n l d ks) = i :: idsRL ks := by simp [idsR, idsRL, nodesR, Rose.id]
theorem idsRL_nil : idsRL [] = [] := by simp [idsRL, nodesRL]
theorem idsRL_cons (k : Rose) (ks : List Rose) : idsRL (k :: ks) = idsR k ++ idsRL ks := by
  simp [idsRL, idsR, nodesRL]

mutual
theorem idsR_rename (ρ : Nat → Nat) : ∀ t : Rose, idsR (renameR ρ t) = (idsR t).map ρ
  | .node i n l d ks => by simp only [renameR, idsR_node, List.map_cons, idsRL_rename ρ ks]
theorem idsRL_rename (ρ : Nat → Nat) : ∀ ts : List Rose, idsRL (renameRL ρ ts) = (idsRL ts).map ρ
  | [] => by simp [renameRL, idsRL_nil]
  | t :: ts => by simp only [renameRL, idsRL_cons, List.map_append, idsR_rename ρ t, idsRL_rename ρ ts]
end

mutual
theorem idsR_length_eraseId : ∀ t : Rose, (idsR (eraseId t)).length = (idsR t).length
  | .node i n l d ks => by simp only [eraseId, idsR_node, List.length_cons, idsRL_length_eraseIdL ks]
theorem idsRL_length_eraseIdL : ∀ ts : List Rose, (idsRL (eraseIdL ts)).length = (idsRL ts).length
  | [] => by simp [eraseIdL]
  | t :: ts => by
    simp only [eraseIdL, idsRL_cons, List.length_append, idsR_length_eraseId t, idsRL_length_eraseIdL ts]
end

theorem idsR_length_of_eraseId {s s' : Rose} (h : eraseId s = eraseId s') : (idsR s).length = (idsR s').length := by
  rw [← idsR_length_eraseId s, h, idsR_length_eraseId]
theorem idsRL_length_of_eraseIdL {ts ts' : List Rose} (h : eraseIdL ts = eraseIdL ts') :
    (idsRL ts).length = (idsRL ts').length := by
  rw [← idsRL_length_eraseIdL ts, h, idsRL_length_eraseIdL]

mutual
/-- a map that sends the ids of `s` positionally to the ids of `s'` renames `s` into `s'` -/
theorem rename_of_zip (ρ : Nat → Nat) : ∀ (s s' : Rose), eraseId s = eraseId s' →
    (∀ p ∈ (idsR s).zip (idsR s'), ρ p.1 = p.2) → renameR ρ s = s'
  | .node i n l d ks, .node i' n' l' d' ks', he, h => by
    simp only [eraseId, Rose.node.injEq, true_and] at he
    obtain ⟨rfl, rfl, rfl, hk⟩ := he
    simp only [idsR_node, List.zip_cons_cons, List.mem_cons, forall_eq_or_imp] at h
    simp only [renameR, h.1, renameL_of_zip ρ ks ks' hk h.2]
theorem renameL_of_zip (ρ : Nat → Nat) : ∀ (ts ts' : List Rose), eraseIdL ts = eraseIdL ts' →
    (∀ p ∈ (idsRL ts).zip (idsRL ts'), ρ p.1 = p.2) → renameRL ρ ts = ts'
  | [], [], _, _ => rfl
  | [], _ :: _, he, _ => by simp [eraseIdL] at he
  | _ :: _, [], he, _ => by simp [eraseIdL] at he
  | t :: ts, t' :: ts', he, h => by
    simp only [eraseIdL, List.cons.injEq] at he
    have hlen := idsR_length_of_eraseId he.1
    rw [idsRL_cons, idsRL_cons, List.zip_append hlen] at h
    simp only [renameRL]
    rw [rename_of_zip ρ t t' he.1 (fun p hp => h p (List.mem_append_left _ hp)),
      renameL_of_zip ρ ts ts' he.2 (fun p hp => h p (List.mem_append_right _ hp))]
end

def assoc : List (Nat × Nat) → Nat → Nat
  | [], _ => 0
  | (k, v) :: l, x => if k = x then v else assoc l x

theorem assoc_mem : ∀ (l : List (Nat × Nat)), (l.map (·.1)).Nodup → ∀ p ∈ l, assoc l p.1 = p.2
  | [], _, p, hp => by simp at hp
  | (k, v) :: l, hnd, p, hp => by
    simp only [List.map_cons, List.nodup_cons] at hnd
    rcases List.mem_cons.mp hp with rfl | hp'
    · simp [assoc]
    · have hne : k ≠ p.1 := fun e => hnd.1 (e ▸ List.mem_map_of_mem hp')
      simp only [assoc, hne, ↓reduceIte]
      exact assoc_mem l hnd.2 p hp'

theorem exists_renaming {ta tb : Rose} (he : eraseId ta = eraseId tb) (hnd : (idsR ta).Nodup)
    (hnd' : (idsR tb).Nodup) :
    ∃ ρ : Nat → Nat, renameR ρ ta = tb ∧ ∀ x ∈ idsR ta, ∀ y ∈ idsR ta, ρ x = ρ y → x = y := by
  have hlen := idsR_length_of_eraseId he
  let z := (idsR ta).zip (idsR tb)
  have hz : z.map (·.1) = idsR ta := List.map_fst_zip (Nat.le_of_eq hlen)
  have hren : renameR (assoc z) ta = tb :=
    rename_of_zip (assoc z) ta tb he (fun p hp => assoc_mem z (by rw [hz]; exact hnd) p hp)
  refine ⟨assoc z, hren, ?_⟩
  have : (idsR ta).map (assoc z) = idsR tb := by rw [← idsR_rename, hren]
  exact List.inj_of_nodup_map (assoc z) (idsR ta) (by rw [this]; exact hnd')

/-- the form used for arenas: same erased tree ⇒ renaming -/
theorem absRoot_renaming {a b : Arena} (ga : Good a) (gb : Good b) (ha : AtMostOneRoot a)
    (hb : AtMostOneRoot b) {ta tb : Rose} (hta : absRoot a = .ok ta) (htb : absRoot b = .ok tb)
    (he : erase ta = erase tb) :
    ∃ ρ : Nat → Nat, renameR ρ ta = tb ∧ ∀ x ∈ idsR ta, ∀ y ∈ idsR ta, ρ x = ρ y → x = y :=
  exists_renaming (eraseId_eq_of_erase_eq ta tb 0 (absRoot_levels ga ha hta) (absRoot_levels gb hb htb) he)
    (absRoot_nodes ga ha hta).1 (absRoot_nodes gb hb htb).1

end AR
