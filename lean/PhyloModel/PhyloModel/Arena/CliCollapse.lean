import PhyloModel.Arena.Cli
import PhyloModel.Arena.OpsInv
import PhyloModel.Arena.OneRoot
import PhyloModel.Arena.RepFacts
import PhyloModel.Arena.QRLemmas
import PhyloModel.Arena.CliBase
/-! C18, `phylotree collapse`: the whole loop over the pre-order of the root.  Every step writes one branch
    length in both of its records (the node's `pedge` and the parent's `cedges` entry); steps on different
    nodes do not interfere, the pre-order lists every node below the root exactly once. -/
namespace AR

/-- `node.set_parent(p, Some(v)); parent.set_child_edge(x, Some(v))` -/
def setLen (a : Arena) (x p : Nat) (v : Int) : Arena :=
  let a1 := a.setIfInBounds x { nd a x with pedge := some v }
  a1.setIfInBounds p (setCedge (nd a1 p) x (some v))

theorem nd_setLen (a : Arena) (x p : Nat) (v : Int) (hx : x < a.size) (hp : p < a.size) (hne : p ≠ x) (i : Nat) :
    nd (setLen a x p v) i =
      if i = p then setCedge (nd a p) x (some v)
      else if i = x then { nd a x with pedge := some v } else nd a i := by
  simp only [setLen, nd_set, Array.size_setIfInBounds]
  grind

theorem setLen_size (a : Arena) (x p : Nat) (v : Int) : (setLen a x p v).size = a.size := by
  simp [setLen]

/-- `b` differs from `a` in branch lengths at most (sizes apart) -/
def OnlyLen (a b : Arena) : Prop :=
  ∀ i, (nd b i).children = (nd a i).children ∧ (nd b i).parent = (nd a i).parent ∧
    (nd b i).name = (nd a i).name ∧ (nd b i).comment = (nd a i).comment ∧
    (nd b i).deleted = (nd a i).deleted ∧ (nd b i).depth = (nd a i).depth

theorem OnlyLen.refl (a : Arena) : OnlyLen a a := fun _ => ⟨rfl, rfl, rfl, rfl, rfl, rfl⟩

theorem OnlyLen.trans {a b c : Arena} (h1 : OnlyLen a b) (h2 : OnlyLen b c) : OnlyLen a c := fun i => by
  obtain ⟨e1, e2, e3, e4, e5, e6⟩ := h1 i
  obtain ⟨f1, f2, f3, f4, f5, f6⟩ := h2 i
  exact ⟨f1.trans e1, f2.trans e2, f3.trans e3, f4.trans e4, f5.trans e5, f6.trans e6⟩

/-- every field of every slot after the write, whatever `p` is -/
theorem setLen_fields (a : Arena) (x p : Nat) (v : Int) (hx : x < a.size) :
    OnlyLen a (setLen a x p v) ∧
    (∀ i, (nd (setLen a x p v) i).pedge = if i = x then some v else (nd a i).pedge) ∧
    (∀ i, (nd (setLen a x p v) i).cedges =
      if i = p ∧ p < a.size then alSet (nd a p).cedges x v else (nd a i).cedges) := by
  simp only [OnlyLen, ← forall_and]
  intro i
  simp only [setLen, nd_set, Array.size_setIfInBounds, hx, and_true]
  by_cases h2 : i = x
  · subst h2
    by_cases h1 : i = p ∧ p < a.size
    · obtain ⟨rfl, h⟩ := h1; simp [h, setCedge]
    · simp [h1]
  · by_cases h1 : i = p ∧ p < a.size
    · obtain ⟨rfl, h⟩ := h1; simp [h, h2, setCedge]
    · simp [h1, h2]

/-- The invariant reads branch lengths in three places only: the parent's record of a child's length is the
    child's own, records are kept for children only, a tombstone keeps none.  So an arena that differs from a
    good one in nothing but lengths is good as soon as these three hold of it. -/
theorem Good.of_lengths {a b : Arena} (g : Good a) (hsz : b.size = a.size) (hf : OnlyLen a b)
    (hrec : ∀ i c, live a i → c ∈ (nd a i).children → alGet (nd b i).cedges c = (nd b c).pedge)
    (hdom : ∀ i c, (alGet (nd b i).cedges c).isSome → c ∈ (nd a i).children)
    (htomb : ∀ i, (nd a i).deleted = true → (nd b i).cedges = []) : Good b :=
  g.relink hsz (fun i => ⟨(hf i).2.1, (hf i).2.2.2.2.1, (hf i).2.2.2.2.2, .of_eq (hf i).1⟩) hrec hdom
    fun i hd _ => htomb i hd

theorem setLen_good {a : Arena} (g : Good a) {x p : Nat} (hl : live a x) (hp : (nd a x).parent = some p)
    (v : Int) : Good (setLen a x p v) := by
  obtain ⟨hlp, hmem⟩ := g.1.parent_ok x p hl hp
  obtain ⟨hfr, hpe, hce⟩ := setLen_fields a x p v hl.1
  simp only [hlp.1, and_true] at hce
  refine g.of_lengths (setLen_size a x p v) hfr ?_ ?_ ?_
  · intro i c hli hc
    obtain ⟨_, hpc, _, hrec⟩ := g.1.child_ok i c hli hc
    rw [hce, hpe]
    by_cases h2 : c = x
    · subst h2
      rw [hp] at hpc; cases hpc
      simp [alGet_set]
    · rw [if_neg h2]
      split
      · subst_vars; rw [alGet_set, if_neg h2]; exact hrec
      · exact hrec
  · intro i c hs
    rw [hce] at hs
    by_cases h1 : i = p
    · subst h1
      rw [if_pos rfl, alGet_set] at hs
      by_cases h2 : c = x
      · subst h2; exact hmem
      · rw [if_neg h2] at hs; exact g.1.cedge_dom i c hs
    · rw [if_neg h1] at hs; exact g.1.cedge_dom i c hs
  · intro i hd
    have h1 : i ≠ p := by rintro rfl; rw [hlp.2] at hd; cases hd
    rw [hce, if_neg h1]
    exact (g.2 i hd).2.2

/-- the branch length the loop body leaves on a node with fields `n` -/
def collapsedPedge (thr : Int) (ex : Bool) (n : Node) : Option Int :=
  if ex && n.children.isEmpty then n.pedge else
  match n.parent, n.pedge with
  | some _, some len => if len < thr then some 0 else some len
  | _, l => l

/-- the node's branch is collapsed: it has a parent, it is not an excluded tip, its length is present and
    below the threshold -/
def Collapses (thr : Int) (ex : Bool) (n : Node) : Prop :=
  n.parent.isSome = true ∧ ¬ (ex = true ∧ n.children = []) ∧ ∃ len, n.pedge = some len ∧ len < thr

theorem collapsedPedge_pos {thr : Int} {ex : Bool} {n : Node} (h : Collapses thr ex n) :
    collapsedPedge thr ex n = some 0 := by
  obtain ⟨h1, h2, len, h3, h4⟩ := h
  obtain ⟨p, hp⟩ := Option.isSome_iff_exists.1 h1
  have : (ex && n.children.isEmpty) = false := by simpa using h2
  simp [collapsedPedge, this, hp, h3, h4]

theorem collapsedPedge_neg {thr : Int} {ex : Bool} {n : Node} (h : ¬ Collapses thr ex n) :
    collapsedPedge thr ex n = n.pedge := by
  unfold collapsedPedge
  split
  · rfl
  next hex =>
    split
    next p len hp hl =>
      split
      next hlt =>
        exfalso; apply h
        refine ⟨by simp [hp], ?_, len, hl, hlt⟩
        rintro ⟨rfl, hc⟩
        simp [hc] at hex
      next => exact hl.symm
    next => rfl

theorem collapsedPedge_congr (thr : Int) (ex : Bool) {n m : Node} (h1 : n.parent = m.parent)
    (h2 : n.children = m.children) (h3 : n.pedge = m.pedge) :
    collapsedPedge thr ex n = collapsedPedge thr ex m := by
  simp only [collapsedPedge, h1, h2, h3]

theorem collapseNode_cases (thr : Int) (ex : Bool) (a : Arena) (x : Nat) :
    (∃ p, (nd a x).parent = some p ∧ Collapses thr ex (nd a x) ∧ collapseNode thr ex a x = setLen a x p 0) ∨
    (¬ Collapses thr ex (nd a x) ∧ collapseNode thr ex a x = a) := by
  unfold collapseNode
  simp only
  split
  next hex =>
    right
    refine ⟨?_, rfl⟩
    rintro ⟨_, h2, _⟩
    simp only [Bool.and_eq_true, List.isEmpty_iff] at hex
    exact h2 hex
  next hex =>
    split
    next p len hp hl =>
      split
      next hlt =>
        left
        refine ⟨p, hp, ⟨by simp [hp], ?_, len, hl, hlt⟩, rfl⟩
        rintro ⟨rfl, hc⟩
        simp [hc] at hex
      next hlt =>
        right
        refine ⟨?_, rfl⟩
        rintro ⟨_, _, len', h3, h4⟩
        rw [hl] at h3; cases h3; exact hlt h4
    next hno =>
      right
      refine ⟨?_, rfl⟩
      rintro ⟨h1, _, len', h3, _⟩
      obtain ⟨p, hp⟩ := Option.isSome_iff_exists.1 h1
      exact hno p len' hp h3

theorem collapseNode_spec (thr : Int) (ex : Bool) {b : Arena} (g : Good b) {x : Nat} (hl : live b x) :
    Good (collapseNode thr ex b x) ∧ (collapseNode thr ex b x).size = b.size ∧
    OnlyLen b (collapseNode thr ex b x) ∧
    (∀ i, (nd (collapseNode thr ex b x) i).pedge =
      if i = x then collapsedPedge thr ex (nd b x) else (nd b i).pedge) ∧
    (∀ i, i ≠ x → (nd b x).parent ≠ some i → nd (collapseNode thr ex b x) i = nd b i) := by
  rcases collapseNode_cases thr ex b x with ⟨p, hp, hc, heq⟩ | ⟨hc, heq⟩
  · rw [heq, collapsedPedge_pos hc]
    obtain ⟨hlp, hmem⟩ := g.1.parent_ok x p hl hp
    have hdx := (g.1.child_ok p x hlp hmem).2.2.1
    have hne : p ≠ x := by intro h; subst h; omega
    obtain ⟨hfr, hpe, _⟩ := setLen_fields b x p 0 hl.1
    refine ⟨setLen_good g hl hp 0, setLen_size b x p 0, hfr, hpe, ?_⟩
    intro i h1 h2
    rw [nd_setLen b x p 0 hl.1 hlp.1 hne, if_neg (fun h => h2 (by rw [hp, h])), if_neg h1]
  · rw [heq, collapsedPedge_neg hc]
    refine ⟨g, rfl, OnlyLen.refl b, fun i => ?_, fun _ _ _ => rfl⟩
    split
    · subst_vars; rfl
    · rfl

/-- state of the loop: `a` the arena at the start, `b` the current arena, `done` the nodes already visited -/
structure CState (thr : Int) (ex : Bool) (a b : Arena) (done : List Nat) : Prop where
  good : Good b
  size : b.size = a.size
  frame : ∀ i, (nd b i).children = (nd a i).children ∧ (nd b i).parent = (nd a i).parent ∧
    (nd b i).name = (nd a i).name ∧ (nd b i).comment = (nd a i).comment ∧
    (nd b i).deleted = (nd a i).deleted ∧ (nd b i).depth = (nd a i).depth
  pdone : ∀ i, i ∈ done → (nd b i).pedge = collapsedPedge thr ex (nd a i)
  ptodo : ∀ i, i ∉ done → (nd b i).pedge = (nd a i).pedge
  untouched : ∀ i, i ∉ done → (∀ c, c ∈ done → (nd a c).parent ≠ some i) → nd b i = nd a i

theorem CState.init (thr : Int) (ex : Bool) {a : Arena} (g : Good a) : CState thr ex a a [] :=
  ⟨g, rfl, OnlyLen.refl a, fun _ h => by simp at h, fun _ _ => rfl, fun _ _ _ => rfl⟩

theorem CState.step {thr : Int} {ex : Bool} {a b : Arena} {done : List Nat} (s : CState thr ex a b done)
    {x : Nat} (hx : x ∉ done) (hl : live a x) : CState thr ex a (collapseNode thr ex b x) (x :: done) := by
  obtain ⟨fx1, fx2, _, _, fx5, _⟩ := s.frame x
  have hlb : live b x := ⟨by rw [s.size]; exact hl.1, by rw [fx5]; exact hl.2⟩
  obtain ⟨g', hsz, hfr, hpe, hun⟩ := collapseNode_spec thr ex s.good hlb
  rw [collapsedPedge_congr thr ex fx2 fx1 (s.ptodo x hx)] at hpe
  refine ⟨g', hsz.trans s.size, OnlyLen.trans s.frame hfr, ?_, ?_, ?_⟩
  · intro i hi
    rw [hpe]
    split
    · subst_vars; rfl
    next h => exact s.pdone i ((List.mem_cons.1 hi).resolve_left h)
  · intro i hi
    rw [List.mem_cons, not_or] at hi
    rw [hpe, if_neg hi.1]; exact s.ptodo i hi.2
  · intro i hi hpar
    rw [List.mem_cons, not_or] at hi
    rw [hun i hi.1 (by rw [fx2]; exact hpar x List.mem_cons_self)]
    exact s.untouched i hi.2 (fun c hc => hpar c (List.mem_cons_of_mem _ hc))

theorem CState.fold {thr : Int} {ex : Bool} {a : Arena} : ∀ (l : List Nat) {b : Arena} {done : List Nat},
    CState thr ex a b done → (∀ x ∈ l, live a x) → l.Nodup → (∀ x ∈ l, x ∉ done) →
    CState thr ex a (l.foldl (collapseNode thr ex) b) (l.reverse ++ done)
  | [], _, _, s, _, _, _ => by simpa using s
  | x :: l, b, done, s, hl, hnd, hd => by
    simp only [List.nodup_cons] at hnd
    have s1 := s.step (hd x (by simp)) (hl x (by simp))
    have := CState.fold l s1 (fun y hy => hl y (by simp [hy])) hnd.2 (by
      intro y hy hm
      rcases List.mem_cons.1 hm with h | h
      · subst h; exact hnd.1 hy
      · exact hd y (by simp [hy]) h)
    simpa using this

/-! ### the prescription as an `if` -/

instance decCollapses (thr : Int) (ex : Bool) (n : Node) : Decidable (Collapses thr ex n) :=
  match h : n.pedge with
  | none => isFalse (by rintro ⟨_, _, len, h3, _⟩; rw [h] at h3; cases h3)
  | some len =>
    if h1 : n.parent.isSome = true ∧ ¬ (ex = true ∧ n.children = []) ∧ len < thr then
      isTrue ⟨h1.1, h1.2.1, len, h, h1.2.2⟩
    else isFalse (by
      rintro ⟨a1, a2, len', h3, h4⟩
      rw [h] at h3; cases h3
      exact h1 ⟨a1, a2, h4⟩)

theorem collapsedPedge_eq_ite (thr : Int) (ex : Bool) (n : Node) :
    collapsedPedge thr ex n = if Collapses thr ex n then some 0 else n.pedge := by
  split
  next h => exact collapsedPedge_pos h
  next h => exact collapsedPedge_neg h

theorem not_collapses_dead {a : Arena} (ht : Tomb a) {i : Nat} (h : ¬ live a i) (thr : Int) (ex : Bool) :
    ¬ Collapses thr ex (nd a i) := by
  rintro ⟨h1, _⟩
  by_cases hs : i < a.size
  · have hd : (nd a i).deleted = true := by
      cases hdel : (nd a i).deleted with
      | true => rfl
      | false => exact absurd ⟨hs, hdel⟩ h
    rw [(ht i hd).2.1] at h1; cases h1
  · rw [nd_dead a i (by omega)] at h1; simp [dead] at h1

end AR
