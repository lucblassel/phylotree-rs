import PhyloModel.Arena.QueryMore
import PhyloModel.Arena.QueryRefine
import PhyloModel.Arena.DepthBound
import PhyloModel.Arena.AnswersDependOnTree
/-! # The remaining public read-only functions, against the tree

`get_leaf_names`, `has_unique_tip_names`, `size`, the observers of `Node` and the three normalised balance
indices (`Arena/QueryMore.lean`): what each returns, in terms of the live tips of the arena and — under the
invariant, with one root — of the abstract tree. -/
namespace AR

/-- a decidable check of a `QR` answer turned into the equation (used by the concrete examples) -/
theorem qr_eq_of_check {α : Type} [DecidableEq α] (x : QR α) (q : α)
    (h : (match x with | .ok v => decide (v = q) | _ => false) = true) : x = .ok q := by
  cases x with
  | ok v => simp only [decide_eq_true_eq] at h; rw [h]
  | err k => cases h
  | panic => cases h

theorem leafNames_eq (a : Arena) : leafNames a = (leaves a).map (fun l => (nd a l).name) := rfl

theorem leafNames_length (a : Arena) : (leafNames a).length = nLeaves a := by
  simp [leafNames, nLeaves]

theorem mem_leaves_iff (a : Arena) (i : Nat) : i ∈ leaves a ↔ live a i ∧ (nd a i).children = [] := by
  simp only [leaves, List.mem_filter, List.mem_range, Bool.and_eq_true, isLive_iff, List.isEmpty_iff]
  exact ⟨fun h => h.2, fun h => ⟨h.1.1, h⟩⟩

theorem mem_insertName (seen : List String) (x y : String) : y ∈ insertName seen x ↔ y = x ∨ y ∈ seen := by
  unfold insertName
  split
  next hc =>
    have : x ∈ seen := by simpa using hc
    constructor
    · exact Or.inr
    · rintro (rfl | h)
      · exact this
      · exact h
  next => simp

theorem insertName_length (seen : List String) (x : String) :
    (insertName seen x).length = if x ∈ seen then seen.length else seen.length + 1 := by
  unfold insertName
  by_cases hx : x ∈ seen
  · simp [hx]
  · simp [hx]

theorem distinctNames_none : ∀ (l : List (Option String)) (seen : List String),
    distinctNames l seen = none ↔ none ∈ l
  | [], seen => by simp [distinctNames]
  | none :: rest, seen => by simp [distinctNames]
  | some x :: rest, seen => by
    rw [distinctNames, distinctNames_none rest]
    simp

theorem distinctNames_some : ∀ (l : List (Option String)) (seen out : List String),
    distinctNames l seen = some out →
    out.length ≤ seen.length + l.length ∧
    (out.length = seen.length + l.length ↔ l.Nodup ∧ ∀ x ∈ seen, some x ∉ l)
  | [], seen, out, h => by
    simp only [distinctNames, Option.some.injEq] at h
    subst h
    simp
  | none :: rest, seen, out, h => by simp [distinctNames] at h
  | some x :: rest, seen, out, h => by
    rw [distinctNames] at h
    obtain ⟨k2, k3⟩ := distinctNames_some rest (insertName seen x) out h
    have hlen := insertName_length seen x
    have hmem := mem_insertName seen x
    refine ⟨?_, ?_⟩
    · simp only [List.length_cons]
      split at hlen <;> omega
    · simp only [List.length_cons, List.nodup_cons]
      by_cases hx : x ∈ seen
      · rw [if_pos hx] at hlen
        constructor
        · intro he; omega
        · intro hh
          exact absurd (List.mem_cons_self) (hh.2 x hx)
      · rw [if_neg hx] at hlen
        rw [hlen] at k3
        have e : out.length = seen.length + (rest.length + 1) ↔ out.length = seen.length + 1 + rest.length := by
          omega
        rw [e, k3]
        constructor
        · rintro ⟨hr, hall⟩
          refine ⟨⟨hall x ((hmem x).2 (Or.inl rfl)), hr⟩, ?_⟩
          intro y hy hc
          rcases List.mem_cons.1 hc with he | hc'
          · simp only [Option.some.injEq] at he
            subst he
            exact hx hy
          · exact hall y ((hmem y).2 (Or.inr hy)) hc'
        · rintro ⟨⟨hxr, hr⟩, hall⟩
          refine ⟨hr, ?_⟩
          intro y hy hc
          rcases (hmem y).1 hy with rfl | hy'
          · exact hxr hc
          · exact hall y hy' (List.mem_cons_of_mem _ hc)

/-- **what `has_unique_tip_names` computes**: refused when a live tip has no name, otherwise whether the names
    of the live tips are pairwise distinct (counting distinct names against `n_leaves()` decides exactly that) -/
theorem hasUniqueTipNames_spec (a : Arena) :
    hasUniqueTipNames a =
      if none ∈ leafNames a then .err "UnnamedLeaves" else .ok (decide (leafNames a).Nodup) := by
  unfold hasUniqueTipNames
  cases hd : distinctNames (leafNames a) [] with
  | none =>
    have := (distinctNames_none _ _).1 hd
    simp [this]
  | some out =>
    have hnn : none ∉ leafNames a := by
      intro hc
      rw [(distinctNames_none _ []).2 hc] at hd
      cases hd
    obtain ⟨_, k3⟩ := distinctNames_some _ [] out hd
    simp only [List.length_nil, Nat.zero_add, List.not_mem_nil, false_imp_iff, implies_true, and_true,
      leafNames_length] at k3
    simp only [hnn, ↓reduceIte, QR.ok.injEq]
    rw [Bool.eq_iff_iff]
    simp only [beq_iff_eq, decide_eq_true_eq]
    exact k3

theorem hasUniqueTipNames_err_iff (a : Arena) :
    hasUniqueTipNames a = .err "UnnamedLeaves" ↔ ∃ i, i ∈ leaves a ∧ (nd a i).name = none := by
  rw [hasUniqueTipNames_spec]
  by_cases hn : none ∈ leafNames a
  · simp only [hn, ↓reduceIte, true_iff]
    simp only [leafNames, List.mem_map] at hn
    obtain ⟨i, hi, he⟩ := hn
    exact ⟨i, hi, he⟩
  · simp only [hn, ↓reduceIte, reduceCtorEq, false_iff]
    rintro ⟨i, hi, he⟩
    apply hn
    simp only [leafNames, List.mem_map]
    exact ⟨i, hi, he⟩

theorem hasUniqueTipNames_ok_iff_nodup (a : Arena) (b : Bool) (h : hasUniqueTipNames a = .ok b) :
    b = true ↔ (leafNames a).Nodup := by
  rw [hasUniqueTipNames_spec] at h
  split at h
  · cases h
  · simp only [QR.ok.injEq] at h
    rw [← h]
    simp

/-- textbook `has_unique_tip_names` on a Newick-level tree: refused when a tip is unnamed, otherwise whether
    the tip names, read left to right, are pairwise distinct -/
def uniqueTipNamesNL (t : RoseNL) : QR Bool :=
  if none ∈ leafNamesNL t then .err "UnnamedLeaves" else .ok (decide (leafNamesNL t).Nodup)
def uniqueTipNamesR (t : Rose) : QR Bool := uniqueTipNamesNL (erase t)

theorem hasUniqueTipNames_refines {a : Arena} (g : Good a) (h1 : AtMostOneRoot a) {t : Rose}
    (h : absRoot a = .ok t) : hasUniqueTipNames a = uniqueTipNamesR t := by
  have hp : (leafNames a).Perm (leafNamesR t) := leafNames_refines g h1 h
  rw [hasUniqueTipNames_spec, uniqueTipNamesR, uniqueTipNamesNL, ← leafNamesR]
  have e1 : (none ∈ leafNames a) ↔ (none ∈ leafNamesR t) := hp.mem_iff
  have e2 : (leafNames a).Nodup ↔ (leafNamesR t).Nodup := hp.nodup_iff
  simp only [e1, e2]

/-- **the two records of a branch length agree**: what a live node reports for one of its children
    (`get_child_edge`) is the length recorded on that child (`parent_edge`) — both absent or both the same -/
theorem getChildEdge_child {a : Arena} (hinv : Inv a) {p c : Nat} (hp : live a p) (hc : c ∈ (nd a p).children) :
    getChildEdge a p c = (nd a c).pedge := (hinv.child_ok p c hp hc).2.2.2

theorem getChildEdge_parent {a : Arena} (hinv : Inv a) {i p : Nat} (hl : live a i) (hp : (nd a i).parent = some p) :
    getChildEdge a p i = (nd a i).pedge := by
  obtain ⟨hlp, hmem⟩ := hinv.parent_ok i p hl hp
  exact getChildEdge_child hinv hlp hmem

/-- the table has no stale entries: a reported length belongs to a current child -/
theorem getChildEdge_some_child {a : Arena} (hinv : Inv a) {p c : Nat} {v : Int} (h : getChildEdge a p c = some v) :
    c ∈ (nd a p).children := by
  apply hinv.cedge_dom p c
  unfold getChildEdge at h
  simp [h]

theorem getChildEdge_not_child {a : Arena} (hinv : Inv a) {p c : Nat} (hc : c ∉ (nd a p).children) :
    getChildEdge a p c = none := by
  cases h : getChildEdge a p c with
  | none => rfl
  | some v => exact absurd (getChildEdge_some_child hinv h) hc

theorem isRootNode_iff (a : Arena) (i : Nat) : isRootNode a i = true ↔ (nd a i).parent = none := by
  simp [isRootNode]

theorem root_ok_iff {a : Arena} (g : Good a) (h1 : AtMostOneRoot a) (i : Nat) : root a = .ok i ↔ isRoot a i := by
  constructor
  · intro h
    unfold root at h
    cases hr : getRoot a with
    | none => rw [hr] at h; simp [QR.ofOpt] at h
    | some r =>
      rw [hr] at h
      simp only [QR.ofOpt, QR.ok.injEq] at h
      exact h ▸ getRoot_isRoot hr
  · intro h
    obtain ⟨t, _, hget, huniq, _⟩ := one_tree g.1 h1 i h.1
    rw [huniq i h] at *
    simp [root, hget, QR.ofOpt]

/-- for a node of the tree, `is_root` holds exactly for the node `get_root` returns -/
theorem isRootNode_iff_root {a : Arena} (g : Good a) (h1 : AtMostOneRoot a) {i : Nat} (hl : live a i) :
    isRootNode a i = true ↔ root a = .ok i := by
  rw [isRootNode_iff, root_ok_iff g h1]
  exact ⟨fun h => ⟨hl, h⟩, fun h => h.2⟩

theorem isTip_iff (a : Arena) (i : Nat) : isTip a i = true ↔ (nd a i).children = [] := by
  simp [isTip]

/-- for a node of the tree, `is_tip` holds exactly for the nodes `get_leaves` lists -/
theorem isTip_iff_leaf (a : Arena) {i : Nat} (hl : live a i) : isTip a i = true ↔ i ∈ leaves a := by
  rw [isTip_iff, mem_leaves_iff]
  exact ⟨fun h => ⟨hl, h⟩, fun h => h.2⟩

/-- `get_depth` of a node of the tree is its number of edges to the root: its root path (what
    `get_path_from_root` returns) has `depth + 1` nodes -/
theorem getDepth_path {a : Arena} (hinv : Inv a) (i : Nat) (hl : live a i) :
    ∃ l, Path a l i ∧ pathFromRoot a i = .ok l ∧ l.length = getDepth a i + 1 := by
  obtain ⟨l, hp, hlen⟩ := depth_is_edges_to_root hinv i hl
  exact ⟨l, hp, pathFromRoot_eq hinv.toW hp, hlen⟩

theorem getDepth_below_root {a : Arena} (hinv : Inv a) {r i k : Nat} (hr : isRoot a r) (hb : BelowK a r i k) :
    getDepth a i = k := by
  have := hb.depth_eq hinv
  rw [hinv.root_depth r hr.1 hr.2] at this
  simpa [getDepth] using this

/-- with one root: every node of the tree lies exactly `get_depth` levels below the node `get_root` returns -/
theorem getDepth_levels {a : Arena} (g : Good a) (h1 : AtMostOneRoot a) (i : Nat) (hl : live a i) :
    ∃ r, root a = .ok r ∧ BelowK a r i (getDepth a i) := by
  obtain ⟨r, hroot, _, _, hall⟩ := one_tree g.1 h1 i hl
  obtain ⟨k, hb⟩ := hall i hl
  rw [getDepth_below_root g.1 hroot hb]
  exact ⟨r, (root_ok_iff g h1 r).2 hroot, hb⟩

theorem getDepth_root {a : Arena} (hinv : Inv a) {i : Nat} (hl : live a i) (hr : isRootNode a i = true) :
    getDepth a i = 0 := hinv.root_depth i hl ((isRootNode_iff a i).1 hr)

theorem getDepth_child {a : Arena} (hinv : Inv a) {p c : Nat} (hp : live a p) (hc : c ∈ (nd a p).children) :
    getDepth a c = getDepth a p + 1 := (hinv.child_ok p c hp hc).2.2.1

theorem get_ok {a : Arena} {i : Nat} (hl : live a i) : get a i = .ok (nd a i) := by
  simp [get, (isLive_iff a i).2 hl]

theorem get_err {a : Arena} {i : Nat} (hl : ¬ live a i) : get a i = .err "NodeNotFound" := by
  simp [get, isLive_eq_false hl]

theorem nodeInfo_live {a : Arena} {i : Nat} (hl : live a i) :
    nodeInfo a i = .ok (isTip a i, isRootNode a i, getDepth a i) := by
  simp [nodeInfo, get_ok hl]

theorem nodeInfo_dead {a : Arena} {i : Nat} (hl : ¬ live a i) : nodeInfo a i = .err "NodeNotFound" := by
  simp [nodeInfo, get_err hl]

theorem childEdgeQ_live {a : Arena} {p : Nat} (c : Nat) (hl : live a p) :
    childEdgeQ a p c = .ok (getChildEdge a p c) := by
  simp [childEdgeQ, get_ok hl]

theorem childEdgeQ_dead {a : Arena} {p : Nat} (c : Nat) (hl : ¬ live a p) :
    childEdgeQ a p c = .err "NodeNotFound" := by
  simp [childEdgeQ, get_err hl]

/-- `H n = Σ_{i=2}^{n} 1/i`, by recursion on `n` (independent of the list sum the model evaluates) -/
def harmonicFrom2 : Nat → Rat
  | 0 => 0
  | 1 => 0
  | n + 2 => harmonicFrom2 (n + 1) + 1 / ((n + 2 : Nat) : Rat)

theorem harmonicSum_eq : ∀ n, harmonicSum n = harmonicFrom2 n
  | 0 => rfl
  | 1 => rfl
  | n + 2 => by
    have ih := harmonicSum_eq (n + 1)
    unfold harmonicSum at ih ⊢
    -- split the last term `1 / (n + 2)` off the range, the rest is the induction hypothesis
    rw [harmonicFrom2, ← ih, show n + 2 - 1 = (n + 1 - 1) + 1 by omega, List.range'_concat, List.map_append,
      List.sum_append, show 2 + 1 * (n + 1 - 1) = n + 2 by omega, List.map_singleton, List.sum_cons, List.sum_nil,
      Rat.add_zero]

theorem yuleNorm_eq (s n : Nat) : yuleNorm s n = ((s : Rat) - 2 * (n : Rat) * harmonicFrom2 n) / (n : Rat) := by
  rw [yuleNorm, harmonicSum_eq]

theorem pdaSq_nonneg (i n : Nat) : 0 ≤ pdaSq i n := by
  unfold pdaSq
  rw [Rat.div_def]
  apply Rat.mul_nonneg
  · apply Rat.mul_nonneg <;> exact Rat.natCast_nonneg
  · apply Lean.Grind.Field.IsOrdered.inv_nonneg_iff.2
    apply Rat.mul_nonneg
    apply Rat.mul_nonneg
    all_goals exact Rat.natCast_nonneg

theorem pdaSq_eq (i n : Nat) : pdaSq i n = (i : Rat) ^ 2 / (n : Rat) ^ 3 := by
  unfold pdaSq
  congr 1 <;> grind

/-! ### the divisor is never zero: a rooted tree has at least two tips -/

theorem nLeavesNL_pos : ∀ t : RoseNL, 1 ≤ nLeavesNL t
  | .node n l [] => by rw [nLeavesNL_tip]; omega
  | .node n l (k :: ks) => by
    rw [nLeavesNL_inner]
    have := nLeavesNL_pos k
    simp only [List.map_cons, List.sum_cons]
    omega

theorem two_tips_of_rooted (t : RoseNL) (h : isRootedNL t = true) : 2 ≤ nLeavesNL t := by
  obtain ⟨n, l, ks⟩ := t
  simp only [isRootedNL, RoseNL.kids, beq_iff_eq] at h
  match ks, h with
  | [x, y], _ =>
    rw [nLeavesNL_inner]
    have := nLeavesNL_pos x
    have := nLeavesNL_pos y
    simp only [List.map_cons, List.sum_cons, List.map_nil, List.sum_nil]
    omega

theorem two_tips_of_check {a : Arena} (g : Good a) (h1 : AtMostOneRoot a) (h : checkRootedBinary a = .ok ()) :
    2 ≤ nLeaves a := by
  obtain ⟨b, hr, hb⟩ := (QR.bind_eq_ok _ _ _).1 h
  obtain rfl : b = true := by cases b <;> simp_all
  obtain ⟨r, hroot, _⟩ := (QR.bind_eq_ok _ _ _).1 hr
  obtain ⟨t, ht⟩ := absRoot_total g.1 h1 r ((root_ok_iff g h1 r).1 hroot).1
  rw [isRooted_refines g h1 ht, QR.ok.injEq] at hr
  rw [nLeaves_refines g h1 ht]
  exact two_tips_of_rooted _ hr

/-- whenever `sackin` (or `colless`) answers on a well-formed arena the tree has at least two tips, so the
    divisions by `n` and `n^(3/2)` in the normalisations never meet `n = 0` -/
theorem sackin_ok_two_tips {a : Arena} (g : Good a) (h1 : AtMostOneRoot a) {s : Nat} (h : sackin a = .ok s) :
    2 ≤ nLeaves a :=
  let ⟨_, hc, _⟩ := (QR.bind_eq_ok _ _ _).1 h
  two_tips_of_check g h1 hc

theorem colless_ok_two_tips {a : Arena} (g : Good a) (h1 : AtMostOneRoot a) {c : Nat} (h : colless a = .ok c) :
    2 ≤ nLeaves a :=
  let ⟨_, hc, _⟩ := (QR.bind_eq_ok _ _ _).1 (colless_eq a ▸ h)
  two_tips_of_check g h1 hc

end AR
