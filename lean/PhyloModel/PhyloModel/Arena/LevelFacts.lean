import PhyloModel.Arena.RepFacts
/-! Level order lists exactly the nodes pre-order lists (a permutation): with the other facts about the
    represented tree, every node below the start node is listed exactly once.  It lists every child after
    its parent. -/
namespace LV

mutual
def preT : T → List Nat | .node i ks => i :: preTL ks
def preTL : List T → List Nat | [] => [] | k :: ks => preT k ++ preTL ks
end

theorem preTL_append : ∀ (a b : List T), preTL (a ++ b) = preTL a ++ preTL b
  | [], b => by simp [preTL]
  | x :: a, b => by simp only [List.cons_append, preTL, preTL_append a b, List.append_assoc]

theorem bfsD_perm : ∀ (f : Nat) (q : List (T × Nat)), szL (q.map (·.1)) ≤ f →
    ((bfsD f q).map (·.1)).Perm (preTL (q.map (·.1))) := by
  intro f
  induction f with
  | zero =>
    intro q h
    cases q with
    | nil => simp [bfsD, preTL]
    | cons p q => obtain ⟨t, d⟩ := p; cases t; simp at h
  | succ f ih =>
    intro q h
    cases q with
    | nil => simp [bfsD, preTL]
    | cons p q =>
      obtain ⟨t, d⟩ := p
      cases t with
      | node i ks =>
        simp only [List.map_cons, szL_cons, sz_node] at h
        have hq : szL ((q ++ ks.map (fun k => (k, d + 1))).map (·.1)) ≤ f := by
          have : szL (List.map (fun x => x.1) q ++ ks) = szL (List.map (fun x => x.1) q) + szL ks := by
            generalize List.map (fun x => x.1) q = l
            induction l with
            | nil => simp
            | cons x xs ihx => simp [ihx]; omega
          simp only [List.map_append, List.map_map, Function.comp_def, List.map_id', this]
          omega
        have := ih _ hq
        simp only [bfsD, T.id, T.kids, List.map_cons, preTL, preT]
        simp only [List.map_append, List.map_map, Function.comp_def, List.map_id', preTL_append] at this
        refine (List.Perm.cons i this).trans ?_
        simp only [List.cons_append]
        exact List.Perm.cons i List.perm_append_comm

end LV

namespace AR

mutual
theorem preT_toLV : ∀ t : RTI, LV.preT (toLV t) = pre t
  | .node i ks => by simp only [toLV, LV.preT, pre, preTL_toLVL ks]
theorem preTL_toLVL : ∀ ts : List RTI, LV.preTL (toLVL ts) = preL ts
  | [] => by simp [toLVL, LV.preTL, preL]
  | t :: ts => by simp only [toLVL, LV.preTL, preL, preT_toLV t, preTL_toLVL ts]
end

mutual
theorem sz_toLV : ∀ t : RTI, LV.sz (toLV t) = szR t
  | .node i ks => by simp only [toLV, LV.sz_node, szR, szL_toLVL ks]
theorem szL_toLVL : ∀ ts : List RTI, LV.szL (toLVL ts) = szRL ts
  | [] => by simp [toLVL, szRL]
  | t :: ts => by simp only [toLVL, LV.szL_cons, szRL, sz_toLV t, szL_toLVL ts]
end

theorem levelorder_closed {a : Arena} (hinv : Inv a) (i : Nat) (hl : live a i) :
    ∃ l, levelorder a i = some l ∧ l.Nodup ∧ (∀ v, v ∈ l ↔ ∃ k, BelowK a i v k) ∧ l.head? = some i := by
  obtain ⟨t, ht, _, _, hs⟩ := rep_total hinv i hl
  have h := levelF_rep a (fuelOf a) [i] [(t, 0)] [] (by simp [RepL, ht]) (by simpa [szQ, szRL] using hs)
  have hp := LV.bfsD_perm (fuelOf a) [(toLV t, 0)] (by simpa [sz_toLV] using hs)
  simp only [List.map_cons, List.map_nil, LV.preTL, List.append_nil, preT_toLV] at hp
  refine ⟨_, h, ?_, ?_, ?_⟩
  · simp only [List.reverse_nil, List.nil_append, lvq, List.map_cons, List.map_nil]
    exact hp.nodup_iff.2 (pre_nodup hinv.toW t i ht)
  · intro v
    simp only [List.reverse_nil, List.nil_append, lvq, List.map_cons, List.map_nil]
    rw [hp.mem_iff]
    exact mem_pre_iff hinv.toW t i ht v
  · simp only [List.reverse_nil, List.nil_append, lvq, List.map_cons, List.map_nil]
    cases t with
    | node j ks =>
      simp only [Rep] at ht
      have hf : fuelOf a = (fuelOf a - 1) + 1 := by simp only [fuelOf]; omega
      rw [hf]
      simp [LV.bfsD, toLV, LV.T.id, ht.1]

/-- in `L`, the children of every entry occur later -/
def After (a : Arena) (L : List Nat) : Prop :=
  ∀ L1 x L2, L = L1 ++ x :: L2 → ∀ c ∈ (nd a x).children, c ∈ L2

theorem levelF_after (a : Arena) : ∀ (f : Nat) (q acc L : List Nat), levelF f a q acc = some L →
    ∃ L', L = acc.reverse ++ L' ∧ (∀ x ∈ q, x ∈ L') ∧ After a L'
  | f, [], acc, L, h => by
    have : L = acc.reverse := by cases f <;> simpa [levelF] using h.symm
    exact ⟨[], by simp [this], by simp, by intro L1 x L2 h; simp at h⟩
  | 0, x :: q, acc, L, h => by simp [levelF] at h
  | f + 1, x :: q, acc, L, h => by
    simp only [levelF] at h
    split at h
    · obtain ⟨L', e, hq, haft⟩ := levelF_after a f _ _ _ h
      refine ⟨x :: L', by rw [e]; simp, ?_, ?_⟩
      · intro y hy
        simp only [List.mem_cons] at hy ⊢
        rcases hy with hy | hy
        · exact Or.inl hy
        · exact Or.inr (hq y (by simp [hy]))
      · intro L1 z L2 heq c hc
        cases L1 with
        | nil =>
          simp only [List.nil_append, List.cons.injEq] at heq
          obtain ⟨rfl, rfl⟩ := heq
          exact hq c (by simp [hc])
        | cons y L1' =>
          simp only [List.cons_append, List.cons.injEq] at heq
          exact haft L1' z L2 heq.2 c hc
    · cases h

theorem levelorder_after {a : Arena} {r : Nat} {order : List Nat} (h : levelorder a r = some order) :
    After a order := by
  obtain ⟨L', e, _, haft⟩ := levelF_after a _ _ _ _ h
  simp only [List.reverse_nil, List.nil_append] at e
  rw [e]; exact haft

theorem After.reverse {a : Arena} {L : List Nat} (h : After a L) :
    ∀ T1 x T2, L.reverse = T1 ++ x :: T2 → ∀ c ∈ (nd a x).children, c ∈ T1 := by
  intro T1 x T2 heq c hc
  have : L = T2.reverse ++ x :: T1.reverse := by
    have := congrArg List.reverse heq
    simpa using this
  have := h _ _ _ this c hc
  simpa using this

end AR
