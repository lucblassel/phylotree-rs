import PhyloModel.Arena.Basic
/-! Blank tombstones (`Tomb`), the last step of `prune` (unlinking and tombstoning a childless node), and `prune`
    itself as a recursion on fuel. -/
namespace AR

def Tomb (a : Arena) : Prop :=
  ∀ i, (nd a i).deleted = true → (nd a i).children = [] ∧ (nd a i).parent = none ∧ (nd a i).cedges = []

/-- `Node::remove_child`; its `HasNoChild` error is not modelled: under `Inv.parent_ok` the child is always there -/
def removeChild (n : Node) (c : Nat) : Node :=
  { n with children := n.children.erase c, cedges := alErase n.cedges c }

/-- last two statements of `Tree::prune`: unlink from parent, tombstone -/
def finish (a : Arena) (x : Nat) : Arena :=
  let a1 := match (nd a x).parent with
    | some p => a.setIfInBounds p (removeChild (nd a p) x)
    | none => a
  a1.setIfInBounds x dead

theorem nd_dead' (a : Arena) (i : Nat) (h : a.size ≤ i) : nd a i = dead := nd_dead a i h

theorem live_lt {a : Arena} {i : Nat} (h : live a i) : i < a.size := h.1

theorem mem_removeChild {n : Node} (h : n.children.Nodup) (x c : Nat) :
    c ∈ (removeChild n x).children ↔ c ∈ n.children ∧ c ≠ x := by
  show c ∈ n.children.erase x ↔ _
  rw [h.mem_erase_iff, and_comm]

theorem alGet_removeChild (n : Node) (x c : Nat) :
    alGet (removeChild n x).cedges c = if c = x then none else alGet n.cedges c :=
  alGet_erase n.cedges x c

theorem finish_nd (a : Arena) (x i : Nat) (hx : x < a.size) :
    nd (finish a x) i =
      if i = x then dead else if (nd a x).parent = some i then removeChild (nd a i) x else nd a i := by
  unfold finish
  cases (nd a x).parent with
  | none => simp [nd_set, hx]
  | some p =>
    simp only [nd_set, Array.size_setIfInBounds, hx, and_true, Option.some.injEq]
    by_cases hi : p = i
    · subst hi
      by_cases hp : p < a.size
      · simp [hp]
      · simp [hp, nd_dead a p (Nat.le_of_not_lt hp), removeChild, dead, alErase]
    · simp [hi, Ne.symm hi]

theorem live_finish (a : Arena) (x i : Nat) (hx : x < a.size) : live (finish a x) i ↔ live a i ∧ i ≠ x := by
  have hsz : (finish a x).size = a.size := by unfold finish; split <;> simp
  rw [live, live, hsz, finish_nd a x i hx]
  by_cases hi : i = x
  · simp [hi, dead]
  · rw [if_neg hi]; split <;> simp [hi, removeChild]

/-- `Tree::prune` with fuel; `none` = error or fuel exhausted -/
def pruneF : Nat → Arena → Nat → Option Arena
  | 0, _, _ => none
  | f + 1, a, x =>
    if x < a.size ∧ (nd a x).deleted = false then
      match (nd a x).children.foldlM (fun acc c => pruneF f acc c) a with
      | none => none
      | some a1 =>
        if x < a1.size ∧ (nd a1 x).deleted = false then some (finish a1 x) else none
    else none

theorem foldlM_rel {α β : Type} {R : β → β → Prop} (hr : ∀ b, R b b) (ht : ∀ ⦃a b c⦄, R a b → R b c → R a c)
    (g : β → α → Option β) (hg : ∀ b x b', g b x = some b' → R b b') :
    ∀ (l : List α) (b b' : β), l.foldlM g b = some b' → R b b' := by
  intro l
  induction l with
  | nil => intro b b' h; cases h; exact hr b
  | cons x l ih =>
    intro b b' h
    rw [List.foldlM_cons] at h
    cases hx : g b x with
    | none => rw [hx] at h; cases h
    | some b1 => rw [hx] at h; exact ht (hg b x b1 hx) (ih b1 b' h)

theorem foldlM_step {α : Type} (g g' : α → Nat → Option α)
    (h : ∀ acc c r, g acc c = some r → g' acc c = some r) :
    ∀ (cs : List Nat) (a r : α), cs.foldlM g a = some r → cs.foldlM g' a = some r := by
  intro cs
  induction cs with
  | nil => intro a r hr; simpa using hr
  | cons c cs ih =>
    intro a r hr
    simp only [List.foldlM_cons, Option.bind_eq_bind] at hr ⊢
    cases hg : g a c with
    | none => simp [hg] at hr
    | some a1 =>
      simp only [hg, Option.bind_some] at hr
      simp only [h a c a1 hg, Option.bind_some]
      exact ih a1 r hr

/-- A fold that succeeds at every step: the invariant `P done rest` speaks of the elements already folded and
    of those still to come, the step moves the head of `rest` to the end of `done`. -/
theorem foldlM_split {α β : Type} (g : β → α → Option β) (P : List α → List α → β → Prop)
    (step : ∀ done c rest b, P done (c :: rest) b → ∃ b', g b c = some b' ∧ P (done ++ [c]) rest b') :
    ∀ (cs done : List α) (b : β), P done cs b → ∃ b', cs.foldlM g b = some b' ∧ P (done ++ cs) [] b' := by
  intro cs
  induction cs with
  | nil => exact fun done b h => ⟨b, rfl, by rwa [List.append_nil]⟩
  | cons c cs ih =>
    intro done b h
    obtain ⟨b1, h1, p1⟩ := step done c cs b h
    obtain ⟨b', h2, p2⟩ := ih (done ++ [c]) b1 p1
    exact ⟨b', by rw [List.foldlM_cons, h1]; exact h2, by rwa [List.append_assoc] at p2⟩

theorem pruneF_lift {R : Arena → Arena → Prop} (hr : ∀ a, R a a) (ht : ∀ ⦃a b c⦄, R a b → R b c → R a c)
    (step : ∀ a x, R a (finish a x)) : ∀ (f : Nat) (a : Arena) (x : Nat) (a' : Arena), pruneF f a x = some a' → R a a'
  | 0, _, _, _, h => by cases h
  | f + 1, a, x, a', h => by
    rw [pruneF] at h
    split at h
    · split at h
      · cases h
      next a1 h1 =>
        split at h
        · cases h
          exact ht (foldlM_rel hr ht _ (fun b c b' hc => pruneF_lift hr ht step f b c b' hc) _ _ _ h1) (step a1 x)
        · cases h
    · cases h

/-- Fuel monotonicity: decouples the executable model's generous fuel from the exact depth bounds of the
    invariant proofs. -/
theorem pruneF_mono (f g : Nat) (hfg : f ≤ g) (a : Arena) (x : Nat) (a' : Arena)
    (h : pruneF f a x = some a') : pruneF g a x = some a' := by
  induction f generalizing g a x a' with
  | zero => simp [pruneF] at h
  | succ f ih =>
    obtain _ | g := g
    · exact absurd hfg (Nat.not_succ_le_zero f)
    rw [pruneF] at h ⊢
    split at h
    · next hx =>
      rw [if_pos hx]
      cases hfold : (nd a x).children.foldlM (fun acc c => pruneF f acc c) a with
      | none => simp [hfold] at h
      | some a1 =>
        rw [foldlM_step _ _ (fun acc c r hr => ih g (Nat.le_of_succ_le_succ hfg) acc c r hr) _ _ _ hfold]
        simpa [hfold] using h
    · simp at h

end AR
