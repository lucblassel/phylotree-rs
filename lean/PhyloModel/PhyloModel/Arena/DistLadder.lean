import PhyloModel.Arena.DistRescale
import PhyloModel.Arena.ResolvePost
/-! C11, `ladderize`: only the order inside child lists changes, so every answer of `get_distance`
    (length, edge count, errors) is unchanged.  No invariant is needed. -/
namespace AR

theorem PermKids.pathFromRoot {a b : Arena} (h : PermKids a b) (x : Nat) : pathFromRoot b x = pathFromRoot a x :=
  pathFromRoot_congr h.1 (hpar := fun i => (h.2 i).2.1) (hdel := fun i => (h.2 i).2.2.2.2.1) x

theorem PermKids.distance {a b : Arena} (h : PermKids a b) (x y : Nat) : distance b x y = distance a x y := by
  have hpe : (fun i => (nd b i).pedge) = (fun i => (nd a i).pedge) := funext fun i => (h.2 i).2.2.1
  unfold AR.distance
  simp only [h.pathFromRoot, hpe]

/-- **`ladderize` keeps every node-to-node distance**, for all node ids and every outcome -/
theorem ladderize_distance (a : Arena) (x y : Nat) : distance (ladderize a).1 x y = distance a x y :=
  (ladderize_frame a).distance x y

theorem ladderize_pathFromRoot (a : Arena) (x : Nat) : pathFromRoot (ladderize a).1 x = pathFromRoot a x :=
  (ladderize_frame a).pathFromRoot x

theorem ladderize_commonAncestor (a : Arena) (x y : Nat) :
    commonAncestor (ladderize a).1 x y = commonAncestor a x y := by
  unfold commonAncestor
  simp only [ladderize_pathFromRoot]

end AR
