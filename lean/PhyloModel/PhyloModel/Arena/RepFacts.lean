import PhyloModel.Arena.Traverse
import PhyloModel.Arena.PathFacts
import PhyloModel.Arena.DepthBound
/-! What the represented tree of a live slot contains: exactly the nodes below the slot, each once; hence
    its size is at most the arena size and the fuel of the executable traversals always suffices. -/
namespace AR

theorem rep_head {a : Arena} (t : RTI) (i : Nat) (h : Rep a i t) : i ∈ pre t := by
  rw [pre_eq, h.id_eq]; exact List.mem_cons_self

theorem pre_below {a : Arena} {r : Nat → Nat} (w : W a r) : ∀ (t : RTI) (i : Nat), Rep a i t →
    ∀ v ∈ pre t, ∃ k, BelowK a i v k := by
  intro t
  induction t using RTI.ind with
  | _ j ks ih =>
    intro i h v hv
    obtain ⟨rfl, hl, hc, hk⟩ := rep_iff.1 h
    rw [pre_eq, preL_eq, List.mem_cons, List.mem_flatMap] at hv
    rcases hv with rfl | ⟨k, hm, hv⟩
    · exact ⟨0, BelowK.refl hl⟩
    · obtain ⟨n, hb⟩ := ih k hm k.id (hk k hm) v hv
      exact ⟨n + 1, hb.under_child w hl (hc ▸ List.mem_map_of_mem hm)⟩

theorem preL_below {a : Arena} {r : Nat → Nat} (w : W a r) : ∀ (ts : List RTI) (cs : List Nat), RepL a cs ts →
    ∀ v ∈ preL ts, ∃ c ∈ cs, ∃ k, BelowK a c v k := by
  intro ts cs h v hv
  obtain ⟨rfl, hk⟩ := repL_iff.1 h
  rw [preL_eq, List.mem_flatMap] at hv
  obtain ⟨k, hm, hv⟩ := hv
  exact ⟨k.id, List.mem_map_of_mem hm, pre_below w k k.id (hk k hm) v hv⟩

/-- the trees below distinct children of one node share no node -/
theorem preL_nodup_of {a : Arena} {r : Nat → Nat} (w : W a r) {x : Nat} (hlx : live a x) (ts : List RTI)
    (hsub : ∀ k ∈ ts, k.id ∈ (nd a x).children) (hnd : (ts.map RTI.id).Nodup) (hk : ∀ k ∈ ts, Rep a k.id k)
    (hpre : ∀ k ∈ ts, (pre k).Nodup) : (ts.flatMap pre).Nodup := by
  rw [List.Nodup, List.pairwise_flatMap]
  refine ⟨hpre, (List.pairwise_map.1 hnd).imp_of_mem ?_⟩
  intro k k' hm hm' hne u hu _ hu' e
  subst e
  obtain ⟨_, hb⟩ := pre_below w k k.id (hk k hm) u hu
  obtain ⟨_, hb'⟩ := pre_below w k' k'.id (hk k' hm') u hu'
  exact BelowK.disjoint w hlx (hsub k hm) (hsub k' hm') hne hb hb'

theorem pre_nodup {a : Arena} {r : Nat → Nat} (w : W a r) : ∀ (t : RTI) (i : Nat), Rep a i t → (pre t).Nodup := by
  intro t
  induction t using RTI.ind with
  | _ j ks ih =>
    intro i h
    obtain ⟨rfl, hl, hc, hk⟩ := rep_iff.1 h
    rw [pre_eq, preL_eq, List.nodup_cons]
    refine ⟨fun hin => ?_, preL_nodup_of w hl ks (fun k hm => hc ▸ List.mem_map_of_mem hm) (hc ▸ w.nodup i) hk
      (fun k hm => ih k hm k.id (hk k hm))⟩
    -- a node is not below one of its children: ranks grow
    obtain ⟨k, hm, hv⟩ := List.mem_flatMap.1 hin
    obtain ⟨n, hb⟩ := pre_below w k k.id (hk k hm) i hv
    have h1 := (w.child_ok i k.id hl (hc ▸ List.mem_map_of_mem hm)).2.2
    have h2 := BelowK.rank w hb
    omega

theorem preL_nodup {a : Arena} {r : Nat → Nat} (w : W a r) : ∀ (ts : List RTI) (x : Nat) (cs : List Nat),
    live a x → (∀ c ∈ cs, c ∈ (nd a x).children) → cs.Nodup → RepL a cs ts → (preL ts).Nodup := by
  intro ts x cs hlx hsub hnd h
  obtain ⟨rfl, hk⟩ := repL_iff.1 h
  rw [preL_eq]
  exact preL_nodup_of w hlx ts (fun k hm => hsub _ (List.mem_map_of_mem hm)) hnd hk
    (fun k hm => pre_nodup w k k.id (hk k hm))

theorem pre_closed {a : Arena} : ∀ (t : RTI) (i : Nat), Rep a i t →
    ∀ p ∈ pre t, ∀ c ∈ (nd a p).children, c ∈ pre t := by
  intro t
  induction t using RTI.ind with
  | _ j ks ih =>
    intro i h p hp c hc
    obtain ⟨rfl, _, hcs, hk⟩ := rep_iff.1 h
    rw [pre_eq, preL_eq, List.mem_cons, List.mem_flatMap] at hp ⊢
    right
    rcases hp with rfl | ⟨k, hm, hp⟩
    · obtain ⟨k, hm, rfl⟩ := List.mem_map.1 (hcs ▸ hc)
      exact ⟨k, hm, rep_head k k.id (hk k hm)⟩
    · exact ⟨k, hm, ih k hm k.id (hk k hm) p hp c hc⟩

theorem preL_closed {a : Arena} : ∀ (ts : List RTI) (cs : List Nat), RepL a cs ts →
    ∀ p ∈ preL ts, ∀ c ∈ (nd a p).children, c ∈ preL ts := by
  intro ts cs h p hp c hc
  obtain ⟨_, hk⟩ := repL_iff.1 h
  rw [preL_eq, List.mem_flatMap] at hp ⊢
  obtain ⟨k, hm, hp⟩ := hp
  exact ⟨k, hm, pre_closed k k.id (hk k hm) p hp c hc⟩

theorem mem_pre_iff {a : Arena} {r : Nat → Nat} (w : W a r) (t : RTI) (i : Nat) (h : Rep a i t) (v : Nat) :
    v ∈ pre t ↔ ∃ k, BelowK a i v k := by
  constructor
  · exact pre_below w t i h v
  · rintro ⟨k, hb⟩
    induction hb with
    | refl _ => exact rep_head t i h
    | step _ hl hp ih => exact pre_closed t i h _ ih _ (w.parent_ok _ _ hl hp).2

mutual
theorem szR_pre : ∀ t : RTI, szR t = (pre t).length
  | .node _ ks => by simp only [szR, pre, List.length_cons, szRL_preL ks]; omega
theorem szRL_preL : ∀ ts : List RTI, szRL ts = (preL ts).length
  | [] => by simp [szRL, preL]
  | t :: ts => by simp only [szRL, preL, List.length_append, szR_pre t, szRL_preL ts]
end

mutual
theorem height_le_szR : ∀ t : RTI, height t ≤ szR t
  | .node _ ks => by simp only [height, szR]; have := heightL_le_szRL ks; omega
theorem heightL_le_szRL : ∀ ts : List RTI, heightL ts ≤ szRL ts
  | [] => by simp [heightL]
  | t :: ts => by
    simp only [heightL, szRL]
    have := height_le_szR t
    have := heightL_le_szRL ts
    omega
end

theorem szR_le_size {a : Arena} {r : Nat → Nat} (w : W a r) (t : RTI) (i : Nat) (h : Rep a i t) :
    szR t ≤ a.size := by
  rw [szR_pre]
  apply pigeon _ _ (pre_nodup w t i h)
  intro v hv
  obtain ⟨k, hb⟩ := pre_below w t i h v hv
  exact hb.is_live.1

theorem rep_total {a : Arena} (hinv : Inv a) (i : Nat) (hl : live a i) :
    ∃ t, Rep a i t ∧ szR t ≤ a.size ∧ height t ≤ fuelOf a ∧ szR t ≤ fuelOf a := by
  obtain ⟨t, ht⟩ := rep_exists a hinv a.size (depth_le_size hinv) (a.size - (nd a i).depth) i hl (Nat.le_refl _)
  have h1 := szR_le_size hinv.toW t i ht
  have h2 := height_le_szR t
  exact ⟨t, ht, h1, by simp only [fuelOf]; omega, by simp only [fuelOf]; omega⟩

/-- `get_subtree`/`preorder` and `postorder` under the invariant: with the fuel the executable model
    supplies they return the pre-order (resp. post-order) of the represented tree, which lists exactly the
    nodes below the start node, each once -/
theorem traversals_total {a : Arena} (hinv : Inv a) (i : Nat) (hl : live a i) :
    ∃ t, Rep a i t ∧ preorderF (fuelOf a) a i = some (pre t) ∧ postorderF (fuelOf a) a i = some (post t) ∧
      (pre t).Nodup ∧ (post t).Nodup ∧ (∀ v, v ∈ pre t ↔ ∃ k, BelowK a i v k) ∧
      (∀ v, v ∈ post t ↔ ∃ k, BelowK a i v k) := by
  obtain ⟨t, ht, _, hh, _⟩ := rep_total hinv i hl
  have hnd := pre_nodup hinv.toW t i ht
  refine ⟨t, ht, preorder_rep a t _ i ht hh, postorder_rep a t _ i ht hh, hnd,
    (post_perm t).nodup_iff.2 hnd, mem_pre_iff hinv.toW t i ht, fun v => ?_⟩
  rw [(post_perm t).mem_iff]
  exact mem_pre_iff hinv.toW t i ht v

end AR
