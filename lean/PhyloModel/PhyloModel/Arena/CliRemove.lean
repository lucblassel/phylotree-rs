import PhyloModel.Arena.Cli
import PhyloModel.Arena.OpsInv
import PhyloModel.Arena.OneRoot
import PhyloModel.Arena.DistPrune
import PhyloModel.Arena.DistCompress
import PhyloModel.Arena.QRLemmas
import PhyloModel.Arena.CliBase
/-! C18, `phylotree remove`: the whole loop.  Every named tip is pruned together with the ancestors that lose
    all their children (so that no new tip appears), every prune keeps the distances between the survivors,
    the final `compress` keeps the tips and the lengths between them and leaves no one-child non-root node. -/
namespace AR

/-! ### the loop of `cliRemove`, named piece by piece -/

/-- the body of the loop once the name is resolved to the slot `x` -/
def removeNode (a : Arena) (x : Nat) : QR Arena :=
  if !(nd a x).children.isEmpty then .err "NotATip" else
  match prune a x with
  | (a', .ok _) => .ok (pruneEmptied (fuelOf a) a' (nd a x).parent)
  | _ => .err "PruneFailed"

def removeStep (a : Arena) (name : String) : QR Arena :=
  QR.ofOpt (getByName a name) "NoSuchName" >>= removeNode a

/-- the final `tree.compress().unwrap()` -/
def compressQ (a1 : Arena) : QR Arena :=
  match compress a1 with
  | (a2, .ok _) => .ok a2
  | (_, .err k) => .err k
  | _ => .err "CompressFailed"

theorem cliRemove_eq (a : Arena) (tips : List String) :
    cliRemove a tips = (tips.foldlM removeStep a >>= compressQ) := by
  unfold cliRemove
  -- `cliRemove` is `foldlM body a >>= rest`: enough that `body` is `removeStep` and `rest` is `compressQ`, pointwise
  refine congr (congrArg _ (congrArg (List.foldlM · a tips) (funext fun a => funext fun name => ?_)))
    (funext fun a1 => ?_)
  · unfold removeStep
    cases getByName a name with
    | none => rfl
    | some x =>
      simp only [QR.ofOpt, QR.bind_ok, removeNode]
      split
      · rfl
      · rcases prune a x with ⟨a', o⟩
        cases o <;> rfl
  · unfold compressQ
    rcases compress a1 with ⟨a2, o⟩
    cases o <;> rfl

/-! ### the instrumented loop: also returns the slots that the names resolved to, in order -/

def removeLoopT : Arena → List String → QR (Arena × List Nat)
  | a, [] => .ok (a, [])
  | a, name :: rest =>
    match getByName a name with
    | none => .err "NoSuchName"
    | some x =>
      match removeNode a x with
      | .ok a1 =>
        match removeLoopT a1 rest with
        | .ok (a2, xs) => .ok (a2, x :: xs)
        | .err k => .err k
        | .panic => .panic
      | .err k => .err k
      | .panic => .panic

/-- `cliRemove` together with the list of pruned tips (the slots the names resolved to, in order) -/
def cliRemoveTrace (a : Arena) (tips : List String) : QR (Arena × List Nat) :=
  match removeLoopT a tips with
  | .ok (a1, xs) =>
    match compressQ a1 with
    | .ok a2 => .ok (a2, xs)
    | .err k => .err k
    | .panic => .panic
  | .err k => .err k
  | .panic => .panic

theorem removeLoopT_fst : ∀ (tips : List String) (a : Arena),
    tips.foldlM removeStep a = (removeLoopT a tips).fst
  | [], a => rfl
  | name :: rest, a => by
    rw [List.foldlM_cons, removeLoopT, removeStep]
    cases getByName a name with
    | none => rfl
    | some x =>
      simp only [QR.ofOpt, QR.bind_ok]
      cases removeNode a x with
      | ok a1 =>
        simp only [QR.bind_ok]
        rw [removeLoopT_fst rest a1]
        cases removeLoopT a1 rest <;> rfl
      | err k => rfl
      | panic => rfl

theorem cliRemoveTrace_fst (a : Arena) (tips : List String) :
    cliRemove a tips = (cliRemoveTrace a tips).fst := by
  rw [cliRemove_eq, removeLoopT_fst, cliRemoveTrace]
  cases removeLoopT a tips with
  | ok p =>
    obtain ⟨a1, xs⟩ := p
    simp only [QR.fst, QR.bind_ok]
    cases compressQ a1 <;> rfl
  | err k => rfl
  | panic => rfl

theorem cliRemove_ok_iff (a a' : Arena) (tips : List String) :
    cliRemove a tips = .ok a' ↔ ∃ xs, cliRemoveTrace a tips = .ok (a', xs) := by
  rw [cliRemoveTrace_fst]
  rcases cliRemoveTrace a tips with ⟨a2, xs⟩ | k | _ <;> simp [QR.fst]

theorem removeLoopT_cons_inv {b b2 : Arena} {name : String} {rest : List String} {ys : List Nat}
    (h : removeLoopT b (name :: rest) = .ok (b2, ys)) :
    ∃ x b1 xs, ys = x :: xs ∧ getByName b name = some x ∧ removeNode b x = .ok b1 ∧
      removeLoopT b1 rest = .ok (b2, xs) := by
  rw [removeLoopT] at h
  split at h
  · cases h
  next x hname =>
    split at h
    next b1 hrn =>
      split at h
      next b2' xs hloop => cases h; exact ⟨x, b1, xs, rfl, hname, hrn, hloop⟩
      · cases h
      · cases h
    · cases h
    · cases h

/-! ### `b` is `a` with some nodes removed -/

structure Shrunk (a b : Arena) : Prop where
  sub : ∀ i, live b i → live a i
  par : ∀ i, live b i → (nd b i).parent = (nd a i).parent
  pedge : ∀ i, live b i → (nd b i).pedge = (nd a i).pedge
  name : ∀ i, live b i → (nd b i).name = (nd a i).name
  kids : ∀ i c, live b i → c ∈ (nd b i).children → c ∈ (nd a i).children
  dist : ∀ x y, live b x → live b y → distance b x y = distance a x y

theorem Shrunk.refl (a : Arena) : Shrunk a a :=
  ⟨fun _ h => h, fun _ _ => rfl, fun _ _ => rfl, fun _ _ => rfl, fun _ _ _ h => h, fun _ _ _ _ => rfl⟩

theorem Shrunk.trans {a b c : Arena} (h1 : Shrunk a b) (h2 : Shrunk b c) : Shrunk a c := by
  refine ⟨fun i h => h1.sub i (h2.sub i h), ?_, ?_, ?_, ?_, ?_⟩
  · intro i h; rw [h2.par i h, h1.par i (h2.sub i h)]
  · intro i h; rw [h2.pedge i h, h1.pedge i (h2.sub i h)]
  · intro i h; rw [h2.name i h, h1.name i (h2.sub i h)]
  · intro i k h hk; exact h1.kids i k (h2.sub i h) (h2.kids i k h hk)
  · intro x y hx hy; rw [h2.dist x y hx hy, h1.dist x y (h2.sub x hx) (h2.sub y hy)]

theorem Shrunk.roots {a b : Arena} (h : Shrunk a b) : RootsSub a b :=
  fun i ⟨hl, hp⟩ => ⟨h.sub i hl, by rw [← h.par i hl]; exact hp⟩

theorem PruneOK2.shrunk {a a1 : Arena} {c : Nat} (ok : PruneOK2 a a1 c) (hinv : Inv a) : Shrunk a a1 := by
  refine ⟨ok.sub, fun i h => (ok.parent_eq h).1, fun i h => (ok.parent_eq h).2, ?_, ?_,
    fun x y hx hy => ok.distance hinv hx hy⟩
  · intro i h
    rcases ok.slot h with e | e <;> rw [e] <;> rfl
  · intro i k h hk
    rcases ok.slot h with e | e <;> rw [e] at hk
    · exact hk
    · exact List.mem_of_mem_erase hk

/-! ### removal of the emptied ancestors: no new tip -/

def NoNewTipBut (a b : Arena) (o : Option Nat) : Prop :=
  ∀ i, live b i → some i ≠ o → (nd b i).children = [] → (nd b i).parent.isSome = true → (nd a i).children = []

theorem NoNewTipBut.refl (a : Arena) : NoNewTipBut a a none := fun _ _ _ hc _ => hc

theorem PruneOK2.tip {a b b1 : Arena} {x : Nat} (ok : PruneOK2 b b1 x) (gb : Good b) (sh : Shrunk a b)
    (nn : NoNewTipBut a b (some x)) (hlx : live b x) (hch : (nd b x).children = []) :
    Good b1 ∧ Shrunk b b1 ∧ (∀ i, live b1 i ↔ live b i ∧ i ≠ x) ∧ NoNewTipBut a b1 (nd b x).parent ∧
      ∀ q, (nd b x).parent = some q → (nd a q).children ≠ [] := by
  have hlv := ok.tip_live gb.1 hlx hch
  refine ⟨⟨ok.inv, ok.tomb⟩, ok.shrunk gb.1, hlv, ?_, ?_⟩
  · intro i hl hne hc hp
    obtain ⟨hl', hix⟩ := (hlv i).1 hl
    rw [ok.same i hl (fun e => hne e.symm)] at hc hp
    exact nn i hl' (fun e => hix (Option.some.inj e)) hc hp
  · intro q hq
    obtain ⟨hlq, hmem⟩ := gb.1.parent_ok x q hlx hq
    exact List.ne_nil_of_mem (sh.kids q x hlq hmem)

theorem pruneEmptied_spec (a : Arena) : ∀ (f : Nat) (c : Arena) (o : Option Nat), Good c → Shrunk a c →
    (∀ p, o = some p → live c p → (nd c p).depth < f) →
    NoNewTipBut a c o →
    (∀ p, o = some p → live c p → (nd a p).children ≠ []) →
    Good (pruneEmptied f c o) ∧ Shrunk a (pruneEmptied f c o) ∧ Shrunk c (pruneEmptied f c o) ∧
    NoNewTipBut a (pruneEmptied f c o) none ∧
    (∀ i, live c i → ¬ live (pruneEmptied f c o) i → (nd a i).children ≠ []) := by
  intro f
  induction f with
  | zero =>
    intro c o g sh hf nn _
    refine ⟨g, sh, Shrunk.refl c, ?_, fun i h h' => absurd h h'⟩
    intro i hl _ hc hp
    by_cases hio : some i = o
    · exact absurd (hf i hio.symm hl) (Nat.not_lt_zero _)
    · exact nn i hl hio hc hp
  | succ f ih =>
    intro c o g sh hf nn hkid
    cases o with
    | none =>
      refine ⟨g, sh, Shrunk.refl c, nn, fun i h h' => absurd h h'⟩
    | some p =>
      by_cases hcond : (isLive c p && (nd c p).children.isEmpty && (nd c p).parent.isSome) = true
      · have hrw : pruneEmptied (f + 1) c (some p) = pruneEmptied f (prune c p).1 (nd c p).parent := by
          simp only [pruneEmptied, hcond, ↓reduceIte]
        rw [hrw]
        simp only [Bool.and_eq_true, List.isEmpty_iff] at hcond
        obtain ⟨⟨hlp, hch⟩, hpar⟩ := hcond
        have hlp := (isLive_iff c p).1 hlp
        obtain ⟨c1, hpr, ok⟩ := prune_ok g hlp
        rw [hpr]
        obtain ⟨g1, sh1, hlv, nn1, hk1⟩ := ok.tip g sh nn hlp hch
        obtain ⟨r1, r2, r3, r4, r5⟩ := ih c1 (nd c p).parent g1 (sh.trans sh1)
          (by
            intro q hq hlq
            obtain ⟨hlq', hmem⟩ := g.1.parent_ok p q hlp hq
            have hd := (g.1.child_ok q p hlq' hmem).2.2.1
            have := hf p rfl hlp
            rw [ok.depth_eq hlq]; omega)
          nn1 (fun q hq _ => hk1 q hq)
        refine ⟨r1, r2, sh1.trans r3, r4, ?_⟩
        intro i hl hd
        by_cases hl1 : live c1 i
        · exact r5 i hl1 hd
        · have : i = p := Classical.byContradiction fun hne => hl1 ((hlv i).2 ⟨hl, hne⟩)
          subst this
          exact hkid i rfl hl
      · have hrw : pruneEmptied (f + 1) c (some p) = c := by
          simp only [pruneEmptied, hcond]
          rfl
        rw [hrw]
        refine ⟨g, sh, Shrunk.refl c, ?_, fun i h h' => absurd h h'⟩
        intro i hl _ hc hp
        by_cases hio : some i = some p
        · exfalso
          apply hcond
          have : i = p := Option.some.inj hio
          subst this
          simp [(isLive_iff c i).2 hl, hc, hp]
        · exact nn i hl hio hc hp

theorem removeNode_cases {b : Arena} (gb : Good b) (x : Nat) :
    (IsTip b x ∧ ∃ b1, PruneOK2 b b1 x ∧
      removeNode b x = .ok (pruneEmptied (fuelOf b) b1 (nd b x).parent)) ∨
    (removeNode b x = .err "NotATip" ∧ (nd b x).children ≠ []) ∨
    (removeNode b x = .err "PruneFailed" ∧ ¬ live b x) := by
  by_cases hch : (nd b x).children = []
  · by_cases hl : live b x
    · obtain ⟨b1, hp, ok⟩ := prune_ok gb hl
      exact .inl ⟨⟨hl, hch⟩, b1, ok, by simp [removeNode, hch, hp]⟩
    · exact .inr (.inr ⟨by simp [removeNode, hch, prune_refused hl], hl⟩)
  · exact .inr (.inl ⟨by simp [removeNode, hch], hch⟩)

theorem removeNode_spec {a b b' : Arena} {x : Nat} (gb : Good b) (sh : Shrunk a b) (nn : NoNewTipBut a b none)
    (h : removeNode b x = .ok b') :
    IsTip b x ∧ Good b' ∧ Shrunk a b' ∧ Shrunk b b' ∧ NoNewTipBut a b' none ∧ ¬ live b' x ∧
    (∀ i, live b i → ¬ live b' i → i = x ∨ (nd a i).children ≠ []) := by
  rcases removeNode_cases gb x with ⟨ht, b1, ok, e⟩ | ⟨e, _⟩ | ⟨e, _⟩ <;> rw [e] at h <;> cases h
  obtain ⟨g1, sh1, hlv, nn1, hk1⟩ := ok.tip gb sh (fun i hl _ => nn i hl (by simp)) ht.1 ht.2
  obtain ⟨r1, r2, r3, r4, r5⟩ := pruneEmptied_spec a (fuelOf b) b1 (nd b x).parent g1 (sh.trans sh1)
    (by
      intro q _ hlq
      have := depth_le_size g1.1 q hlq
      rw [ok.size] at this
      simp only [fuelOf]; omega)
    nn1 (fun q hq _ => hk1 q hq)
  refine ⟨ht, r1, r2, sh1.trans r3, r4, fun hl => ((hlv x).1 (r3.sub x hl)).2 rfl, ?_⟩
  intro i hl hd
  by_cases hl1 : live b1 i
  · exact .inr (r5 i hl1 hd)
  · exact .inl (Classical.byContradiction fun hne => hl1 ((hlv i).2 ⟨hl, hne⟩))

/-- what is known, in terms of the arena `a` at the start, of the slot `x` a name resolves to at its turn: a live
    node carrying the name, childless in `a` — or the root of `a`, which `pruneEmptied` leaves in place when it has lost
    all its children -/
def Resolved (a : Arena) (name : String) (x : Nat) : Prop :=
  live a x ∧ (nd a x).name = some name ∧ ((nd a x).children = [] ∨ (nd a x).parent = none)

theorem removeLoopT_spec {a : Arena} : ∀ (tips : List String) {b b' : Arena} {xs : List Nat}, Good b →
    Shrunk a b → NoNewTipBut a b none → removeLoopT b tips = .ok (b', xs) →
    Good b' ∧ Shrunk a b' ∧ Shrunk b b' ∧ NoNewTipBut a b' none ∧
    (∀ x ∈ xs, live b x ∧ ¬ live b' x) ∧
    (∀ i, live b i → ¬ live b' i → i ∈ xs ∨ (nd a i).children ≠ []) ∧
    List.Forall₂ (Resolved a) tips xs ∧ xs.Nodup
  | [], b, b', xs, gb, sh, nn, h => by
    cases h
    exact ⟨gb, sh, Shrunk.refl _, nn, fun x hx => by simp at hx, fun i h h' => absurd h h', List.Forall₂.nil,
      List.nodup_nil⟩
  | name :: rest, b, b', xs, gb, sh, nn, h => by
    obtain ⟨x, b1, ys, rfl, hname, hrn, hloop⟩ := removeLoopT_cons_inv h
    obtain ⟨s1, s2, s3, s4, s5, s6, s7⟩ := removeNode_spec gb sh nn hrn
    obtain ⟨r1, r2, r3, r4, r5, r6, r7, r8⟩ := removeLoopT_spec rest s2 s3 s5 hloop
    refine ⟨r1, r2, s4.trans r3, r4, ?_, ?_, ?_, List.nodup_cons.2 ⟨fun hm => s6 (r5 x hm).1, r8⟩⟩
    · intro y hy
      rcases List.mem_cons.1 hy with e | hy
      · subst e; exact ⟨s1.1, fun hl => s6 (r3.sub _ hl)⟩
      · exact ⟨s4.sub y (r5 y hy).1, (r5 y hy).2⟩
    · intro i hl hd
      by_cases hl1 : live b1 i
      · exact (r6 i hl1 hd).imp_left (List.mem_cons_of_mem _)
      · exact (s7 i hl hl1).imp_left (fun e => by simp [e])
    · refine List.Forall₂.cons ⟨sh.sub x s1.1, ?_, ?_⟩ r7
      · rw [← sh.name x s1.1]; exact getByName_name hname
      · cases hp : (nd a x).parent with
        | none => exact Or.inr rfl
        | some q =>
          left
          exact nn x s1.1 (by simp) s1.2 (by rw [sh.par x s1.1, hp]; rfl)

/-! ### the possible outcomes: the fuel of the model is never exhausted, nothing panics inside the model -/

theorem removeNode_outcome {b : Arena} (gb : Good b) (x : Nat) :
    (∃ b', removeNode b x = .ok b' ∧ Good b') ∨
    (removeNode b x = .err "NotATip" ∧ (nd b x).children ≠ []) ∨
    (removeNode b x = .err "PruneFailed" ∧ ¬ live b x) :=
  (removeNode_cases gb x).imp_left fun ⟨_, _, _, hr⟩ =>
    ⟨_, hr, (removeNode_spec gb (Shrunk.refl b) (NoNewTipBut.refl _) hr).2.1⟩

theorem removeFold_outcome : ∀ (tips : List String) {b : Arena}, Good b →
    (∃ b', tips.foldlM removeStep b = .ok b' ∧ Good b') ∨
    (∃ k, tips.foldlM removeStep b = .err k ∧ (k = "NoSuchName" ∨ k = "NotATip" ∨ k = "PruneFailed"))
  | [], b, gb => Or.inl ⟨b, rfl, gb⟩
  | name :: rest, b, gb => by
    rw [List.foldlM_cons, removeStep]
    cases hn : getByName b name with
    | none => exact Or.inr ⟨"NoSuchName", rfl, Or.inl rfl⟩
    | some x =>
      simp only [QR.ofOpt, QR.bind_ok]
      rcases removeNode_outcome gb x with ⟨b', h, g'⟩ | ⟨h, _⟩ | ⟨h, _⟩
      · rw [h]; exact removeFold_outcome rest g'
      · rw [h]; exact Or.inr ⟨"NotATip", rfl, Or.inr (Or.inl rfl)⟩
      · rw [h]; exact Or.inr ⟨"PruneFailed", rfl, Or.inr (Or.inr rfl)⟩

end AR
