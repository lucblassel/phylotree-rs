import PhyloModel.Arena.Ops
import PhyloModel.Arena.EditFx
import PhyloModel.Arena.DepthBound
import PhyloModel.Arena.PruneBTop
import PhyloModel.Arena.LevelFacts
/-! Operation-level preservation: every executable operation of `Arena/Ops.lean` maps an arena satisfying
    the invariant (`Inv`, with blank tombstones `Tomb`) to one satisfying it, and never exhausts the fuel
    `fuelOf` the executable model hands to the recursive procedures. -/
namespace AR

/-- the state predicate carried through every edit history -/
def Good (a : Arena) : Prop := Inv a ∧ Tomb a

/-- all fields the invariant reads agree (payload may differ) -/
def SameStruct (a b : Arena) : Prop :=
  b.size = a.size ∧ ∀ i, (nd b i).parent = (nd a i).parent ∧ (nd b i).children = (nd a i).children ∧
    (nd b i).pedge = (nd a i).pedge ∧ (nd b i).cedges = (nd a i).cedges ∧
    (nd b i).deleted = (nd a i).deleted ∧ (nd b i).depth = (nd a i).depth

/-- `b` has the links, liveness and depths of `a`, child lists up to their order; the branch-length records
    of `b` agree along every edge, sit only where `a` lists a child, and a tombstone of `a` that kept none keeps
    none in `b`.  Every edit that moves no node is an instance: renaming, comments, `rescale`, reordering
    children, overwriting a length. -/
theorem Good.relink {a b : Arena} (g : Good a) (hsz : b.size = a.size)
    (h : ∀ i, (nd b i).parent = (nd a i).parent ∧ (nd b i).deleted = (nd a i).deleted ∧
      (nd b i).depth = (nd a i).depth ∧ (nd b i).children.Perm (nd a i).children)
    (he : ∀ i c, live a i → c ∈ (nd a i).children → alGet (nd b i).cedges c = (nd b c).pedge)
    (hd : ∀ i c, (alGet (nd b i).cedges c).isSome → c ∈ (nd a i).children)
    (ht : ∀ i, (nd a i).deleted = true → (nd a i).cedges = [] → (nd b i).cedges = []) : Good b := by
  obtain ⟨hinv, htomb⟩ := g
  have hl : ∀ i, live b i ↔ live a i := fun i => by rw [live, live, hsz, (h i).2.1]
  refine ⟨⟨?_, ?_, ?_, ?_, ?_⟩, ?_⟩
  · intro i c hli hc
    have hli := (hl i).1 hli
    have hc := (h i).2.2.2.mem_iff.1 hc
    obtain ⟨k1, k2, k3, _⟩ := hinv.child_ok i c hli hc
    exact ⟨(hl c).2 k1, (h c).1 ▸ k2, by rw [(h c).2.2.1, (h i).2.2.1]; exact k3, he i c hli hc⟩
  · intro i p hli hp
    obtain ⟨k1, k2⟩ := hinv.parent_ok i p ((hl i).1 hli) ((h i).1 ▸ hp)
    exact ⟨(hl p).2 k1, (h p).2.2.2.mem_iff.2 k2⟩
  · intro i; exact (h i).2.2.2.nodup_iff.2 (hinv.nodup i)
  · intro i hli hp
    rw [(h i).2.2.1]; exact hinv.root_depth i ((hl i).1 hli) ((h i).1 ▸ hp)
  · intro i c hs
    exact (h i).2.2.2.mem_iff.2 (hd i c hs)
  · intro i hdel
    have hdel' := (h i).2.1 ▸ hdel
    obtain ⟨t1, t2, t3⟩ := htomb i hdel'
    exact ⟨List.perm_nil.1 (t1 ▸ (h i).2.2.2), (h i).1 ▸ t2, ht i hdel' t3⟩

theorem Good.transfer {a b : Arena} (h : SameStruct a b) (g : Good a) : Good b :=
  g.relink h.1
    (fun i => ⟨(h.2 i).1, (h.2 i).2.2.2.2.1, (h.2 i).2.2.2.2.2, (h.2 i).2.1 ▸ List.Perm.refl _⟩)
    (fun i c hl hc => by rw [(h.2 i).2.2.2.1, (h.2 c).2.2.1]; exact (g.1.child_ok i c hl hc).2.2.2)
    (fun i c hs => g.1.cedge_dom i c ((h.2 i).2.2.2.1 ▸ hs))
    (fun i _ hn => (h.2 i).2.2.2.1 ▸ hn)

theorem setName_same (a : Arena) (i : Nat) (n : Option String) : SameStruct a (setName a i n) := by
  refine ⟨by simp [setName], fun j => ?_⟩
  rw [setName, nd_set]
  split
  next h => obtain ⟨rfl, _⟩ := h; simp
  next => simp

theorem setName_good {a : Arena} (i : Nat) (n : Option String) (g : Good a) : Good (setName a i n) :=
  g.transfer (setName_same a i n)

theorem sameButDepth_good {a b : Arena} (h : SameButDepth a b) (hi : Inv b) (t : Tomb a) : Good b :=
  ⟨hi, t.transfer h⟩

theorem nd_empty (i : Nat) : nd #[] i = dead := by simp [nd]

theorem empty_good : Good #[] := by
  refine ⟨⟨?_, ?_, ?_, ?_, ?_⟩, ?_⟩
  · intro i c hl; exact absurd hl.1 (by simp)
  · intro i p hl; exact absurd hl.1 (by simp)
  · intro i; simp [nd_empty, dead]
  · intro i hl; exact absurd hl.1 (by simp)
  · intro i c hs; simp [nd_empty, dead, alGet] at hs
  · intro i _; simp [nd_empty, dead]

theorem add_good {a : Arena} (name : Option String) (g : Good a) : Good (add a name).1 :=
  ⟨((Mid.ofInv g.1).push rfl rfl rfl (Or.inl rfl)).inv, g.2.push fun k => by cases k⟩

theorem addChildNamed_good {a : Arena} (p : Nat) (e : Option Int) (name : Option String) (g : Good a) :
    Good (addChildNamed a p e name).1 := by
  unfold addChildNamed
  split
  next a' id h =>
    exact setName_good id name ⟨(addChild_inv a p e a' id g.1 h).1, addChild_tomb g.2 h⟩
  next => exact g

/-- `add_child` under a live parent: the fresh slot `a.size` and the parent's slot change, nothing else -/
theorem addChildNamed_ok {a : Arena} {p : Nat} (hl : live a p) (e : Option Int) (n : Option String) :
    ∃ a', addChildNamed a p e n = (a', .ok (some a.size)) ∧ a'.size = a.size + 1 ∧ ∀ i, nd a' i =
      if i = a.size then { parent := some p, pedge := e, depth := (nd a p).depth + 1, name := n }
      else if i = p then setCedge { nd a p with children := (nd a p).children ++ [a.size] } a.size e
      else nd a i := by
  have hl' : p < a.size ∧ (nd a p).deleted = false := hl
  cases h1 : addChild a p e with
  | none => rw [addChild, if_pos hl'] at h1; cases h1
  | some r =>
    obtain ⟨a1, id⟩ := r
    obtain ⟨_, rfl, hsz, hb⟩ := addChild_nd h1
    refine ⟨setName a1 a.size n, by rw [addChildNamed, h1], by rw [(setName_same _ _ _).1, hsz], fun i => ?_⟩
    rw [setName, nd_set, hsz]
    by_cases h0 : i = a.size
    · rw [if_pos ⟨h0, Nat.lt_succ_self _⟩, if_pos h0, hb, if_pos rfl]
    · rw [if_neg fun k => h0 k.1, if_neg h0, hb, if_neg h0]

theorem addChildNamed_refused {a : Arena} {p : Nat} (hl : ¬ live a p) (e : Option Int) (n : Option String) :
    addChildNamed a p e n = (a, .err "NodeNotFound") := by
  have hl' : ¬ (p < a.size ∧ (nd a p).deleted = false) := hl
  rw [addChildNamed, addChild, if_neg hl']

theorem prune_ok {a : Arena} {x : Nat} (g : Good a) (hl : live a x) :
    ∃ a1, prune a x = (a1, .ok none) ∧ PruneOK2 a a1 x := by
  obtain ⟨a1, h1, ok⟩ := prune_main2 (fuelOf a) a.size a x g.1 g.2 hl (depth_le_size g.1)
    (by simp only [fuelOf]; omega)
  exact ⟨a1, by simp only [prune, (isLive_iff a x).2 hl, ↓reduceIte, h1], ok⟩

theorem prune_refused {a : Arena} {x : Nat} (hl : ¬ live a x) : prune a x = (a, .err "NodeNotFound") := by
  rw [prune, if_neg (fun h => hl ((isLive_iff a x).1 h))]

theorem prune_good {a : Arena} (x : Nat) (g : Good a) : Good (prune a x).1 ∧ (prune a x).2 ≠ .diverge := by
  by_cases hl : live a x
  · obtain ⟨a1, h1, ok⟩ := prune_ok g hl
    rw [h1]; exact ⟨⟨ok.inv, ok.tomb⟩, by simp⟩
  · rw [prune_refused hl]; exact ⟨g, by simp⟩

theorem compress_core {a : Arena} (v p c : Nat) (e : Option Int) (g : Good a) (hlv : live a v)
    (hpar : (nd a v).parent = some p) (hch : (nd a v).children = [c]) :
    ∃ a2, resetF (fuelOf a) (splice a v p c e) c ((nd (splice a v p c e) p).depth + 1) = some a2 ∧ Good a2 := by
  obtain ⟨a2, h2, hi2⟩ := compressNode_inv a v p c e g.1 hlv hpar hch a.size (depth_le_size g.1)
  have h2' := resetF_mono (a.size + 1) (fuelOf a) (by simp only [fuelOf]; omega) _ _ _ _ h2
  exact ⟨a2, h2', hi2, ((splice_mid e g.1 hlv hpar hch).2.2 g.2).transfer (resetF_same _ _ _ _ _ h2')⟩

/-- `compress_node v` read backwards: it refuses and returns the arena as it was, or it splices `v` out from
    between its parent `p` and its only child `c` (their two lengths added to `e`) and repairs the depths below `c`;
    the new arena is given field by field -/
theorem compressNode_cases {a : Arena} (v : Nat) (g : Good a) :
    ((compressNode a v).1 = a ∧ ∃ k, (compressNode a v).2 = .err k) ∨
    ∃ p c e a2, live a v ∧ (nd a v).parent = some p ∧ (nd a v).children = [c] ∧
      sumLen (nd a v).pedge (nd a c).pedge = some e ∧ Good a2 ∧ SplicedFx a a2 v p c e ∧
      compressNode a v = (a2, .ok none) := by
  generalize hr : compressNode a v = r
  unfold compressNode at hr
  split at hr
  · subst hr; exact Or.inl ⟨rfl, _, rfl⟩
  next hv =>
    have hlv : live a v := (isLive_iff a v).1 (by simpa using hv)
    split at hr
    next p c hpar hch =>
      split at hr
      · subst hr; exact Or.inl ⟨rfl, _, rfl⟩
      next e he =>
        split at hr
        · subst hr; exact Or.inl ⟨rfl, _, rfl⟩
        · obtain ⟨a2, h2, g2⟩ := compress_core v p c e g hlv hpar hch
          obtain ⟨hlp, hlc, hpc, hvc, hvp⟩ := splice_ne g.1 hlv hpar hch
          simp only [h2] at hr
          rw [(g.1.child_ok v c hlv (by rw [hch]; exact List.mem_singleton.2 rfl)).2.2.2] at he
          exact Or.inr ⟨p, c, e, a2, hlv, hpar, hch, he, g2,
            (splice_fx e hlv.1 hlp.1 hlc.1 hpc hvc hvp).after (resetF_onlyDepth h2), hr.symm⟩
    · subst hr; exact Or.inl ⟨rfl, _, rfl⟩

/-- the second arm, for a call known to have succeeded -/
theorem compressNode_ok {a a' : Arena} {v : Nat} {o : Option Nat} (g : Good a) (h : compressNode a v = (a', .ok o)) :
    ∃ p c e, live a v ∧ (nd a v).parent = some p ∧ (nd a v).children = [c] ∧
      sumLen (nd a v).pedge (nd a c).pedge = some e ∧ Good a' ∧ SplicedFx a a' v p c e := by
  rcases compressNode_cases v g with ⟨_, k, h2⟩ | ⟨p, c, e, a2, hlv, hpar, hch, he, g2, s, h'⟩
  · rw [h] at h2; cases h2
  · rw [h] at h'; cases h'
    exact ⟨p, c, e, hlv, hpar, hch, he, g2, s⟩

theorem compressNode_good {a : Arena} (v : Nat) (g : Good a) :
    Good (compressNode a v).1 ∧ (compressNode a v).2 ≠ .diverge := by
  rcases compressNode_cases v g with ⟨h1, k, h2⟩ | ⟨p, c, e, a2, _, _, _, _, g2, _, h⟩
  · rw [h1, h2]; exact ⟨g, by simp⟩
  · rw [h]; exact ⟨g2, by simp⟩

theorem compressLoop_lift {I : Arena → Prop} {R : Arena → Arena → Prop} (hr : ∀ a, R a a)
    (ht : ∀ ⦃a b c⦄, R a b → R b c → R a c)
    (step : ∀ a v, I a → I (compressNode a v).1 ∧ R a (compressNode a v).1)
    (vs : List Nat) {a : Arena} : I a → I (compressLoop vs a).1 ∧ R a (compressLoop vs a).1 := by
  fun_induction compressLoop vs a with
  | case1 a => exact fun h => ⟨h, hr a⟩
  | case2 v vs a a' o e ih =>
    intro h
    have s := step a v h
    rw [e] at s
    exact ⟨(ih s.1).1, ht s.2 (ih s.1).2⟩
  | case3 v vs a hne => exact step a v

theorem compressLoop_good (vs : List Nat) {a : Arena} (g : Good a) :
    Good (compressLoop vs a).1 ∧ (compressLoop vs a).2 ≠ .diverge := by
  fun_induction compressLoop vs a with
  | case1 a => exact ⟨g, by simp⟩
  | case2 v vs a a' o e ih => exact ih (by have := (compressNode_good v g).1; rwa [e] at this)
  | case3 v vs a hne => exact compressNode_good v g

theorem compress_good {a : Arena} (g : Good a) : Good (compress a).1 ∧ (compress a).2 ≠ .diverge :=
  compressLoop_good _ g

theorem alGet_scale (l : List (Nat × Int)) (k : Int) (c : Nat) :
    alGet (l.map (fun (p : Nat × Int) => (p.1, p.2 * k))) c = (alGet l c).map (· * k) := by
  induction l with
  | nil => simp [alGet]
  | cons x xs ih =>
    obtain ⟨j, v⟩ := x
    simp only [List.map_cons, alGet]
    split <;> simp_all

theorem nd_map (a : Arena) (f : Node → Node) (hf : f dead = dead) (i : Nat) : nd (a.map f) i = f (nd a i) := by
  simp only [nd, Array.getD_eq_getD_getElem?, Array.getElem?_map]
  cases a[i]? <;> simp [hf]

theorem scaleNode_dead (k : Int) : scaleNode k dead = dead := by simp [scaleNode, dead]

theorem rescale_nd (a : Arena) (k : Int) (i : Nat) : nd (rescale a k) i = scaleNode k (nd a i) :=
  nd_map a _ (scaleNode_dead k) i

theorem rescale_good {a : Arena} (k : Int) (g : Good a) : Good (rescale a k) := by
  have hn := rescale_nd a k
  have hce : ∀ i c, alGet (nd (rescale a k) i).cedges c = (alGet (nd a i).cedges c).map (· * k) :=
    fun i c => by rw [hn]; exact alGet_scale _ k c
  refine g.relink (by simp [rescale]) (fun i => by rw [hn]; exact ⟨rfl, rfl, rfl, List.Perm.refl _⟩) ?_ ?_ ?_
  · intro i c hl hc
    rw [hce, (g.1.child_ok i c hl hc).2.2.2, hn]; rfl
  · intro i c hs
    rw [hce] at hs; exact g.1.cedge_dom i c (by simpa using hs)
  · intro i _ h0
    rw [hn]; simp [scaleNode, h0]

/-- regrouping two children of `q` under a fresh node and repairing both depths, with the fuel and the
    depth argument the executable model uses; the result field by field -/
theorem group_core {a : Arena} (q c1 c2 : Nat) (pe e1 e2 : Option Int) (g : Good a) (hlq : live a q)
    (hm1 : c1 ∈ (nd a q).children) (hm2 : c2 ∈ (nd a q).children) (h12 : c1 ≠ c2) :
    let a1 := group a q c1 c2 pe e1 e2
    ∃ b1 b2, resetF (fuelOf a1) a1 c1 ((nd a1 a.size).depth + 1) = some b1 ∧
      resetF (fuelOf a1) b1 c2 ((nd a1 a.size).depth + 1) = some b2 ∧ Good b2 ∧
      GroupedFx a b2 q c1 c2 pe e1 e2 := by
  intro a1
  obtain ⟨b1, b2, r1, r2, hi2⟩ := group_inv a q c1 c2 pe e1 e2 g.1 hlq hm1 hm2 h12 a.size (depth_le_size g.1)
  obtain ⟨hl1, hl2, hq1, hq2⟩ := group_ne g.1 hlq hm1 hm2
  have hd : (nd a1 a.size).depth + 1 = (nd a q).depth + 2 := by
    show (nd (group a q c1 c2 pe e1 e2) a.size).depth + 1 = _
    rw [nd_group a q c1 c2 pe e1 e2 hlq.1 hl1.1 hl2.1 hq1 hq2 h12, if_pos rfl, wNode, setCedge_depth, setCedge_depth]
  have hfu : 2 * a.size + 3 ≤ fuelOf a1 := by
    have : a1.size = a.size + 1 := by simp [a1, group]
    simp only [fuelOf, this]; omega
  rw [hd]
  have r1' := resetF_mono _ _ hfu _ _ _ _ r1
  have r2' := resetF_mono _ _ hfu _ _ _ _ r2
  have hod := (resetF_onlyDepth r1').trans (resetF_onlyDepth r2')
  exact ⟨b1, b2, r1', r2', ⟨hi2, ((group_mid pe e1 e2 g.1 hlq hm1 hm2 h12).2.2 g.2).transfer hod.same⟩,
    (group_fx pe e1 e2 hlq.1 hl1.1 hl2.1 hq1 hq2 h12).after hod⟩

theorem nd_rootGroup (a : Arena) (c1 c2 : Nat) (e1 e2 : Option Int) (h1 : c1 < a.size) (h2 : c2 < a.size)
    (h12 : c1 ≠ c2) (i : Nat) :
    nd (rootGroup a c1 c2 e1 e2) i =
      if i = a.size then setCedge (setCedge { children := [c1, c2] } c1 e1) c2 e2
      else if i = c1 then { nd a c1 with parent := some a.size, pedge := e1 }
      else if i = c2 then { nd a c2 with parent := some a.size, pedge := e2 }
      else nd a i := by
  -- as `nd_group`, without the parent `q`
  simp only [rootGroup, nd_push, nd_set, Array.size_setIfInBounds]
  grind

theorem rootGroup_eq {a : Arena} {c1 c2 : Nat} (e1 e2 : Option Int) (h1 : c1 < a.size) (h2 : c2 < a.size)
    (h12 : c1 ≠ c2) : rootGroup a c1 c2 e1 e2 = link (link (a.push {}) a.size c1 e1) a.size c2 e2 := by
  have h1w : c1 ≠ a.size := Nat.ne_of_lt h1
  have h2w : c2 ≠ a.size := Nat.ne_of_lt h2
  apply arena_ext (by simp [rootGroup, link])
  intro i
  -- as `group_eq`: slot by slot, one case per slot of `nd_rootGroup`
  rw [nd_rootGroup a c1 c2 e1 e2 h1 h2 h12]
  simp only [link, nd_set, nd_push, Array.size_setIfInBounds, Array.size_push, h1, h2, h1w, h2w, Ne.symm h1w,
    Ne.symm h12, Nat.lt_succ_self, Nat.lt_succ_of_lt, and_true, ↓reduceIte]
  by_cases g0 : i = a.size
  · simp only [g0, Ne.symm h2w, ↓reduceIte]
    cases e1 <;> rfl
  · by_cases g2 : i = c1
    · simp only [g2, h1w, h12, ↓reduceIte]
    · by_cases g3 : i = c2
      · simp only [g3, h2w, Ne.symm h12, ↓reduceIte]
      · simp only [g0, g2, g3, ↓reduceIte]

/-- the slot updates of `merge_children` on two distinct parentless nodes followed by both depth repairs; the
    ghost rank puts the fresh root below everything -/
theorem rootGroup_core {a : Arena} (c1 c2 : Nat) (e1 e2 : Option Int) (g : Good a) (hl1 : live a c1)
    (hl2 : live a c2) (hr1 : (nd a c1).parent = none) (hr2 : (nd a c2).parent = none) (h12 : c1 ≠ c2) :
    let a1 := rootGroup a c1 c2 e1 e2
    ∃ b1 b2, resetF (fuelOf a1) a1 c1 ((nd a1 a.size).depth + 1) = some b1 ∧
      resetF (fuelOf a1) b1 c2 ((nd a1 a.size).depth + 1) = some b2 ∧ Good b2 := by
  intro a1
  have h1w : c1 ≠ a.size := Nat.ne_of_lt hl1.1
  have h2w : c2 ≠ a.size := Nat.ne_of_lt hl2.1
  have hwch : (nd a1 a.size).children = [c1, c2] := by
    show (nd (rootGroup a c1 c2 e1 e2) a.size).children = _
    rw [nd_rootGroup a c1 c2 e1 e2 hl1.1 hl2.1 h12, if_pos rfl, setCedge_children, setCedge_children]
  have hsz : a1.size = a.size + 1 := by simp [a1, rootGroup]
  have hlive : ∀ i, live a1 i ↔ live a i ∨ i = a.size := fun i => by
    show live (rootGroup a c1 c2 e1 e2) i ↔ _
    rw [rootGroup_eq e1 e2 hl1.1 hl2.1 h12]
    simp only [live_link, live_push, and_true]
  have hlw : live (a.push {}) a.size := (live_push ..).2 (Or.inr ⟨rfl, rfl⟩)
  have hup : ∀ i, live a i → live (a.push {}) i := fun i h => (live_push ..).2 (Or.inl h)
  have m := ((((Mid.ofInv g.1).rerank (r' := fun i => if i = a.size then 0 else (nd a i).depth + 1)
      (fun i c hi hc h => by
        rw [if_neg (Nat.ne_of_lt hi.1), if_neg (Nat.ne_of_lt hc.1)]
        exact Nat.succ_lt_succ h)).push (n := {}) rfl rfl rfl (Or.inl rfl)).link e1 (Q := fun x => x = c1) hlw
      (hup c1 hl1) (by rw [nd_push, if_neg h1w]; exact hr1) (by simp only [h1w, ↓reduceIte]; omega)
      (fun x _ h => h.elim) (fun h => absurd rfl h)).link e2 (Q := fun x => x = c1 ∨ x = c2) ((live_link ..).2 hlw)
      ((live_link ..).2 (hup c2 hl2)) (by
        rw [nd_link e1 (by rw [Array.size_push]; exact Nat.lt_succ_self _)
          (by rw [Array.size_push]; exact Nat.lt_succ_of_lt hl1.1), if_neg (Ne.symm h12), if_neg h2w, nd_push, if_neg h2w]
        exact hr2)
      (by simp only [h2w, ↓reduceIte]; omega) (fun x _ h => Or.inl h) (fun h => absurd (Or.inr rfl) h)
  have ht : Tomb a1 := by
    show Tomb (rootGroup a c1 c2 e1 e2)
    rw [rootGroup_eq e1 e2 hl1.1 hl2.1 h12]
    exact ((g.2.push (n := {}) fun h => by cases h).link e1 hlw.2 (hup c1 hl1).2).link e2
      ((live_link ..).2 hlw).2 ((live_link ..).2 (hup c2 hl2)).2
  rw [← rootGroup_eq e1 e2 hl1.1 hl2.1 h12] at m
  obtain ⟨b1, b2, r1, r2, hi2, hsame⟩ := repair2 m ((hlive _).2 (Or.inr rfl)) hwch (a.size + 1) (fuelOf a1)
    (fun i hl => by
      rcases (hlive i).1 hl with hl' | rfl
      · have := depth_le_size g.1 i hl'; split <;> omega
      · simp only [↓reduceIte]; omega)
    (by simp only [fuelOf, hsz]; omega)
  exact ⟨b1, b2, r1, r2, hi2, ht.transfer hsame⟩

/-- `merge_children` read backwards: a refusal that returns the arena as it was, or the regrouping of two
    parentless nodes under a fresh root, or that of two children of `q` under a fresh child of `q` (`b`, given field
    by field); in both the depths are repaired and the fresh node `a.size` is named last -/
theorem mergeChildren_cases {a : Arena} (c1 c2 : Nat) (e1 e2 pe : Option Int) (name : Option String) (g : Good a) :
    ((mergeChildren a c1 c2 e1 e2 pe name).1 = a ∧ ∃ k, (mergeChildren a c1 c2 e1 e2 pe name).2 = .err k) ∨
    ∃ b, Good b ∧ mergeChildren a c1 c2 e1 e2 pe name = (setName b a.size name, .ok (some a.size)) ∧
      live a c1 ∧ live a c2 ∧ c1 ≠ c2 ∧
      (((nd a c1).parent = none ∧ (nd a c2).parent = none ∧ OnlyDepth (rootGroup a c1 c2 e1 e2) b) ∨
       ∃ q, live a q ∧ c1 ∈ (nd a q).children ∧ c2 ∈ (nd a q).children ∧ GroupedFx a b q c1 c2 pe e1 e2) := by
  unfold mergeChildren
  by_cases h1 : (!isLive a c1) = true
  · rw [if_pos h1]; exact Or.inl ⟨rfl, _, rfl⟩
  by_cases h2 : (!isLive a c2) = true
  · rw [if_neg h1, if_pos h2]; exact Or.inl ⟨rfl, _, rfl⟩
  by_cases h3 : c1 = c2 ∨ (nd a c1).parent ≠ (nd a c2).parent
  · rw [if_neg h1, if_neg h2, if_pos h3]; exact Or.inl ⟨rfl, _, rfl⟩
  rw [if_neg h1, if_neg h2, if_neg h3]
  have hl1 : live a c1 := (isLive_iff a c1).1 (by simpa using h1)
  have hl2 : live a c2 := (isLive_iff a c2).1 (by simpa using h2)
  have h12 : c1 ≠ c2 := fun h => h3 (Or.inl h)
  have hpp : (nd a c1).parent = (nd a c2).parent := Classical.byContradiction fun h => h3 (Or.inr h)
  right
  cases hp : (nd a c1).parent with
  | none =>
    have hr2 : (nd a c2).parent = none := by rw [← hpp, hp]
    obtain ⟨b1, b2, r1, r2, g2⟩ := rootGroup_core c1 c2 e1 e2 g hl1 hl2 hp hr2 h12
    refine ⟨b2, g2, ?_, hl1, hl2, h12,
      Or.inl ⟨rfl, hr2, (resetF_onlyDepth r1).trans (resetF_onlyDepth r2)⟩⟩
    simp only [r1, r2]
  | some q =>
    have hp2 : (nd a c2).parent = some q := by rw [← hpp, hp]
    obtain ⟨hlq, hm1⟩ := g.1.parent_ok c1 q hl1 hp
    obtain ⟨_, hm2⟩ := g.1.parent_ok c2 q hl2 hp2
    obtain ⟨b1, b2, r1, r2, g2, s⟩ := group_core q c1 c2 pe e1 e2 g hlq hm1 hm2 h12
    refine ⟨b2, g2, ?_, hl1, hl2, h12, Or.inr ⟨q, hlq, hm1, hm2, s⟩⟩
    simp only [(isLive_iff a q).2 hlq, ↓reduceIte, r1, r2]

theorem mergeChildren_good {a : Arena} (c1 c2 : Nat) (e1 e2 pe : Option Int) (name : Option String) (g : Good a) :
    Good (mergeChildren a c1 c2 e1 e2 pe name).1 ∧ (mergeChildren a c1 c2 e1 e2 pe name).2 ≠ .diverge := by
  rcases mergeChildren_cases c1 c2 e1 e2 pe name g with ⟨h1, k, h2⟩ | ⟨b, gb, h, _⟩
  · rw [h1, h2]; exact ⟨g, by simp⟩
  · rw [h]; exact ⟨setName_good _ _ gb, by simp⟩

/-- a successful round of `resolve` read backwards: `x ≠ y` are children of the live node `q`, and the
    result is the regrouped arena with repaired depths, given field by field -/
theorem resolveRound_ok {a a' : Arena} {q x y : Nat} (g : Good a) (h : resolveRound a q x y = some a') :
    live a q ∧ x ≠ y ∧ x ∈ (nd a q).children ∧ y ∈ (nd a q).children ∧ Good a' ∧
      GroupedFx a a' q x y (some 0) (nd a x).pedge (nd a y).pedge := by
  unfold resolveRound at h
  split at h
  next hc =>
    simp only [Bool.and_eq_true, decide_eq_true_eq, List.contains_iff_mem] at hc
    obtain ⟨⟨⟨⟨⟨hq, hxy⟩, hmx⟩, hmy⟩, _⟩, _⟩ := hc
    have hlq := (isLive_iff a q).1 hq
    obtain ⟨b1, b2, r1, r2, g2, s⟩ := group_core q x y (some 0) (nd a x).pedge (nd a y).pedge g hlq hmx hmy hxy
    simp only [r1] at h
    rw [r2] at h
    cases h
    exact ⟨hlq, hxy, hmx, hmy, g2, s⟩
  · cases h

theorem resolveRound_good {a a' : Arena} (q x y : Nat) (g : Good a) (h : resolveRound a q x y = some a') :
    Good a' :=
  (resolveRound_ok g h).2.2.2.2.1

theorem resolveNode_lift {I : Arena → Prop} {R : Arena → Arena → Prop} (ht : ∀ ⦃a b c⦄, R a b → R b c → R a c)
    (step : ∀ ⦃a a'⦄ q x y, I a → resolveRound a q x y = some a' → I a' ∧ R a a')
    (f : Nat) {a : Arena} (q : Nat) (picks : List (Nat × Nat)) {a' : Arena} {rest : List (Nat × Nat)} :
    I a → resolveNode f a q picks = some (a', rest) → I a' ∧ R a a' := by
  fun_induction resolveNode f a q picks with
  | case1 | case2 | case3 => exact fun _ h => nomatch h
  | case4 f a q x y rest' n a1 hr hn => intro g h; cases h; exact step q x y g hr
  | case5 f a q x y rest' n a1 hr hn ih =>
    intro g h
    have s1 := step q x y g hr
    have s2 := ih s1.1 h
    exact ⟨s2.1, ht s1.2 s2.2⟩

theorem resolveLoop_lift {I : Arena → Prop} {R : Arena → Arena → Prop} (hr : ∀ a, R a a)
    (ht : ∀ ⦃a b c⦄, R a b → R b c → R a c)
    (step : ∀ ⦃a a'⦄ q x y, I a → resolveRound a q x y = some a' → I a' ∧ R a a')
    (qs : List Nat) {a : Arena} (picks : List (Nat × Nat)) {a' : Arena} {rest : List (Nat × Nat)} :
    I a → resolveLoop qs a picks = some (a', rest) → I a' ∧ R a a' := by
  fun_induction resolveLoop qs a picks with
  | case1 a0 picks => intro g h; cases h; exact ⟨g, hr _⟩
  | case2 => exact fun _ h => nomatch h
  | case3 q qs a picks a1 rest1 hn ih =>
    intro g h
    have s1 := resolveNode_lift ht step _ q picks g hn
    have s2 := ih s1.1 h
    exact ⟨s2.1, ht s1.2 s2.2⟩

theorem resolve_lift {I : Arena → Prop} {R : Arena → Arena → Prop} (hr : ∀ a, R a a)
    (ht : ∀ ⦃a b c⦄, R a b → R b c → R a c)
    (step : ∀ ⦃a a'⦄ q x y, I a → resolveRound a q x y = some a' → I a' ∧ R a a')
    {a a' : Arena} (picks : List (Nat × Nat)) (g : I a) (h : resolve a picks = some a') : I a' ∧ R a a' := by
  unfold resolve at h
  split at h
  next a1 hl => cases h; exact resolveLoop_lift hr ht step _ picks g hl
  · cases h

theorem resolveNode_good (f : Nat) {a : Arena} (q : Nat) (picks : List (Nat × Nat)) {a' : Arena}
    {rest : List (Nat × Nat)} (g : Good a) (h : resolveNode f a q picks = some (a', rest)) : Good a' :=
  (resolveNode_lift (R := fun _ _ => True) (fun _ _ _ _ _ => trivial)
    (fun _ _ q x y g h => ⟨resolveRound_good q x y g h, trivial⟩) f q picks g h).1

theorem resolve_good {a a' : Arena} (picks : List (Nat × Nat)) (g : Good a) (h : resolve a picks = some a') :
    Good a' :=
  (resolve_lift (R := fun _ _ => True) (fun _ => trivial) (fun _ _ _ _ _ => trivial)
    (fun _ _ q x y g h => ⟨resolveRound_good q x y g h, trivial⟩) picks g h).1

/-- same arena up to the order of every child list -/
def PermKids (a b : Arena) : Prop :=
  b.size = a.size ∧ ∀ i, (nd b i).children.Perm (nd a i).children ∧ (nd b i).parent = (nd a i).parent ∧
    (nd b i).pedge = (nd a i).pedge ∧ (nd b i).cedges = (nd a i).cedges ∧ (nd b i).deleted = (nd a i).deleted ∧
    (nd b i).depth = (nd a i).depth ∧ (nd b i).name = (nd a i).name ∧ (nd b i).comment = (nd a i).comment

theorem PermKids.refl (a : Arena) : PermKids a a :=
  ⟨rfl, fun _ => ⟨List.Perm.refl _, rfl, rfl, rfl, rfl, rfl, rfl, rfl⟩⟩

theorem PermKids.trans {a b c : Arena} (h1 : PermKids a b) (h2 : PermKids b c) : PermKids a c := by
  refine ⟨by rw [h2.1, h1.1], fun i => ?_⟩
  obtain ⟨p0, p1, p2, p3, p4, p5, p6, p7⟩ := h1.2 i
  obtain ⟨q0, q1, q2, q3, q4, q5, q6, q7⟩ := h2.2 i
  exact ⟨q0.trans p0, q1.trans p1, q2.trans p2, q3.trans p3, q4.trans p4, q5.trans p5, q6.trans p6, q7.trans p7⟩

theorem ladderStep_permKids (st : Arena × Array Nat) (v : Nat) : PermKids st.1 (ladderStep st v).1 := by
  unfold ladderStep
  refine ⟨by simp, fun i => ?_⟩
  rw [nd_set]
  by_cases h : i = v ∧ v < st.1.size
  · rw [if_pos h, h.1]; exact ⟨List.mergeSort_perm _ _, rfl, rfl, rfl, rfl, rfl, rfl, rfl⟩
  · rw [if_neg h]; exact (PermKids.refl _).2 i

/-- **frame of `ladderize`**: nothing but the order inside child lists changes -/
theorem ladderize_frame (a : Arena) : PermKids a (ladderize a).1 := by
  have fold : ∀ (l : List Nat) (st : Arena × Array Nat), PermKids st.1 (l.foldl ladderStep st).1 := by
    intro l
    induction l with
    | nil => exact fun st => PermKids.refl _
    | cons v l ih => exact fun st => (ladderStep_permKids st v).trans (ih _)
  unfold ladderize
  split
  · exact PermKids.refl a
  · split
    · exact PermKids.refl a
    · exact fold _ _

theorem PermKids.good {a b : Arena} (h : PermKids a b) (g : Good a) : Good b :=
  g.relink h.1 (fun i => ⟨(h.2 i).2.1, (h.2 i).2.2.2.2.1, (h.2 i).2.2.2.2.2.1, (h.2 i).1⟩)
    (fun i c hl hc => by rw [(h.2 i).2.2.2.1, (h.2 c).2.2.1]; exact (g.1.child_ok i c hl hc).2.2.2)
    (fun i c hs => g.1.cedge_dom i c ((h.2 i).2.2.2.1 ▸ hs)) (fun i _ h0 => (h.2 i).2.2.2.1 ▸ h0)

theorem ladderize_good {a : Arena} (g : Good a) : Good (ladderize a).1 :=
  (ladderize_frame a).good g

theorem getRoot_spec {a : Arena} {r : Nat} (h : getRoot a = some r) : live a r ∧ (nd a r).parent = none := by
  unfold getRoot at h
  have := List.find?_some h
  simp only [Bool.and_eq_true, Option.isNone_iff_eq_none] at this
  exact ⟨(isLive_iff a r).1 this.1, this.2⟩

theorem resetDepths_good {a : Arena} (g : Good a) :
    Good (resetDepths a).1 ∧ (resetDepths a).2 ≠ .diverge := by
  unfold resetDepths
  split
  · exact ⟨g, by simp⟩
  next r hr =>
    obtain ⟨hlr, hpr⟩ := getRoot_spec hr
    obtain ⟨hinv, ht⟩ := g
    have w := hinv.toW
    obtain ⟨a', h1, ok⟩ := reset_main (fuelOf a) a.size (fun i => (nd a i).depth) a r 0 w hlr
      (depth_le_size hinv) (by simp only [fuelOf]; omega)
    simp only [h1]
    have hsame := resetF_same _ _ _ _ _ h1
    refine ⟨⟨?_, ht.transfer hsame⟩, by simp⟩
    exact inv_of_S_DOK (hinv.toS.transfer hsame)
      (reset_clean w r 0 _ hlr (fun p hp => by rw [hpr] at hp; cases hp) (fun _ => rfl) (hinv.toDOK _) ok)

theorem ladderize_no_diverge {a : Arena} (g : Good a) : (ladderize a).2 ≠ .diverge := by
  unfold ladderize
  split
  · simp
  next r hr =>
    obtain ⟨l, hl, _⟩ := levelorder_closed g.1 r (getRoot_spec hr).1
    simp [hl]

/-- the public construction and editing operations (arguments are arbitrary: invalid ones are refused by
    the operation itself; `resolve` takes the outcome of its random choices as an oracle) -/
inductive Op where
  | add (name : Option String)
  | addChild (p : Nat) (e : Option Int) (name : Option String)
  | setName (i : Nat) (name : Option String)
  | prune (x : Nat)
  | compressNode (v : Nat)
  | compress
  | rescale (k : Int)
  | merge (c1 c2 : Nat) (e1 e2 pe : Option Int) (name : Option String)
  | resolve (picks : List (Nat × Nat))
  | ladderize
  | resetDepths

def applyOp (a : Arena) : Op → Arena × Out
  | .add n => ((add a n).1, .ok (some (add a n).2))
  | .addChild p e n => addChildNamed a p e n
  | .setName i n => (setName a i n, .ok none)
  | .prune x => prune a x
  | .compressNode v => compressNode a v
  | .compress => compress a
  | .rescale k => (rescale a k, .ok none)
  | .merge c1 c2 e1 e2 pe n => mergeChildren a c1 c2 e1 e2 pe n
  | .resolve picks =>
    match resolve a picks with
    | some a' => (a', .ok none)
    | none => (a, .err "ill-formed oracle")
  | .ladderize => ladderize a
  | .resetDepths => resetDepths a

def runOps (a : Arena) (ops : List Op) : Arena := ops.foldl (fun a op => (applyOp a op).1) a

theorem applyOp_good {a : Arena} (op : Op) (g : Good a) :
    Good (applyOp a op).1 ∧ (applyOp a op).2 ≠ .diverge := by
  cases op with
  | add n => exact ⟨add_good n g, by simp [applyOp]⟩
  | addChild p e n =>
    refine ⟨addChildNamed_good p e n g, ?_⟩
    simp only [applyOp, addChildNamed]; split <;> simp
  | setName i n => exact ⟨setName_good i n g, by simp [applyOp]⟩
  | prune x => exact prune_good x g
  | compressNode v => exact compressNode_good v g
  | compress => exact compress_good g
  | rescale k => exact ⟨rescale_good k g, by simp [applyOp]⟩
  | merge c1 c2 e1 e2 pe n => exact mergeChildren_good c1 c2 e1 e2 pe n g
  | resolve picks =>
    simp only [applyOp]
    split
    next a' h => exact ⟨resolve_good picks g h, by simp⟩
    next => exact ⟨g, by simp⟩
  | ladderize => exact ⟨ladderize_good g, ladderize_no_diverge g⟩
  | resetDepths => exact resetDepths_good g

theorem runOps_good : ∀ (ops : List Op) {a : Arena}, Good a → Good (runOps a ops)
  | [], _, g => g
  | op :: ops, a, g => by
    simp only [runOps, List.foldl_cons]
    exact runOps_good ops (applyOp_good op g).1

end AR
