import PhyloModel.Arena.ResetTop
/-! The invariant split into links with a ghost rank (`S`) and cached depths sound outside a dirty region
    (`DOK`), the depth repair, and the slot updates of `compress_node`. -/
namespace AR

/-- everything in `Inv` except the two depth clauses, with a ghost rank instead -/
structure S (a : Arena) (r : Nat → Nat) : Prop where
  child_ok : ∀ i c, live a i → c ∈ (nd a i).children →
      live a c ∧ (nd a c).parent = some i ∧ r i < r c ∧ alGet (nd a i).cedges c = (nd a c).pedge
  parent_ok : ∀ i p, live a i → (nd a i).parent = some p → live a p ∧ i ∈ (nd a p).children
  nodup : ∀ i, (nd a i).children.Nodup
  cedge_dom : ∀ i c, (alGet (nd a i).cedges c).isSome → c ∈ (nd a i).children

/-- the depth clauses of `Inv`, required only for nodes outside a *dirty* region `P`; with no dirty node they are
    the depth clauses themselves -/
structure DOK (a : Arena) (P : Nat → Prop) : Prop where
  edge : ∀ i c, live a i → c ∈ (nd a i).children → ¬ P i → ¬ P c → (nd a c).depth = (nd a i).depth + 1
  root : ∀ i, live a i → (nd a i).parent = none → ¬ P i → (nd a i).depth = 0

theorem Inv.toS {a : Arena} (h : Inv a) : S a (fun i => (nd a i).depth) :=
  ⟨fun i c hl hc => by
      obtain ⟨h1, h2, h3, h4⟩ := h.child_ok i c hl hc
      exact ⟨h1, h2, by show (nd a i).depth < (nd a c).depth; omega, h4⟩,
   h.parent_ok, h.nodup, h.cedge_dom⟩

theorem Inv.toDOK {a : Arena} (h : Inv a) (P : Nat → Prop) : DOK a P :=
  ⟨fun i c hl hc _ _ => (h.child_ok i c hl hc).2.2.1, fun i hl hp _ => h.root_depth i hl hp⟩

theorem S.toW {a : Arena} {r : Nat → Nat} (h : S a r) : W a r :=
  ⟨fun i c hl hc => by obtain ⟨h1, h2, h3, _⟩ := h.child_ok i c hl hc; exact ⟨h1, h2, h3⟩, h.parent_ok, h.nodup⟩

theorem inv_of_S_DOK {a : Arena} {r : Nat → Nat} (hs : S a r) (hd : DOK a (fun _ => False)) : Inv a :=
  ⟨fun i c hl hc => by
      obtain ⟨h1, h2, _, h4⟩ := hs.child_ok i c hl hc
      exact ⟨h1, h2, hd.edge i c hl hc id id, h4⟩,
   hs.parent_ok, hs.nodup, fun i hl hp => hd.root i hl hp id, hs.cedge_dom⟩

theorem DOK.mono {a : Arena} {P Q : Nat → Prop} (h : DOK a P) (hpq : ∀ v, P v → Q v) : DOK a Q :=
  ⟨fun i c hl hc hi hc' => h.edge i c hl hc (fun x => hi (hpq _ x)) (fun x => hc' (hpq _ x)),
   fun i hl hp hi => h.root i hl hp (fun x => hi (hpq _ x))⟩

/-- the depth repair: a reset below `x` with the depth that fits above `x` (one more than its
    parent's, or 0 for a parentless `x`) takes the subtree of `x` out of the dirty region -/
theorem reset_clean {g g' : Arena} {r : Nat → Nat} (w : W g r) (x d : Nat) (P : Nat → Prop) (hlx : live g x)
    (hp : ∀ p, (nd g x).parent = some p → d = (nd g p).depth + 1) (hr : (nd g x).parent = none → d = 0)
    (hd : DOK g (fun v => P v ∨ ∃ k, BelowK g x v k)) (ok : ResetOK g g' x d) : DOK g' P := by
  have hlive : ∀ i, live g' i ↔ live g i := ok.eqv.live_iff
  constructor
  · intro i c hli hc hPi hPc
    rw [hlive] at hli
    rw [ok.eqv.children i] at hc
    obtain ⟨g1, g2, g3⟩ := w.child_ok i c hli hc
    by_cases hb : ∃ k, BelowK g x c k
    · obtain ⟨k, hk⟩ := hb
      cases hk with
      | refl _ =>
        -- `i` is the parent of `x`, above `x` and so outside its subtree
        have hi : ∀ k, ¬ BelowK g x i k := fun k hk => by have := BelowK.rank w hk; omega
        rw [ok.inside x 0 (BelowK.refl hlx), ok.outside i hi, hp i g2]
      | step hp' _ hpar' =>
        rw [g2] at hpar'
        cases hpar'
        rw [ok.inside c _ (BelowK.step hp' g1 g2), ok.inside i _ hp']; omega
    · have hci : ∀ k, ¬ BelowK g x c k := fun k hk => hb ⟨k, hk⟩
      have hii : ∀ k, ¬ BelowK g x i k := fun k hk => hb ⟨k + 1, BelowK.step hk g1 g2⟩
      rw [ok.outside c hci, ok.outside i hii]
      exact hd.edge i c hli hc (by rintro (h | ⟨k, h⟩); exact hPi h; exact hii k h)
        (by rintro (h | ⟨k, h⟩); exact hPc h; exact hci k h)
  · intro i hli hroot hPi
    rw [hlive] at hli
    rw [ok.eqv.parent i] at hroot
    by_cases hb : ∃ k, BelowK g x i k
    · obtain ⟨k, hk⟩ := hb
      cases hk with
      | refl _ => rw [ok.inside x 0 (BelowK.refl hlx), hr hroot]
      | step _ _ hpar' => rw [hroot] at hpar'; cases hpar'
    · have hii : ∀ k, ¬ BelowK g x i k := fun k hk => hb ⟨k, hk⟩
      rw [ok.outside i hii]
      exact hd.root i hli hroot (by rintro (h | ⟨k, h⟩); exact hPi h; exact hii k h)

/-- the slot updates of `compress_node` before the depth repair: `v` (parent `p`, only child `c`) is spliced out -/
def splice (a : Arena) (v p c : Nat) (e : Option Int) : Arena :=
  let a1 := a.setIfInBounds c { nd a c with parent := some p, pedge := e }
  let pn := nd a1 p
  let pn1 := setCedge { pn with children := pn.children ++ [c] } c e
  let a2 := a1.setIfInBounds p (removeChild pn1 v)
  a2.setIfInBounds v dead

theorem nd_splice (a : Arena) (v p c : Nat) (e : Option Int) (hv : v < a.size) (hp : p < a.size) (hc : c < a.size)
    (hpc : p ≠ c) (i : Nat) :
    nd (splice a v p c e) i =
      if i = v then dead
      else if i = p then removeChild (setCedge { nd a p with children := (nd a p).children ++ [c] } c e) v
      else if i = c then { nd a c with parent := some p, pedge := e }
      else nd a i := by
  -- three writes read back through `nd_set`, the last write to a slot wins; `p ≠ c` lets the write at `p` read the old slot
  simp only [splice, nd_set, Array.size_setIfInBounds]
  grind

theorem splice_ne {a : Arena} {v p c : Nat} (hinv : Inv a) (hlv : live a v) (hpar : (nd a v).parent = some p)
    (hch : (nd a v).children = [c]) : live a p ∧ live a c ∧ p ≠ c ∧ v ≠ c ∧ v ≠ p := by
  obtain ⟨hlp, hvmem⟩ := hinv.parent_ok v p hlv hpar
  obtain ⟨hlc, _, hcdep, _⟩ := hinv.child_ok v c hlv (by simp [hch])
  have hvdep := (hinv.child_ok p v hlp hvmem).2.2.1
  exact ⟨hlp, hlc, by intro h; subst h; omega, by intro h; subst h; omega, by intro h; subst h; omega⟩

end AR
