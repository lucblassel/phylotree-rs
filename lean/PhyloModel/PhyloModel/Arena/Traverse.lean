import PhyloModel.Arena.Rep
import PhyloModel.Arena.Query
import PhyloModel.Misc.BfsDepthSorted
/-! Post-order and level-order of the arena refine their rose-tree definitions through `Rep`
    (slot `i` represents rose tree `t`), whatever the ids are. -/
namespace AR

mutual
def post : RTI → List Nat | .node i ks => postL ks ++ [i]
def postL : List RTI → List Nat | [] => [] | k :: ks => post k ++ postL ks
end

mutual
def szR : RTI → Nat | .node _ ks => 1 + szRL ks
def szRL : List RTI → Nat | [] => 0 | k :: ks => szR k + szRL ks
end

theorem postL_eq : ∀ ks : List RTI, postL ks = ks.flatMap post
  | [] => rfl
  | k :: ks => by rw [postL, postL_eq ks, List.flatMap_cons]

theorem postorder_rep (a : Arena) : ∀ (t : RTI) (f i : Nat), Rep a i t → height t ≤ f →
    postorderF f a i = some (post t) :=
  Rep.fuel_ind (P := fun f i t => postorderF f a i = some (post t)) (fun f i ks hl hc _ hk => by
    rw [postorderF, if_pos ((isLive_iff a i).mpr hl), hc, foldlM_append_some _ post ks [] hk, post, postL_eq]; rfl)

theorem postorderL_rep (a : Arena) : ∀ (ts : List RTI) (f : Nat) (cs acc : List Nat), RepL a cs ts → heightL ts ≤ f →
    cs.foldlM (fun acc c => (postorderF f a c).map (fun l => acc ++ l)) acc = some (acc ++ postL ts) := by
  intro ts f cs acc h hf
  obtain ⟨rfl, hk⟩ := repL_iff.1 h
  rw [postL_eq]
  exact foldlM_append_some _ post ts acc (fun k hm => postorder_rep a k f k.id (hk k hm) (heightL_le.1 hf k hm))

mutual
theorem post_perm : ∀ t : RTI, (post t).Perm (pre t)
  | .node i ks => by
    rw [post, pre]
    exact (List.perm_append_comm).trans (List.Perm.cons i (postL_perm ks))
theorem postL_perm : ∀ ts : List RTI, (postL ts).Perm (preL ts)
  | [] => by simp [postL, preL]
  | k :: ks => by rw [postL, preL]; exact List.Perm.append (post_perm k) (postL_perm ks)
end

mutual
def toLV : RTI → LV.T | .node i ks => .node i (toLVL ks)
def toLVL : List RTI → List LV.T | [] => [] | k :: ks => toLV k :: toLVL ks
end

theorem toLVL_eq_map : ∀ ks : List RTI, toLVL ks = ks.map toLV
  | [] => by simp [toLVL]
  | k :: ks => by rw [toLVL, toLVL_eq_map ks]; simp

theorem repL_append (a : Arena) (cs : List Nat) (ts : List RTI) (cs' : List Nat) (ts' : List RTI)
    (h : RepL a cs ts) (h' : RepL a cs' ts') : RepL a (cs ++ cs') (ts ++ ts') := by
  rw [repL_iff] at h h' ⊢
  simp only [List.map_append, List.mem_append, h.1, h'.1, true_and]
  exact fun k hk => hk.elim (h.2 k) (h'.2 k)

def szQ (q : List (RTI × Nat)) : Nat := szRL (q.map (·.1))

theorem szRL_append : ∀ (a b : List RTI), szRL (a ++ b) = szRL a + szRL b
  | [], b => by simp [szRL]
  | x :: a, b => by simp only [List.cons_append, szRL, szRL_append a b]; omega

def lvq (q : List (RTI × Nat)) : List (LV.T × Nat) := q.map (fun p => (toLV p.1, p.2))

theorem bfsD_nil (f : Nat) : LV.bfsD f [] = [] := by cases f <;> simp [LV.bfsD]

/-- the arena's queue loop emits exactly what the rose-level queue loop emits (ids), where every queued
    node carries its level -/
theorem levelF_rep (a : Arena) : ∀ (f : Nat) (qs : List Nat) (q : List (RTI × Nat)) (acc : List Nat),
    RepL a qs (q.map (·.1)) → szQ q ≤ f →
    levelF f a qs acc = some (acc.reverse ++ (LV.bfsD f (lvq q)).map (·.1)) := by
  intro f
  induction f with
  | zero =>
    intro qs q acc h hsz
    -- without fuel the queue is empty: a tree has at least one node
    cases q with
    | nil =>
      obtain rfl : qs = [] := (repL_iff.1 h).1
      simp [levelF, LV.bfsD]
    | cons p q =>
      obtain ⟨⟨i, ks⟩, d⟩ := p
      simp [szQ, szRL, szR] at hsz
  | succ f ih =>
    intro qs q acc h hsz
    cases q with
    | nil =>
      obtain rfl : qs = [] := (repL_iff.1 h).1
      simp [levelF, lvq, LV.bfsD]
    | cons p q =>
      obtain ⟨⟨i, ks⟩, d⟩ := p
      rw [List.map_cons] at h
      obtain ⟨x, xs, rfl, ⟨rfl, hl, hk⟩, hrest⟩ := h.cons_inv
      have h1 : isLive a x = true := (isLive_iff a x).mpr hl
      simp only [levelF, h1, ↓reduceIte]
      have hq' : RepL a (xs ++ (nd a x).children) ((q ++ ks.map (fun k => (k, d + 1))).map (·.1)) := by
        rw [List.map_append]
        apply repL_append a _ _ _ _ hrest
        simpa [List.map_map, Function.comp_def] using hk
      have hsz' : szQ (q ++ ks.map (fun k => (k, d + 1))) ≤ f := by
        simp only [szQ, List.map_append, szRL_append, List.map_map, Function.comp_def, List.map_id'] at hsz ⊢
        simp only [List.map_cons, szRL, szR] at hsz
        omega
      rw [ih _ _ (x :: acc) hq' hsz']
      simp only [lvq, List.map_cons, toLV, LV.bfsD, LV.T.id, LV.T.kids, List.reverse_cons, List.append_assoc,
        List.singleton_append, List.map_append, List.map_map, toLVL_eq_map]
      rfl

end AR
