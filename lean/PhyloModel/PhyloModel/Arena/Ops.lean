import PhyloModel.Arena.Group
/-! Executable operation-level model of the arena mutators of `Tree` (src/tree/tree_impl.rs, node.rs),
    assembled from the slot-level primitives whose invariants are proved in this directory
    (`addChild`, `pruneF`, `resetF`, `splice`, `group`).  Edge lengths are integers: the correspondence
    harness uses lengths that are integer multiples of 2^-10, sent as their numerators, so every `f64`
    sum and product the real code performs is exact.

    Every operation returns the new arena together with an outcome; an `err` outcome may leave a
    partially modified arena behind exactly where the Rust code does (`compress`). -/
namespace AR

inductive Out where
  | ok (ret : Option Nat)      -- success, with the returned node id if any
  | err (kind : String)        -- `Err(..)` value
  | panic                      -- `unwrap`/index/arithmetic failure in the Rust code
  | diverge                    -- fuel exhausted: unbounded recursion in the Rust code
deriving Repr, DecidableEq

def isLive (a : Arena) (i : Nat) : Bool := decide (i < a.size) && !(nd a i).deleted

theorem isLive_iff (a : Arena) (i : Nat) : isLive a i = true ↔ live a i := by
  simp [isLive, live]

/-- recursion fuel handed to the recursive operations by the executable model: more than twice the number
    of slots (no simple path in the arena is longer than the number of slots; the factor two covers the
    ghost-rank argument of the regrouping step).  Theorems obtain adequacy from the depth bound
    `depth < size` that the invariant implies. -/
def fuelOf (a : Arena) : Nat := 2 * a.size + 3

/-- `Tree::add(Node::new())` / `Tree::add(Node::new_named(name))` -/
def add (a : Arena) (name : Option String) : Arena × Nat :=
  (a.push { name := name }, a.size)

/-- payload update; never touches the structural fields -/
def setName (a : Arena) (i : Nat) (name : Option String) : Arena :=
  a.setIfInBounds i { nd a i with name := name }

/-- `Tree::add_child(node, parent, edge)` for a fresh node carrying only a name -/
def addChildNamed (a : Arena) (p : Nat) (e : Option Int) (name : Option String) : Arena × Out :=
  match addChild a p e with
  | some (a', id) => (setName a' id name, .ok (some id))
  | none => (a, .err "NodeNotFound")

/-- `Tree::get_root` (with the `!deleted` filter of the repaired code): first live slot without parent -/
def getRoot (a : Arena) : Option Nat :=
  (List.range a.size).find? (fun i => isLive a i && (nd a i).parent.isNone)

/-- `Tree::prune` -/
def prune (a : Arena) (x : Nat) : Arena × Out :=
  if isLive a x then
    match pruneF (fuelOf a) a x with
    | some a' => (a', .ok none)
    | none => (a, .diverge)
  else (a, .err "NodeNotFound")

/-- the branch length of the spliced edge: both present (sum), both absent, or a refusal -/
def sumLen : Option Int → Option Int → Option (Option Int)
  | some x, some y => some (some (x + y))
  | none, none => some none
  | _, _ => none

/-- `Tree::compress_node` (with the depth repair) -/
def compressNode (a : Arena) (v : Nat) : Arena × Out :=
  if !isLive a v then (a, .err "NodeNotFound") else
  match (nd a v).parent, (nd a v).children with
  | some p, [c] =>
    match sumLen (nd a v).pedge (alGet (nd a v).cedges c) with
    | none => (a, .err "MissingBranchLengths")
    | some e =>
      if !isLive a c || !isLive a p then (a, .err "NodeNotFound") else
      let a1 := splice a v p c e
      match resetF (fuelOf a) a1 c ((nd a1 p).depth + 1) with
      | some a2 => (a2, .ok none)
      | none => (a1, .diverge)
  | _, _ => (a, .err "CouldNotCompressNode")

/-- the list `to_compress` of `Tree::compress`, fixed before the loop -/
def toCompress (a : Arena) : List Nat :=
  (List.range a.size).filter (fun i => isLive a i && (nd a i).parent.isSome && (nd a i).children.length == 1)

def compressLoop : List Nat → Arena → Arena × Out
  | [], a => (a, .ok none)
  | v :: vs, a =>
    match compressNode a v with
    | (a', .ok _) => compressLoop vs a'
    | r => r

/-- `Tree::compress` -/
def compress (a : Arena) : Arena × Out := compressLoop (toCompress a) a

def scaleNode (k : Int) (n : Node) : Node :=
  { n with pedge := n.pedge.map (· * k), cedges := n.cedges.map (fun (c, e) => (c, e * k)) }

/-- `Tree::rescale` (both records of every slot) -/
def rescale (a : Arena) (k : Int) : Arena := a.map (scaleNode k)

/-- slot updates of `merge_children` on two parentless nodes: the fresh node `w = a.size` becomes a root
    above both -/
def rootGroup (a : Arena) (c1 c2 : Nat) (e1 e2 : Option Int) : Arena :=
  let a1 := a.setIfInBounds c1 { nd a c1 with parent := some a.size, pedge := e1 }
  let a2 := a1.setIfInBounds c2 { nd a1 c2 with parent := some a.size, pedge := e2 }
  a2.push (setCedge (setCedge { children := [c1, c2] } c1 e1) c2 e2)

/-- `Tree::merge_children` (with the `child1 == child2` refusal and the depth repair).
    For two parentless nodes the new node becomes a new root.  The name of the new node is payload: it is
    written last here (the Rust code creates the node with it), no structural step reads it. -/
def mergeChildren (a : Arena) (c1 c2 : Nat) (e1 e2 pe : Option Int) (name : Option String) : Arena × Out :=
  if !isLive a c1 then (a, .err "NodeNotFound") else
  if !isLive a c2 then (a, .err "NodeNotFound") else
  if c1 = c2 ∨ (nd a c1).parent ≠ (nd a c2).parent then (a, .err "MergingNonSiblingNodes") else
  let w := a.size
  let a1 : Option Arena :=
    match (nd a c1).parent with
    | some q => if isLive a q then some (group a q c1 c2 pe e1 e2) else none
    | none => some (rootGroup a c1 c2 e1 e2)
  match a1 with
  | none => (a, .err "NodeNotFound")
  | some a1 =>
    let d := (nd a1 w).depth + 1
    match resetF (fuelOf a1) a1 c1 d with
    | none => (setName a1 w name, .diverge)
    | some a3 =>
      match resetF (fuelOf a1) a3 c2 d with
      | none => (setName a3 w name, .diverge)
      | some a4 => (setName a4 w name, .ok (some w))

/-- nodes with more than two children, in arena order: `to_binarize` of `Tree::resolve` -/
def toBinarize (a : Arena) : List Nat :=
  (List.range a.size).filter (fun i => (nd a i).children.length > 2)

/-- one round of the inner loop of `Tree::resolve` on node `q`: the two children popped from the shuffled
    list are `x` then `y`; they move under a fresh node with a zero-length branch. -/
def resolveRound (a : Arena) (q x y : Nat) : Option Arena :=
  if isLive a q && x ≠ y && (nd a q).children.contains x && (nd a q).children.contains y
      && isLive a x && isLive a y then
    let a1 := group a q x y (some 0) (nd a x).pedge (nd a y).pedge
    let d := (nd a1 a.size).depth + 1
    match resetF (fuelOf a1) a1 x d with
    | none => none
    | some a2 => resetF (fuelOf a1) a2 y d
  else none

/-- inner `loop` of `Tree::resolve` for one node, consuming one oracle pair per round.  The Rust loop
    stops when the shuffled local list (old length − 2 + 1) has at most two entries. -/
def resolveNode : Nat → Arena → Nat → List (Nat × Nat) → Option (Arena × List (Nat × Nat))
  | 0, _, _, _ => none
  | f + 1, a, q, picks =>
    match picks with
    | [] => none
    | (x, y) :: rest =>
      let n := (nd a q).children.length
      match resolveRound a q x y with
      | none => none
      | some a' => if n - 1 ≤ 2 then some (a', rest) else resolveNode f a' q rest

def resolveLoop : List Nat → Arena → List (Nat × Nat) → Option (Arena × List (Nat × Nat))
  | [], a, picks => some (a, picks)
  | q :: qs, a, picks =>
    match resolveNode ((nd a q).children.length) a q picks with
    | none => none
    | some (a', rest) => resolveLoop qs a' rest

/-- `Tree::resolve` as a function of the oracle `picks` (the pairs popped after each shuffle).
    `none`: the oracle is ill-formed for this arena (wrong length or a pair that is not two distinct
    current children) — impossible for the real code, which draws from the current child list. -/
def resolve (a : Arena) (picks : List (Nat × Nat)) : Option Arena :=
  match resolveLoop (toBinarize a) a picks with
  | some (a', []) => some a'
  | _ => none

/-- number of oracle pairs `Tree::resolve` consumes: a node with `n > 2` children needs `n − 2` rounds -/
def resolveRounds (a : Arena) : Nat :=
  ((toBinarize a).map (fun q => (nd a q).children.length - 2)).sum

/-- `Tree::levelorder` (queue loop, one dequeue per unit of fuel) -/
def levelF : Nat → Arena → List Nat → List Nat → Option (List Nat)
  | 0, _, [], acc => some acc.reverse
  | 0, _, _ :: _, _ => none
  | _ + 1, _, [], acc => some acc.reverse
  | f + 1, a, x :: q, acc =>
    if isLive a x then levelF f a (q ++ (nd a x).children) (x :: acc) else none

def levelorder (a : Arena) (x : Nat) : Option (List Nat) := levelF (fuelOf a) a [x] []

/-- one step of `Tree::ladderize` at node `v`: its descendant count from its children's, then a stable
    sort of its child list by that count -/
def ladderStep (st : Arena × Array Nat) (v : Nat) : Arena × Array Nat :=
  let a := st.1
  let cnt := st.2
  let kids := (nd a v).children
  let cv := (kids.map (fun c => cnt.getD c 0 + 1)).sum
  let cnt' := cnt.setIfInBounds v cv
  let sorted := kids.mergeSort (fun x y => decide (cnt'.getD x 0 ≤ cnt'.getD y 0))
  (a.setIfInBounds v { nd a v with children := sorted }, cnt')

/-- `Tree::ladderize`: descendant counts bottom-up over the reversed level order, then a stable sort of
    every child list by that count -/
def ladderize (a : Arena) : Arena × Out :=
  match getRoot a with
  | none => (a, .err "RootNotFound")
  | some r =>
    match levelorder a r with
    | none => (a, .diverge)
    | some order => ((order.reverse.foldl ladderStep (a, Array.replicate a.size 0)).1, .ok none)

/-- `Tree::reset_depths` -/
def resetDepths (a : Arena) : Arena × Out :=
  match getRoot a with
  | none => (a, .err "RootNotFound")
  | some r =>
    match resetF (fuelOf a) a r 0 with
    | some a' => (a', .ok none)
    | none => (a, .diverge)

/-! ### decidable invariant checker (the oracle the harness also implements against the real arena) -/

def cedgeKeys (n : Node) : List Nat := n.cedges.map (·.1)

/-- Boolean counterpart of `Inv` ∧ `Tomb` (forest form: any number of roots; a tombstone must be blank in every
    field); no theorem links it to `Inv` -/
def checkInv (a : Arena) : Bool :=
  (List.range a.size).all fun i =>
    let n := nd a i
    if n.deleted then
      n.children.isEmpty && n.parent.isNone && n.cedges.isEmpty && n.pedge.isNone && n.depth == 0
        && n.name.isNone && n.comment.isNone
    else
      n.children.all (fun c =>
          isLive a c && (nd a c).parent == some i && (nd a c).depth == n.depth + 1
            && alGet n.cedges c == (nd a c).pedge)
        && (match n.parent with
            | some p => isLive a p && (nd a p).children.contains i
            | none => n.depth == 0)
        && n.children.eraseDups.length == n.children.length
        && (cedgeKeys n).all (fun c => n.children.contains c || (alGet n.cedges c).isNone)

def liveRoots (a : Arena) : List Nat :=
  (List.range a.size).filter (fun i => isLive a i && (nd a i).parent.isNone)

end AR
