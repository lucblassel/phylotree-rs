import PhyloModel.Arena.Below
/-! The abstraction relation `Rep` (arena slot represents a rose tree), existence under `Inv`,
    uniqueness, and a traversal computed through it.

    Every function on `RTI` is a `mutual` pair (tree / list of trees); its list half is a `map`, `flatMap` or fold of
    its tree half (`preL_eq`, `heightL_le`, `repL_iff`), so that facts are proved by the ordinary induction `RTI.ind`
    ("all kids satisfy `P`"), with `rep_iff` for facts about a represented tree. -/
namespace AR

inductive RTI where | node (id : Nat) (kids : List RTI)

def RTI.id : RTI → Nat | .node i _ => i
def RTI.kids : RTI → List RTI | .node _ ks => ks

theorem RTI.ind {P : RTI → Prop} (h : ∀ i ks, (∀ k ∈ ks, P k) → P (.node i ks)) : ∀ t, P t :=
  @RTI.rec P (fun ks => ∀ k ∈ ks, P k) h (fun _ hk => nomatch hk)
    (fun _ _ hk hks _ hm => by cases hm with | head => exact hk | tail _ hm => exact hks _ hm)

mutual
def Rep (a : Arena) : Nat → RTI → Prop
  | i, .node j kids => i = j ∧ live a i ∧ RepL a (nd a i).children kids
def RepL (a : Arena) : List Nat → List RTI → Prop
  | [], [] => True
  | c :: cs, k :: ks => Rep a c k ∧ RepL a cs ks
  | [], _ :: _ => False
  | _ :: _, [] => False
end

theorem Rep.id_eq {a : Arena} {i : Nat} {t : RTI} (h : Rep a i t) : t.id = i := by
  cases t; simp only [Rep] at h; simp [RTI.id, h.1]

/-- a list of slots represents a list of trees: the slots are the root ids, and every tree is represented -/
theorem repL_iff {a : Arena} : ∀ {cs : List Nat} {ts : List RTI},
    RepL a cs ts ↔ cs = ts.map RTI.id ∧ ∀ k ∈ ts, Rep a k.id k
  | [], [] => ⟨fun _ => ⟨rfl, fun _ h => nomatch h⟩, fun _ => trivial⟩
  | [], _ :: _ => ⟨False.elim, fun h => nomatch h.1⟩
  | _ :: _, [] => ⟨False.elim, fun h => nomatch h.1⟩
  | c :: cs, t :: ts => by
    rw [RepL, repL_iff (cs := cs), List.map_cons, List.cons.injEq, List.forall_mem_cons]
    exact ⟨fun ⟨h, e, hk⟩ => ⟨⟨h.id_eq.symm, e⟩, h.id_eq ▸ h, hk⟩, fun ⟨⟨e, e'⟩, h, hk⟩ => ⟨e ▸ h, e', hk⟩⟩

/-- the form for a recursion along the list of trees -/
theorem RepL.cons_inv {a : Arena} {cs : List Nat} {t : RTI} {ts : List RTI} (h : RepL a cs (t :: ts)) :
    ∃ c cs', cs = c :: cs' ∧ Rep a c t ∧ RepL a cs' ts := by
  cases cs with
  | nil => exact h.elim
  | cons c cs => exact ⟨c, cs, rfl, h⟩

theorem rep_iff {a : Arena} {i j : Nat} {ks : List RTI} :
    Rep a i (.node j ks) ↔ i = j ∧ live a i ∧ (nd a i).children = ks.map RTI.id ∧ ∀ k ∈ ks, Rep a k.id k := by
  rw [Rep, repL_iff]

theorem rep_exists (a : Arena) (hinv : Inv a) (D : Nat) (hD : ∀ i, live a i → (nd a i).depth ≤ D) :
    ∀ (n i : Nat), live a i → D - (nd a i).depth ≤ n → ∃ t, Rep a i t := by
  intro n
  induction n using Nat.strongRecOn with
  | _ n ih =>
    intro i hl hn
    -- a tree for every child, chosen along the child list
    have : ∀ cs : List Nat, (∀ c ∈ cs, c ∈ (nd a i).children) → ∃ ts : List RTI, RepL a cs ts := by
      intro cs
      induction cs with
      | nil => exact fun _ => ⟨[], trivial⟩
      | cons c cs ihc =>
        intro hsub
        obtain ⟨hlc, _, hdc, _⟩ := hinv.child_ok i c hl (hsub c (by simp))
        have := hD c hlc
        obtain ⟨t, ht⟩ := ih (D - (nd a c).depth) (by omega) c hlc (Nat.le_refl _)
        obtain ⟨ts, hts⟩ := ihc (fun c' hc' => hsub c' (by simp [hc']))
        exact ⟨t :: ts, ht, hts⟩
    obtain ⟨ts, hts⟩ := this _ (fun _ hc => hc)
    exact ⟨.node i ts, rfl, hl, hts⟩

theorem repL_unique_of {a : Arena} : ∀ (ts ts' : List RTI) (cs : List Nat),
    (∀ t ∈ ts, ∀ (t' : RTI) (i : Nat), Rep a i t → Rep a i t' → t = t') → RepL a cs ts → RepL a cs ts' → ts = ts'
  | [], [], _, _, _, _ => rfl
  | [], _ :: _, cs, _, h, h' => by cases cs <;> simp [RepL] at h h'
  | _ :: _, [], cs, _, h, h' => by cases cs <;> simp [RepL] at h h'
  | t :: ts, t' :: ts', cs, ih, h, h' => by
    cases cs with
    | nil => simp [RepL] at h
    | cons c cs =>
      simp only [RepL] at h h'
      simp only [List.forall_mem_cons] at ih
      rw [ih.1 t' c h.1 h'.1, repL_unique_of ts ts' cs ih.2 h.2 h'.2]

theorem rep_unique (a : Arena) : ∀ (t t' : RTI) (i : Nat), Rep a i t → Rep a i t' → t = t' := by
  intro t
  induction t using RTI.ind with
  | _ j ks ih =>
    intro ⟨j', ks'⟩ i h h'
    obtain ⟨rfl, _, hk⟩ := h
    obtain ⟨rfl, _, hk'⟩ := h'
    rw [repL_unique_of ks ks' _ ih hk hk']

theorem repL_unique (a : Arena) : ∀ (ts ts' : List RTI) (cs : List Nat), RepL a cs ts → RepL a cs ts' → ts = ts' :=
  fun ts ts' cs => repL_unique_of ts ts' cs (fun t _ => rep_unique a t)

mutual
def pre : RTI → List Nat | .node i ks => i :: preL ks
def preL : List RTI → List Nat | [] => [] | k :: ks => pre k ++ preL ks
end
mutual
def height : RTI → Nat | .node _ ks => 1 + heightL ks
def heightL : List RTI → Nat | [] => 0 | k :: ks => max (height k) (heightL ks)
end

theorem preL_eq : ∀ ks : List RTI, preL ks = ks.flatMap pre
  | [] => rfl
  | k :: ks => by rw [preL, preL_eq ks, List.flatMap_cons]

theorem pre_eq (t : RTI) : pre t = t.id :: preL t.kids := by cases t; rfl

theorem heightL_le : ∀ {ks : List RTI} {f : Nat}, heightL ks ≤ f ↔ ∀ k ∈ ks, height k ≤ f
  | [], _ => by rw [heightL]; exact ⟨fun _ _ h => (nomatch h), fun _ => Nat.zero_le _⟩
  | k :: ks, _ => by rw [heightL, Nat.max_le, heightL_le (ks := ks), List.forall_mem_cons]

/-- `Tree::preorder` with fuel -/
def preorderF : Nat → Arena → Nat → Option (List Nat)
  | 0, _, _ => none
  | f + 1, a, x =>
    if x < a.size ∧ (nd a x).deleted = false then
      (nd a x).children.foldlM (fun acc c => (preorderF f a c).map (fun l => acc ++ l)) [x]
    else none

/-- the child loop of `preorder` / `postorder`: each call answers `h k`, the loop appends the answers in order -/
theorem foldlM_append_some (g : Nat → Option (List Nat)) (h : RTI → List Nat) : ∀ (ks : List RTI) (acc : List Nat),
    (∀ k ∈ ks, g k.id = some (h k)) →
    (ks.map RTI.id).foldlM (fun acc c => (g c).map (fun l => acc ++ l)) acc = some (acc ++ ks.flatMap h)
  | [], acc, _ => by simp
  | k :: ks, acc, hg => by
    rw [List.forall_mem_cons] at hg
    rw [List.map_cons, List.foldlM_cons, hg.1, Option.map_some, Option.bind_eq_bind, Option.bind_some,
      foldlM_append_some g h ks (acc ++ h k) hg.2, List.flatMap_cons, List.append_assoc]

/-- **fuel once**: induction on a represented tree together with the fuel of a recursion down the child lists: to
    have `P f i t` whenever the fuel `f` covers the height of `t`, show it for a node with one more unit of fuel
    from `P` of its kids.  `preorderF`, `postorderF`, `inorderF`, `absF` and the matrix walk `walkF` are instances; each
    only checks its own step. -/
theorem Rep.fuel_ind {a : Arena} {P : Nat → Nat → RTI → Prop}
    (step : ∀ f i ks, live a i → (nd a i).children = ks.map RTI.id → (∀ k ∈ ks, Rep a k.id k) →
      (∀ k ∈ ks, P f k.id k) → P (f + 1) i (.node i ks)) :
    ∀ (t : RTI) (f i : Nat), Rep a i t → height t ≤ f → P f i t := by
  intro t
  induction t using RTI.ind with
  | _ j ks ih =>
    intro f i hr hf
    obtain ⟨rfl, hl, hc, hk⟩ := rep_iff.1 hr
    rw [height] at hf
    obtain ⟨f, rfl⟩ : ∃ f', f = f' + 1 := ⟨f - 1, by omega⟩
    have hf' := heightL_le.1 (show heightL ks ≤ f by omega)
    exact step f i ks hl hc hk (fun k hm => ih k hm f k.id (hk k hm) (hf' k hm))

theorem preorder_rep (a : Arena) : ∀ (t : RTI) (f i : Nat), Rep a i t → height t ≤ f →
    preorderF f a i = some (pre t) :=
  Rep.fuel_ind (P := fun f i t => preorderF f a i = some (pre t)) (fun f i ks hl hc _ hk => by
    have h1 : i < a.size ∧ (nd a i).deleted = false := hl
    rw [preorderF, if_pos h1, hc, foldlM_append_some _ pre ks [i] hk, pre, preL_eq]; rfl)

theorem preorderL_rep (a : Arena) : ∀ (ts : List RTI) (f : Nat) (cs acc : List Nat), RepL a cs ts → heightL ts ≤ f →
    cs.foldlM (fun acc c => (preorderF f a c).map (fun l => acc ++ l)) acc = some (acc ++ preL ts) := by
  intro ts f cs acc h hf
  obtain ⟨rfl, hk⟩ := repL_iff.1 h
  rw [preL_eq]
  exact foldlM_append_some _ pre ts acc (fun k hm => preorder_rep a k f k.id (hk k hm) (heightL_le.1 hf k hm))

end AR
