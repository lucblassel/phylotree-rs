import PhyloModel.Arena.CliReport
import PhyloModel.Arena.QRLemmas
namespace CLIR
open AR SPM

deriving instance DecidableEq for AR.QR

/-- No function of the library model produces `panic`; `NP` is pushed through their definitions bind by bind. -/
def NP {α : Type} (x : QR α) : Prop := x ≠ QR.panic

theorem np_ok {α : Type} (v : α) : NP (QR.ok v) := by simp [NP]
theorem np_pure {α : Type} (v : α) : NP (pure v : QR α) := by simp [NP]
theorem np_err {α : Type} (k : String) : NP (QR.err k : QR α) := by simp [NP]
theorem np_ofOpt {α : Type} (o : Option α) (k : String) : NP (QR.ofOpt o k) := by
  cases o <;> simp [NP, QR.ofOpt]
theorem np_bind {α β : Type} {x : QR α} {f : α → QR β} (hx : NP x) (hf : ∀ v, NP (f v)) : NP (x >>= f) := by
  cases x with
  | ok v => exact hf v
  | err k => simp [NP]
  | panic => exact absurd rfl hx
theorem np_ite {α : Type} {c : Prop} [Decidable c] {x y : QR α} (hx : NP x) (hy : NP y) : NP (if c then x else y) := by
  split <;> assumption

theorem np_mapM_loop {α β : Type} (f : α → QR β) (hf : ∀ x, NP (f x)) : ∀ (l : List α) (acc : List β),
    NP (List.mapM.loop f l acc)
  | [], acc => by simp [List.mapM.loop, NP]
  | x :: l, acc => by
    simp only [List.mapM.loop]
    exact np_bind (hf x) (fun v => np_mapM_loop f hf l (v :: acc))

theorem np_mapM {α β : Type} (f : α → QR β) (hf : ∀ x, NP (f x)) (l : List α) : NP (l.mapM f) := by
  simpa [List.mapM] using np_mapM_loop f hf l []

theorem np_root (a : Arena) : NP (root a) := np_ofOpt _ _
theorem np_isRooted (a : Arena) : NP (isRooted a) := np_bind (np_root a) (fun _ => np_pure _)
theorem np_isBinary (a : Arena) : NP (isBinary a) := by
  unfold isBinary
  split
  · exact np_bind (np_pure _) (fun _ => np_pure _)
  · exact np_bind (np_isRooted a) (fun _ => np_pure _)
theorem np_pathFromRoot (a : Arena) (x : Nat) : NP (pathFromRoot a x) := np_ofOpt _ _
theorem np_commonAncestor (a : Arena) (s t : Nat) : NP (commonAncestor a s t) := by
  unfold commonAncestor
  exact np_ite (np_ok _) (np_bind (np_pathFromRoot a s) fun _ => np_bind (np_pathFromRoot a t) fun _ =>
    np_ite (np_err _) (np_ok _))
theorem np_distance (a : Arena) (s t : Nat) : NP (distance a s t) := by
  unfold distance
  exact np_ite (np_ok _) (np_bind (np_pathFromRoot a s) fun _ => np_bind (np_pathFromRoot a t) fun _ => np_pure _)
theorem np_treeHeight (a : Arena) (u : Int) : NP (treeHeight a u) := by
  unfold treeHeight
  refine np_bind (np_isRooted a) fun r => ?_
  refine np_ite (np_err _) ?_
  refine np_bind (np_root a) fun r => ?_
  refine np_bind (np_mapM _ (fun l => np_bind (np_distance _ _ _) fun _ => np_pure _) _) fun _ => np_ofOpt _ _
theorem np_diameter (a : Arena) (u : Int) : NP (diameter a u) := by
  unfold diameter
  refine np_bind (np_mapM _ (fun l => np_bind (np_distance _ _ _) fun _ => np_pure _) _) fun _ => np_ofOpt _ _
theorem np_checkRB (a : Arena) : NP (checkRootedBinary a) := by
  unfold checkRootedBinary
  refine np_bind (np_isRooted a) fun r => np_ite (np_err _) ?_
  exact np_bind (np_isBinary a) fun r => np_ite (np_err _) (np_pure _)
theorem np_cherries (a : Arena) : NP (cherries a) := by
  unfold cherries
  exact np_bind (np_isBinary a) fun r => np_ite (np_err _) (np_ite (np_err _) (np_pure _))
theorem np_subtreeLeaves (a : Arena) (x : Nat) : NP (subtreeLeaves a x) :=
  np_bind (np_ofOpt _ _) fun _ => np_pure _
theorem np_colless (a : Arena) : NP (colless a) := by
  unfold colless
  refine np_bind (np_checkRB a) fun _ => ?_
  refine np_bind (np_mapM _ (fun i => ?_) _) fun _ => np_pure _
  refine np_bind (np_subtreeLeaves _ _) fun _ => ?_
  split
  · exact np_bind (np_subtreeLeaves _ _) fun _ => np_pure _
  · exact np_bind (np_pure _) fun _ => np_pure _
theorem np_sackin (a : Arena) : NP (sackin a) :=
  np_bind (np_checkRB a) fun _ => np_pure _

theorem np_leafIndex (t : Rose) : NP (leafIndex t) := by
  unfold leafIndex
  simp only
  split
  · exact np_err _
  · split
    · exact np_err _
    · exact np_ok _

theorem np_partitions (t : Rose) : NP (partitions t) := np_bind (np_leafIndex t) fun _ => np_pure _

theorem np_withLengths (ps : List Part) : NP (withLengths ps) := by
  unfold withLengths
  split
  · exact np_err _
  · exact np_ok _

theorem np_absRoot (a : Arena) : NP (absRoot a) := np_bind (np_root a) fun _ => np_ofOpt _ _

theorem np_compareTopologies (s o : Rose) : NP (compareTopologies s o) := by
  unfold compareTopologies
  refine np_bind (np_bind (np_partitions s) np_withLengths) fun ms => ?_
  refine np_bind (np_bind (np_partitions o) np_withLengths) fun mo => ?_
  refine np_bind (np_leafIndex s) fun ls => np_bind (np_leafIndex o) fun lo => ?_
  split
  · exact np_err _
  · exact np_pure _

theorem np_partitionsArena (a : Arena) : NP (partitionsArena a) := by
  unfold partitionsArena
  split
  · split
    · exact np_err _
    · exact np_ok _
  · exact np_bind (np_absRoot a) fun t => np_bind (np_leafIndex t) fun _ => np_bind (np_partitions t) fun _ => np_pure _

theorem toRepr_some {α : Type} (x : QR α) (v : α) : toRepr x = some v ↔ x = .ok v := by
  cases x <;> simp [toRepr]
theorem toRepr_none {α : Type} (x : QR α) (hx : NP x) : toRepr x = none ↔ ∃ k, x = .err k := by
  cases x <;> simp [toRepr, NP] at *

theorem pairsInOrder_eq {α : Type} : ∀ l : List α, pairsInOrder l = l.pairs
  | [] => rfl
  | x :: xs => by rw [pairsInOrder, List.pairs, pairsInOrder_eq xs]

theorem exists_pair_of_mem {α : Type} : ∀ {l : List α}, 2 ≤ l.length → ∀ {x : α}, x ∈ l →
    ∃ y, (x, y) ∈ pairsInOrder l ∨ (y, x) ∈ pairsInOrder l
  | a :: b :: rest, _, x, hx => by
    rcases List.mem_cons.1 hx with rfl | hx
    · exact ⟨b, .inl (List.mem_append_left _ (List.mem_map.2 ⟨b, List.mem_cons_self, rfl⟩))⟩
    · exact ⟨a, .inr (List.mem_append_left _ (List.mem_map.2 ⟨x, hx, rfl⟩))⟩
theorem map_some_eq_range {α : Type} (l : List α) : l.map some = (List.range l.length).map (fun i => l[i]?) := by
  apply List.ext_getElem
  · simp
  · intro i _ _
    simp

theorem pairsInOrder_positions {α : Type} (l : List α) :
    (pairsInOrder l).map (fun p => (some p.1, some p.2)) =
      (pairsInOrder (List.range l.length)).map (fun p => (l[p.1]?, l[p.2]?)) := by
  rw [pairsInOrder_eq, pairsInOrder_eq, ← List.pairs_map some l, map_some_eq_range, List.pairs_map]


theorem distanceRow_ok_iff (a : Arena) (p : String × String) (r : String × String × Int) :
    distanceRow a p = .ok r ↔
      r.1 = p.1 ∧ r.2.1 = p.2 ∧ ∃ i j c, getByName a p.1 = some i ∧ getByName a p.2 = some j ∧
        distancePub a i j = .ok (some r.2.2, c) := by
  unfold distanceRow
  constructor
  · intro h
    split at h
    · cases h
    · split at h
      · cases h
      · rename_i i1 h1 i2 h2
        split at h
        · rename_i d c hd
          cases h
          exact ⟨rfl, rfl, _, _, _, ‹_›, ‹_›, ‹_›⟩
        · cases h
        · cases h
  · rintro ⟨h1, h2, i, j, c, hi, hj, hd⟩
    simp only [hi, hj, hd]
    obtain ⟨r1, r2, r3⟩ := r
    simp only at h1 h2
    subst h1 h2
    rfl

theorem distanceRow_np (a : Arena) (p : String × String) : NP (distanceRow a p) := by
  unfold distanceRow NP
  repeat' split
  all_goals simp

/-- `mapQ` is the monadic map -/
theorem mapQ_cons {α β : Type} (f : α → QR β) (x : α) (xs : List α) :
    mapQ f (x :: xs) = (do let r ← f x; let rs ← mapQ f xs; pure (r :: rs)) := by
  rw [mapQ]
  cases f x with
  | ok r => cases mapQ f xs <;> rfl
  | err k => rfl
  | panic => rfl

theorem mapQ_ok_iff {α β : Type} (f : α → QR β) : ∀ (ps : List α) (rows : List β),
    mapQ f ps = .ok rows ↔ ps.map f = rows.map QR.ok
  | [], rows => by cases rows <;> simp [mapQ]
  | p :: ps, [] => by simp [mapQ_cons, QR.bind_eq_ok]
  | p :: ps, r :: rows => by
    rw [mapQ_cons]
    simp only [QR.bind_eq_ok, QR.pure_eq, QR.ok.injEq, List.cons.injEq, List.map_cons, ← mapQ_ok_iff f ps rows]
    constructor
    · rintro ⟨_, h1, _, h2, rfl, rfl⟩; exact ⟨h1, h2⟩
    · rintro ⟨h1, h2⟩; exact ⟨r, h1, rows, h2, rfl, rfl⟩

section
variable {α β : Type} {f : α → QR β} {ps : List α} {rows : List β}

theorem mapQ_ok_length (h : mapQ f ps = .ok rows) : rows.length = ps.length := by
  simpa using (congrArg List.length ((mapQ_ok_iff _ _ _).mp h)).symm

theorem mapQ_ok_mem_left (h : mapQ f ps = .ok rows) {p : α} (hp : p ∈ ps) : ∃ r ∈ rows, f p = .ok r := by
  rw [mapQ_ok_iff] at h
  obtain ⟨r, hr, e⟩ := List.mem_map.1 (h ▸ List.mem_map.2 ⟨p, hp, rfl⟩)
  exact ⟨r, hr, e.symm⟩

theorem mapQ_ok_mem_right (h : mapQ f ps = .ok rows) {r : β} (hr : r ∈ rows) : ∃ p ∈ ps, f p = .ok r := by
  rw [mapQ_ok_iff] at h
  exact List.mem_map.1 (h ▸ List.mem_map.2 ⟨r, hr, rfl⟩)

theorem mapQ_isOk_iff : (∃ rows, mapQ f ps = .ok rows) ↔ ∀ p ∈ ps, ∃ r, f p = .ok r := by
  refine ⟨fun ⟨rows, h⟩ p hp => (mapQ_ok_mem_left h hp).imp fun _ h => h.2, fun h => ?_⟩
  induction ps with
  | nil => exact ⟨[], rfl⟩
  | cons p ps ih =>
    obtain ⟨r, hr⟩ := h p (by simp)
    obtain ⟨rs, hrs⟩ := ih fun q hq => h q (List.mem_cons_of_mem _ hq)
    exact ⟨r :: rs, by rw [mapQ_cons, hr, hrs]; rfl⟩

/-- a column of the results from which the argument can be read off is the list of arguments -/
theorem mapQ_ok_map {g : β → α} (hg : ∀ p r, f p = .ok r → g r = p) :
    ∀ {ps : List α} {rows : List β}, mapQ f ps = .ok rows → rows.map g = ps
  | [], rows, h => by cases h; rfl
  | p :: ps, rows, h => by
    simp only [mapQ_cons, QR.bind_eq_ok, QR.pure_eq, QR.ok.injEq] at h
    obtain ⟨r, hr, rs, hrs, rfl⟩ := h
    rw [List.map_cons, hg p r hr, mapQ_ok_map hg hrs]
end

theorem mapQ_append {α β : Type} (f : α → QR β) (xs ys : List α) (rs : List β) :
    mapQ f (xs ++ ys) = .ok rs ↔ ∃ r1 r2, mapQ f xs = .ok r1 ∧ mapQ f ys = .ok r2 ∧ rs = r1 ++ r2 := by
  simp only [mapQ_ok_iff, List.map_append]
  constructor
  · intro h
    obtain ⟨l1, l2, rfl, h1, h2⟩ := List.map_eq_append_iff.mp h.symm
    exact ⟨l1, l2, h1.symm, h2.symm, rfl⟩
  · rintro ⟨r1, r2, h1, h2, rfl⟩
    simp [h1, h2]

theorem mapQ_np {α β : Type} (f : α → QR β) (hf : ∀ x, NP (f x)) : ∀ ps : List α, NP (mapQ f ps)
  | [] => np_ok _
  | p :: ps => by
    rw [mapQ_cons]
    exact np_bind (hf p) fun _ => np_bind (mapQ_np f hf ps) fun _ => np_pure _

theorem mapQ_cons_err {α β : Type} (f : α → QR β) (p : α) (ps : List α) (k : String) :
    mapQ f (p :: ps) = .err k ↔ f p = .err k ∨ (∃ r, f p = .ok r) ∧ mapQ f ps = .err k := by
  simp [mapQ_cons, QR.bind_eq_err]

theorem mapQ_err_iff {α β : Type} (f : α → QR β) (k : String) : ∀ ps : List α,
    mapQ f ps = .err k ↔ ∃ pre p post, ps = pre ++ p :: post ∧
      (∀ q ∈ pre, ∃ r, f q = .ok r) ∧ f p = .err k
  | [] => by simp [mapQ]
  | p :: ps => by
    rw [mapQ_cons_err, mapQ_err_iff f k ps]
    constructor
    · rintro (h | ⟨hr, pre, q, post, rfl, hpre, hq⟩)
      · exact ⟨[], p, ps, rfl, fun _ hq => absurd hq List.not_mem_nil, h⟩
      · exact ⟨p :: pre, q, post, rfl, List.forall_mem_cons.2 ⟨hr, hpre⟩, hq⟩
    · rintro ⟨pre, q, post, he, hpre, hq⟩
      cases pre with
      | nil => cases he; exact .inl hq
      | cons z pre =>
        cases he
        exact .inr ⟨hpre _ List.mem_cons_self, pre, q, post, rfl, fun w hw => hpre w (List.mem_cons_of_mem _ hw), hq⟩
end CLIR
