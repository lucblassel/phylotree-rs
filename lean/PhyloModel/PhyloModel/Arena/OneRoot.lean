import PhyloModel.Arena.OpsInv
/-! "The live nodes form exactly one rooted tree": no editing operation creates a second parentless live
    node, and under the invariant every live node descends from a parentless live node.  Only `add`
    (a fresh parentless node) can create a root; histories that call it on an arena without a live root
    (the way every constructor of the crate does) keep at most one root for ever. -/
namespace AR

def isRoot (a : Arena) (i : Nat) : Prop := live a i ∧ (nd a i).parent = none
def AtMostOneRoot (a : Arena) : Prop := ∀ i j, isRoot a i → isRoot a j → i = j
def RootsSub (a b : Arena) : Prop := ∀ i, isRoot b i → isRoot a i

theorem RootsSub.refl (a : Arena) : RootsSub a a := fun _ h => h
theorem RootsSub.trans {a b c : Arena} (h1 : RootsSub a b) (h2 : RootsSub b c) : RootsSub a c :=
  fun i h => h1 i (h2 i h)
theorem RootsSub.atMostOne {a b : Arena} (h : RootsSub a b) (h1 : AtMostOneRoot a) : AtMostOneRoot b :=
  fun i j hi hj => h1 i j (h i hi) (h j hj)

/-- roots are read off the size, the removal flags and the parent links -/
theorem RootsSub.of_links {a b : Arena} (hsz : b.size = a.size)
    (h : ∀ i, (nd b i).parent = (nd a i).parent ∧ (nd b i).deleted = (nd a i).deleted) : RootsSub a b :=
  fun i ⟨hl, hp⟩ => ⟨⟨hsz ▸ hl.1, (h i).2 ▸ hl.2⟩, (h i).1 ▸ hp⟩

theorem SameButDepth.roots {a b : Arena} (h : SameButDepth a b) : RootsSub a b :=
  .of_links h.1 fun i => ⟨(h.2 i).1, (h.2 i).2.2.2.2⟩

theorem SameStruct.roots {a b : Arena} (h : SameStruct a b) : RootsSub a b :=
  .of_links h.1 fun i => ⟨(h.2 i).1, (h.2 i).2.2.2.2.1⟩

theorem root_above {a : Arena} {r : Nat → Nat} (w : W a r) {x : Nat} (hl : live a x) :
    ∃ t k, isRoot a t ∧ BelowK a t x k := by
  induction hn : r x using Nat.strongRecOn generalizing x with
  | _ n ih =>
    cases hp : (nd a x).parent with
    | none => exact ⟨x, 0, ⟨hl, hp⟩, BelowK.refl hl⟩
    | some p =>
      have := w.parent_lt hl hp
      obtain ⟨t, k, ht, hb⟩ := ih (r p) (by omega) (w.parent_ok x p hl hp).1 rfl
      exact ⟨t, k + 1, ht, BelowK.step hb hl hp⟩

/-- the live nodes of a well-formed arena with at most one root form exactly one rooted tree: there is
    one parentless live node, `get_root` returns it, and every live node lies below it -/
theorem one_tree {a : Arena} (hinv : Inv a) (h1 : AtMostOneRoot a) (x : Nat) (hl : live a x) :
    ∃ t, isRoot a t ∧ getRoot a = some t ∧ (∀ t', isRoot a t' → t' = t) ∧ ∀ y, live a y → ∃ k, BelowK a t y k := by
  obtain ⟨t, _, ht, _⟩ := root_above hinv.toW hl
  refine ⟨t, ht, ?_, fun t' h' => h1 t' t h' ht, ?_⟩
  · unfold getRoot
    have hpt : (fun i => isLive a i && (nd a i).parent.isNone) t = true := by
      simp [(isLive_iff a t).2 ht.1, ht.2]
    cases hf : (List.range a.size).find? (fun i => isLive a i && (nd a i).parent.isNone) with
    | none =>
      rw [List.find?_eq_none] at hf
      exact absurd hpt (hf t (List.mem_range.2 ht.1.1))
    | some t' =>
      have := List.find?_some hf
      simp only [Bool.and_eq_true, Option.isNone_iff_eq_none] at this
      rw [h1 t' t ⟨(isLive_iff a t').1 this.1, this.2⟩ ht]
  · intro y hy
    obtain ⟨t', k, ht', hb⟩ := root_above hinv.toW hy
    rw [h1 t' t ht' ht] at hb
    exact ⟨k, hb⟩

theorem addChildNamed_roots {a : Arena} (p : Nat) (e : Option Int) (name : Option String) :
    RootsSub a (addChildNamed a p e name).1 := by
  by_cases hlp : live a p
  · obtain ⟨a', h, hsz, hb⟩ := addChildNamed_ok hlp e name
    rw [h]
    intro i ⟨hl, hpar⟩
    rw [live, hsz] at hl
    rw [hb] at hl hpar
    by_cases hi : i = a.size
    · rw [if_pos hi] at hpar; cases hpar
    · rw [if_neg hi] at hl hpar
      by_cases hip : i = p
      · rw [if_pos hip, setCedge_parent] at hpar; exact ⟨hip ▸ hlp, hip ▸ hpar⟩
      · rw [if_neg hip] at hl hpar
        exact ⟨⟨Nat.lt_of_le_of_ne (Nat.le_of_lt_succ hl.1) hi, hl.2⟩, hpar⟩
  · rw [addChildNamed_refused hlp]; exact RootsSub.refl a

theorem prune_roots {a : Arena} (x : Nat) (g : Good a) : RootsSub a (prune a x).1 := by
  by_cases hl : live a x
  · obtain ⟨a1, h1, ok⟩ := prune_ok g hl
    rw [h1]
    intro i ⟨hli, hp⟩
    refine ⟨ok.sub i hli, ?_⟩
    by_cases hc : (nd a x).parent = some i
    · rw [ok.par i hc] at hp; exact hp
    · rw [ok.same i hli hc] at hp; exact hp
  · rw [prune_refused hl]; exact RootsSub.refl a

theorem compressNode_roots {a : Arena} (v : Nat) (g : Good a) : RootsSub a (compressNode a v).1 := by
  rcases compressNode_cases v g with ⟨h1, _⟩ | ⟨p, c, e, a2, _, _, _, _, _, s, h⟩
  · rw [h1]; exact RootsSub.refl a
  · rw [h]
    intro i ⟨hl, hp⟩
    obtain ⟨hl, hiv⟩ := (s.live_iff i).1 hl
    rw [s.parent, if_neg hiv] at hp
    split at hp
    · cases hp
    · exact ⟨hl, hp⟩

theorem compressLoop_roots (vs : List Nat) {a : Arena} (g : Good a) : RootsSub a (compressLoop vs a).1 :=
  (compressLoop_lift RootsSub.refl (fun _ _ _ => RootsSub.trans)
    (fun _ v g => ⟨(compressNode_good v g).1, compressNode_roots v g⟩) vs g).2

theorem rescale_roots (a : Arena) (k : Int) : RootsSub a (rescale a k) :=
  .of_links (by simp [rescale]) fun i => by rw [rescale_nd]; exact ⟨rfl, rfl⟩

theorem GroupedFx.roots {a b : Arena} {q c1 c2 : Nat} {pe e1 e2 : Option Int}
    (s : GroupedFx a b q c1 c2 pe e1 e2) : RootsSub a b := by
  intro i ⟨hl, hp⟩
  rw [s.parent] at hp
  split at hp
  · cases hp
  next h0 =>
    split at hp
    · cases hp
    · exact ⟨((s.live_iff i).1 hl).resolve_right h0, hp⟩

theorem mergeChildren_roots {a : Arena} (c1 c2 : Nat) (e1 e2 pe : Option Int) (name : Option String) (g : Good a)
    (h1r : AtMostOneRoot a) : RootsSub a (mergeChildren a c1 c2 e1 e2 pe name).1 := by
  rcases mergeChildren_cases c1 c2 e1 e2 pe name g with ⟨h1, _⟩ | ⟨b, _, h, hl1, hl2, h12, hb⟩
  · rw [h1]; exact RootsSub.refl a
  · rw [h]
    rcases hb with ⟨hp1, hp2, _⟩ | ⟨q, hlq, hm1, hm2, hb⟩
    · exact absurd (h1r c1 c2 ⟨hl1, hp1⟩ ⟨hl2, hp2⟩) h12
    · exact hb.roots.trans (setName_same _ _ _).roots

theorem resolveRound_roots {a a' : Arena} (q x y : Nat) (g : Good a) (h : resolveRound a q x y = some a') :
    RootsSub a a' :=
  (resolveRound_ok g h).2.2.2.2.2.roots

theorem resolve_roots {a a' : Arena} (picks : List (Nat × Nat)) (g : Good a) (h : resolve a picks = some a') :
    RootsSub a a' :=
  (resolve_lift RootsSub.refl (fun _ _ _ => RootsSub.trans)
    (fun _ _ q x y g h => ⟨resolveRound_good q x y g h, resolveRound_roots q x y g h⟩) picks g h).2

theorem ladderize_roots (a : Arena) : RootsSub a (ladderize a).1 :=
  .of_links (ladderize_frame a).1 fun i => have k := (ladderize_frame a).2 i; ⟨k.2.1, k.2.2.2.2.1⟩

theorem resetDepths_roots (a : Arena) : RootsSub a (resetDepths a).1 := by
  unfold resetDepths
  split
  · exact RootsSub.refl a
  · split
    next a' h => exact (resetF_same _ _ _ _ _ h).roots
    · exact RootsSub.refl a

theorem add_oneRoot {a : Arena} (name : Option String) (h0 : ∀ i, ¬ isRoot a i) : AtMostOneRoot (add a name).1 := by
  have key : ∀ i, isRoot (add a name).1 i → i = a.size := by
    intro i ⟨hl, hp⟩
    simp only [add, live, nd_push, Array.size_push] at hl hp
    by_cases h : i = a.size
    · exact h
    · simp only [h, ↓reduceIte] at hl hp
      exact absurd ⟨⟨by omega, hl.2⟩, hp⟩ (h0 i)
  intro i j hi hj
  rw [key i hi, key j hj]

theorem add_empty_oneRoot (name : Option String) : AtMostOneRoot (add #[] name).1 :=
  add_oneRoot name (fun i h => absurd h.1.1 (by simp))

theorem addChildNamed_oneRoot {a : Arena} (p : Nat) (e : Option Int) (name : Option String) (h : AtMostOneRoot a) :
    AtMostOneRoot (addChildNamed a p e name).1 :=
  (addChildNamed_roots p e name).atMostOne h

/-- operations a history may contain at a given state: `add` only when no live root exists -/
def Admissible (a : Arena) : Op → Prop
  | .add _ => ∀ i, ¬ isRoot a i
  | _ => True

theorem applyOp_oneRoot {a : Arena} (op : Op) (g : Good a) (h1 : AtMostOneRoot a) (hadm : Admissible a op) :
    AtMostOneRoot (applyOp a op).1 := by
  cases op with
  | add n => exact add_oneRoot n hadm
  | addChild p e n => exact (addChildNamed_roots p e n).atMostOne h1
  | setName i n => exact (setName_same a i n).roots.atMostOne h1
  | prune x => exact (prune_roots x g).atMostOne h1
  | compressNode v => exact (compressNode_roots v g).atMostOne h1
  | compress => exact (compressLoop_roots _ g).atMostOne h1
  | rescale k => exact (rescale_roots a k).atMostOne h1
  | merge c1 c2 e1 e2 pe n => exact (mergeChildren_roots c1 c2 e1 e2 pe n g h1).atMostOne h1
  | resolve picks =>
    simp only [applyOp]
    split
    next a' h => exact (resolve_roots picks g h).atMostOne h1
    next => exact h1
  | ladderize => exact (ladderize_roots a).atMostOne h1
  | resetDepths => exact (resetDepths_roots a).atMostOne h1

def AdmissibleRun : Arena → List Op → Prop
  | _, [] => True
  | a, op :: ops => Admissible a op ∧ AdmissibleRun (applyOp a op).1 ops

theorem runOps_oneRoot : ∀ (ops : List Op) {a : Arena}, Good a → AtMostOneRoot a → AdmissibleRun a ops →
    Good (runOps a ops) ∧ AtMostOneRoot (runOps a ops)
  | [], _, g, h1, _ => ⟨g, h1⟩
  | op :: ops, a, g, h1, hadm => by
    simp only [runOps, List.foldl_cons]
    exact runOps_oneRoot ops (applyOp_good op g).1 (applyOp_oneRoot op g h1 hadm.1) hadm.2

end AR
