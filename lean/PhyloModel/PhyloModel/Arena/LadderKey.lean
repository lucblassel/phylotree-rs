import PhyloModel.Arena.OneRoot
import PhyloModel.Arena.LevelFacts
import PhyloModel.Arena.ResolvePost
/-! C11, postcondition of `ladderize`: every child list is the stable sort of what it was, by the number
    of proper descendants (`descCount`).  The count array the executable model fills bottom-up over the
    reversed level order holds `descCount` for every node already processed, because level order lists every
    child after its parent. -/
namespace AR

/-- number of proper descendants: the length of the executable pre-order listing of the subtree, minus one -/
def descCount (a : Arena) (v : Nat) : Nat :=
  match preorderF (fuelOf a) a v with
  | some l => l.length - 1
  | none => 0

theorem descCount_dead {a : Arena} {v : Nat} (h : ¬ live a v) : descCount a v = 0 := by
  unfold descCount fuelOf
  have : ¬ (v < a.size ∧ (nd a v).deleted = false) := h
  simp [preorderF, this]

theorem descCount_rep {a : Arena} (hinv : Inv a) {v : Nat} {t : RTI} (h : Rep a v t) :
    descCount a v + 1 = szR t := by
  have hl : live a v := by cases t; simp only [Rep] at h; exact h.2.1
  obtain ⟨t', ht', _, hh, _⟩ := rep_total hinv v hl
  have := rep_unique a t t' v h ht'
  subst this
  have hp := preorder_rep a t _ v h hh
  unfold descCount
  rw [hp, szR_pre]
  cases t with
  | node j ks => simp [pre]

theorem szRL_sum {a : Arena} (hinv : Inv a) : ∀ (cs : List Nat) (ts : List RTI), RepL a cs ts →
    szRL ts = (cs.map (fun c => descCount a c + 1)).sum
  | [], [], _ => by simp [szRL]
  | [], _ :: _, h => by simp [RepL] at h
  | _ :: _, [], h => by simp [RepL] at h
  | c :: cs, t :: ts, h => by
    simp only [RepL] at h
    simp only [szRL, List.map_cons, List.sum_cons, descCount_rep hinv h.1, szRL_sum hinv cs ts h.2]

/-- the recursive equation `ladderize` computes with -/
theorem descCount_kids {a : Arena} (hinv : Inv a) {v : Nat} (hl : live a v) :
    descCount a v = ((nd a v).children.map (fun c => descCount a c + 1)).sum := by
  obtain ⟨t, ht, _⟩ := rep_total hinv v hl
  have h1 := descCount_rep hinv ht
  cases t with
  | node j ks =>
    simp only [Rep] at ht
    have := szRL_sum hinv _ _ ht.2.2
    simp only [szR] at h1
    omega

/-- `descCount` really counts the proper descendants: they form a duplicate-free list of that length -/
theorem descCount_spec {a : Arena} (hinv : Inv a) {v : Nat} (hl : live a v) :
    ∃ l : List Nat, l.Nodup ∧ (∀ u, u ∈ l ↔ ∃ k, BelowK a v u (k + 1)) ∧ descCount a v = l.length := by
  obtain ⟨t, ht, _⟩ := rep_total hinv v hl
  have h1 := descCount_rep hinv ht
  have hnd := pre_nodup hinv.toW t v ht
  have hmem := mem_pre_iff hinv.toW t v ht
  cases t with
  | node j ks =>
    have hj : v = j := by simp only [Rep] at ht; exact ht.1
    subst hj
    simp only [pre, List.nodup_cons] at hnd
    refine ⟨preL ks, hnd.2, ?_, ?_⟩
    · intro u
      have hu := hmem u
      simp only [pre, List.mem_cons] at hu
      constructor
      · intro hin
        obtain ⟨k, hb⟩ := hu.1 (Or.inr hin)
        cases k with
        | zero => cases hb; exact absurd hin hnd.1
        | succ k => exact ⟨k, hb⟩
      · rintro ⟨k, hb⟩
        rcases hu.2 ⟨_, hb⟩ with h | h
        · subst h
          have := BelowK.rank hinv.toW hb
          omega
        · exact h
    · rw [szR_pre] at h1
      simp only [pre, List.length_cons] at h1
      omega

def sortedKids (a : Arena) (v : Nat) : List Nat :=
  (nd a v).children.mergeSort (fun x y => decide (descCount a x ≤ descCount a y))

/-- state of the fold after the nodes in `done` -/
structure LInv (a : Arena) (done : List Nat) (st : Arena × Array Nat) : Prop where
  csize : st.2.size = a.size
  cnt : ∀ x ∈ done, st.2.getD x 0 = descCount a x
  bsize : st.1.size = a.size
  sorted : ∀ x ∈ done, nd st.1 x = { nd a x with children := sortedKids a x }
  rest : ∀ x, x ∉ done → nd st.1 x = nd a x

theorem ladderStep_linv {a : Arena} (hinv : Inv a) {done : List Nat} {st : Arena × Array Nat}
    (h : LInv a done st) {x : Nat} (hx : x ∉ done) (hl : live a x)
    (hk : ∀ c ∈ (nd a x).children, c ∈ done) : LInv a (done ++ [x]) (ladderStep st x) := by
  obtain ⟨b, cnt⟩ := st
  have hcs : cnt.size = a.size := h.csize
  have hbs : b.size = a.size := h.bsize
  have hkids : nd b x = nd a x := h.rest x hx
  have hxk : x ∉ (nd a x).children := fun hm => by
    have := (hinv.child_ok x x hl hm).2.2.1; omega
  have hcv : ((nd a x).children.map (fun c => cnt.getD c 0 + 1)).sum = descCount a x := by
    rw [descCount_kids hinv hl]
    congr 1
    apply List.map_congr_left
    intro c hc; rw [h.cnt c (hk c hc)]
  have hxlt : x < cnt.size := by rw [hcs]; exact hl.1
  have hget : ∀ y, (cnt.setIfInBounds x (descCount a x)).getD y 0 =
      if y = x then descCount a x else cnt.getD y 0 := by
    intro y; rw [Array.getD_setIfInBounds]; simp [hxlt]
  have hkey : ∀ c ∈ (nd a x).children, (cnt.setIfInBounds x (descCount a x)).getD c 0 = descCount a c := by
    intro c hc
    have : c ≠ x := fun e => hxk (e ▸ hc)
    rw [hget, if_neg this, h.cnt c (hk c hc)]
  have hsort : (nd a x).children.mergeSort (fun c d =>
      decide ((cnt.setIfInBounds x (descCount a x)).getD c 0 ≤ (cnt.setIfInBounds x (descCount a x)).getD d 0))
      = sortedKids a x := by
    have := List.map_mergeSort (f := id) (l := (nd a x).children)
      (r := fun c d => decide ((cnt.setIfInBounds x (descCount a x)).getD c 0 ≤
        (cnt.setIfInBounds x (descCount a x)).getD d 0))
      (s := fun c d => decide (descCount a c ≤ descCount a d))
      (by intro c hc d hd; simp only [id, hkey c hc, hkey d hd])
    simpa [sortedKids] using this
  have hstep : ladderStep (b, cnt) x =
      (b.setIfInBounds x { nd a x with children := sortedKids a x }, cnt.setIfInBounds x (descCount a x)) := by
    simp only [ladderStep, hkids, hcv, hsort]
  rw [hstep]
  have hxb : x < b.size := by rw [hbs]; exact hl.1
  refine ⟨by simp [hcs], ?_, by simp [hbs], ?_, ?_⟩
  · intro y hy
    show (cnt.setIfInBounds x (descCount a x)).getD y 0 = _
    rw [hget]
    by_cases hyx : y = x
    · simp [hyx]
    · rw [if_neg hyx]
      rcases List.mem_append.1 hy with hy | hy
      · exact h.cnt y hy
      · simp at hy; exact absurd hy hyx
  · intro y hy
    show nd (b.setIfInBounds x _) y = _
    rw [nd_set]
    by_cases hyx : y = x
    · subst hyx; simp [hxb]
    · have : ¬ (y = x ∧ x < b.size) := fun hh => hyx hh.1
      rw [if_neg this]
      rcases List.mem_append.1 hy with hy | hy
      · exact h.sorted y hy
      · simp at hy; exact absurd hy hyx
  · intro y hy
    simp only [List.mem_append, List.mem_singleton, not_or] at hy
    show nd (b.setIfInBounds x _) y = _
    rw [nd_set]
    have : ¬ (y = x ∧ x < b.size) := fun hh => hy.2 hh.1
    rw [if_neg this]
    exact h.rest y hy.1

theorem ladderFold_linv {a : Arena} (hinv : Inv a) : ∀ (todo done : List Nat) (st : Arena × Array Nat),
    LInv a done st → (done ++ todo).Nodup → (∀ x ∈ todo, live a x) →
    (∀ T1 x T2, todo = T1 ++ x :: T2 → ∀ c ∈ (nd a x).children, c ∈ done ++ T1) →
    LInv a (done ++ todo) (todo.foldl ladderStep st)
  | [], done, st, h, _, _, _ => by simpa using h
  | x :: todo, done, st, h, hnd, hlive, hk => by
    rw [List.foldl_cons]
    have hx : x ∉ done := by
      intro hm
      have := (List.nodup_append.1 hnd).2.2 x hm x (by simp)
      exact this rfl
    have h1 := ladderStep_linv hinv h hx (hlive x (by simp)) (fun c hc => by simpa using hk [] x todo rfl c hc)
    have := ladderFold_linv hinv todo (done ++ [x]) _ h1 (by simpa using hnd)
      (fun y hy => hlive y (by simp [hy]))
      (fun T1 y T2 heq c hc => by
        have := hk (x :: T1) y T2 (by rw [heq]; rfl) c hc
        simpa using this)
    simpa using this

/-- **what `ladderize` leaves in every slot**: a node of the root's tree keeps everything but the order of
    its child list, which becomes the stable sort of the old list by the number of proper descendants;
    every other slot is untouched -/
theorem ladderize_slots {a : Arena} (g : Good a) {r : Nat} (hr : getRoot a = some r) :
    (ladderize a).2 = .ok none ∧
    (∀ v, (∃ k, BelowK a r v k) → nd (ladderize a).1 v = { nd a v with children := sortedKids a v }) ∧
    (∀ v, (¬ ∃ k, BelowK a r v k) → nd (ladderize a).1 v = nd a v) := by
  obtain ⟨hlr, _⟩ := getRoot_spec hr
  obtain ⟨order, ho, hnd, hmem, _⟩ := levelorder_closed g.1 r hlr
  have haft := levelorder_after ho
  have h0 : LInv a [] (a, Array.replicate a.size 0) :=
    ⟨by simp, by simp, rfl, by simp, fun _ _ => rfl⟩
  have hfold := ladderFold_linv g.1 order.reverse [] _ h0 (by simpa using (List.reverse_perm order).nodup_iff.2 hnd)
    (fun x hx => by
      obtain ⟨k, hb⟩ := (hmem x).1 (by simpa using hx)
      exact hb.is_live)
    (fun T1 x T2 heq c hc => by simpa using haft.reverse T1 x T2 heq c hc)
  simp only [List.nil_append] at hfold
  have hlad : ladderize a = ((order.reverse.foldl ladderStep (a, Array.replicate a.size 0)).1, .ok none) := by
    simp only [ladderize, hr, ho]
  rw [hlad]
  refine ⟨rfl, ?_, ?_⟩
  · intro v hv
    exact hfold.sorted v (by simpa using (hmem v).2 hv)
  · intro v hv
    exact hfold.rest v (by intro hm; exact hv ((hmem v).1 (by simpa using hm)))

/-! ### the key is the same in the new arena -/

theorem PermKids.live_iff {a b : Arena} (h : PermKids a b) (i : Nat) : live b i ↔ live a i := by
  simp only [live, h.1, (h.2 i).2.2.2.2.1]

theorem PermKids.tip {a b : Arena} (h : PermKids a b) (i : Nat) : IsTip b i ↔ IsTip a i := by
  have p0 := (h.2 i).1
  simp only [IsTip, h.live_iff]
  constructor
  · rintro ⟨hl, hk⟩; rw [hk] at p0; exact ⟨hl, List.perm_nil.1 p0.symm⟩
  · rintro ⟨hl, hk⟩; rw [hk] at p0; exact ⟨hl, List.perm_nil.1 p0⟩

theorem PermKids.below {a b : Arena} (h : PermKids a b) {x v k : Nat} : BelowK b x v k ↔ BelowK a x v k :=
  ⟨fun hb => hb.transfer fun u _ hu => ⟨(h.live_iff u).1 hu.is_live, (h.2 u).2.1.symm⟩,
   fun hb => hb.transfer fun u _ hu => ⟨(h.live_iff u).2 hu.is_live, (h.2 u).2.1⟩⟩

theorem PermKids.descCount {a b : Arena} (h : PermKids a b) (ga : Good a) (gb : Good b) (v : Nat) :
    descCount b v = descCount a v := by
  by_cases hl : live a v
  · obtain ⟨l, n1, m1, e1⟩ := descCount_spec ga.1 hl
    obtain ⟨l', n2, m2, e2⟩ := descCount_spec gb.1 ((h.live_iff v).2 hl)
    rw [e1, e2]
    apply List.Perm.length_eq
    rw [List.perm_ext_iff_of_nodup n2 n1]
    intro u
    rw [m1, m2]
    constructor
    · rintro ⟨k, hb⟩; exact ⟨k, h.below.1 hb⟩
    · rintro ⟨k, hb⟩; exact ⟨k, h.below.2 hb⟩
  · rw [descCount_dead hl, descCount_dead fun hh => hl ((h.live_iff v).1 hh)]

/-- **postcondition of `ladderize`**: when a root is present, every node of the root's tree has, in the
    resulting arena, its children ordered by their number of proper descendants in the resulting arena
    (non-decreasing), and the new child list is exactly the stable sort of the old one by that key -/
theorem ladderize_post {a : Arena} (g : Good a) {r : Nat} (hr : getRoot a = some r) (v : Nat)
    (hv : ∃ k, BelowK a r v k) :
    (nd (ladderize a).1 v).children.Pairwise
        (fun c d => descCount (ladderize a).1 c ≤ descCount (ladderize a).1 d) ∧
    (nd (ladderize a).1 v).children = (nd a v).children.mergeSort
        (fun c d => decide (descCount (ladderize a).1 c ≤ descCount (ladderize a).1 d)) ∧
    (nd (ladderize a).1 v).children.Perm (nd a v).children := by
  have hslot := (ladderize_slots g hr).2.1 v hv
  have hkey : ∀ c, descCount (ladderize a).1 c = descCount a c :=
    (ladderize_frame a).descCount g (ladderize_good g)
  have hfun : (fun c d => decide (descCount (ladderize a).1 c ≤ descCount (ladderize a).1 d)) =
      (fun c d => decide (descCount a c ≤ descCount a d)) := by
    funext c d; rw [hkey c, hkey d]
  have hch : (nd (ladderize a).1 v).children = sortedKids a v := by rw [hslot]
  refine ⟨?_, ?_, ?_⟩
  · rw [hch]
    simp only [hkey]
    have := List.pairwise_mergeSort (le := fun x y => decide (descCount a x ≤ descCount a y))
      (by intro a b c h1 h2; simp at *; omega) (by intro a b; simp; omega) (nd a v).children
    simpa [sortedKids] using this
  · rw [hch, hfun]; rfl
  · rw [hch]; exact List.mergeSort_perm _ _

/-! ### non-vacuity: root 0 with children 1 (two tips 3, 4 below it) and 2 (a tip) -/

def exL : Arena := runOps #[] [.add none, .addChild 0 (some 1) none, .addChild 0 (some 2) none,
  .addChild 1 (some 3) none, .addChild 1 (some 4) none]

theorem exL_good : Good exL := runOps_good _ empty_good
theorem exL_root : getRoot exL = some 0 := by decide
theorem exL_below : ∃ k, BelowK exL 0 0 k := ⟨0, BelowK.refl (by unfold live; decide)⟩

example : descCount exL 1 = 2 ∧ descCount exL 2 = 0 ∧ (nd exL 0).children = [1, 2] := by decide

/-- the hypotheses of `ladderize_post` hold at the root of `exL`, whose child list `[1, 2]` becomes `[2, 1]` -/
example : (nd (ladderize exL).1 0).children = [2, 1] := by
  have h := (ladderize_slots exL_good exL_root).2.1 0 exL_below
  rw [h]
  show sortedKids exL 0 = [2, 1]
  have hk : (nd exL 0).children = [1, 2] := by decide
  have d1 : descCount exL 1 = 2 := by decide
  have d2 : descCount exL 2 = 0 := by decide
  simp [sortedKids, hk, List.mergeSort, d1, d2]

end AR
