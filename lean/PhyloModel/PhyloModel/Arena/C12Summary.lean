import PhyloModel.Arena.QueryRefine
import PhyloModel.Arena.AnswersDependOnTree
/-! # C12, assembled

For every well-formed arena with one root and abstract tree `t`, the shape statistics the executable model
computes by scanning the arena slots equal the textbook values of `Arena/RoseStats.lean` computed from the
topology and branch lengths of `t`; the balance indices are refused on unrooted or non-binary trees. -/
namespace AR

theorem C12_statistics {a : Arena} (g : Good a) (h1 : AtMostOneRoot a) {t : Rose} (h : absRoot a = .ok t) :
    nLeaves a = nLeavesR t ∧
    isRooted a = .ok (isRootedR t) ∧
    isBinary a = .ok (isBinaryR t) ∧
    totalLength a = QR.ofOpt (totalLengthR t) "MissingBranchLengths" ∧
    (∀ u, diameter a u = QR.ofOpt (diameterR u t) "IsEmpty") ∧
    (∀ u, treeHeight a u = if !isRootedR t then .err "IsNotRooted" else QR.ofOpt (heightR u t) "IsEmpty") ∧
    cherries a = (if isBinaryR t then .ok (cherriesR t) else .err "IsNotBinary") ∧
    colless a = (do checkRBR t; pure (collessR t)) ∧
    sackin a = (do checkRBR t; pure (sackinR t)) :=
  ⟨nLeaves_refines g h1 h, isRooted_refines g h1 h, isBinary_refines g h1 h, totalLength_refines g h1 h,
    fun u => diameter_refines g h1 h u, fun u => treeHeight_refines g h1 h u, cherries_refines g h1 h,
    colless_refines g h1 h, sackin_refines g h1 h⟩

/-- on a rooted binary tree the three indices are the textbook values ... -/
theorem C12_indices_defined {a : Arena} (g : Good a) (h1 : AtMostOneRoot a) {t : Rose} (h : absRoot a = .ok t)
    (hr : isRootedR t = true) (hb : isBinaryR t = true) :
    cherries a = .ok (cherriesR t) ∧ colless a = .ok (collessR t) ∧ sackin a = .ok (sackinR t) := by
  refine ⟨?_, ?_, ?_⟩
  · rw [cherries_refines g h1 h, hb]; rfl
  · rw [colless_refines g h1 h]; simp [checkRBR, hr, hb]
  · rw [sackin_refines g h1 h]; simp [checkRBR, hr, hb]

/-- ... and they are refused otherwise -/
theorem C12_indices_refused {a : Arena} (g : Good a) (h1 : AtMostOneRoot a) {t : Rose} (h : absRoot a = .ok t) :
    (isRootedR t = false → colless a = .err "IsNotRooted" ∧ sackin a = .err "IsNotRooted" ∧
      ∀ u, treeHeight a u = .err "IsNotRooted") ∧
    (isRootedR t = true → isBinaryR t = false → colless a = .err "IsNotBinary" ∧ sackin a = .err "IsNotBinary") ∧
    (isBinaryR t = false → cherries a = .err "IsNotBinary") := by
  refine ⟨fun hr => ⟨?_, ?_, fun u => ?_⟩, fun hr hb => ⟨?_, ?_⟩, fun hb => ?_⟩
  · rw [colless_refines g h1 h]; simp [checkRBR, hr]
  · rw [sackin_refines g h1 h]; simp [checkRBR, hr]
  · rw [treeHeight_refines g h1 h, hr]; rfl
  · rw [colless_refines g h1 h]; simp [checkRBR, hr, hb]
  · rw [sackin_refines g h1 h]; simp [checkRBR, hr, hb]
  · rw [cherries_refines g h1 h, hb]; rfl

theorem exB_statistics : nLeaves exB = 2 ∧ cherries exB = .ok 1 ∧ colless exB = .ok 0 ∧ sackin exB = .ok 2 := by
  obtain ⟨c1, c2, c3⟩ := C12_indices_defined exB_ok.1 exB_ok.2 exB_abs (by decide) (by decide)
  exact ⟨by decide, c1, c2, c3⟩

/-- non-vacuity: on the arena with a tombstone of `AnswersDependOnTree` the cherry `(x:3,y:4);` has two tips,
    one cherry, Colless 0, Sackin 2 — by the theorem, its hypotheses discharged -/
example : nLeaves exB = 2 ∧ cherries exB = .ok 1 ∧ colless exB = .ok 0 ∧ sackin exB = .ok 2 :=
  exB_statistics

end AR
