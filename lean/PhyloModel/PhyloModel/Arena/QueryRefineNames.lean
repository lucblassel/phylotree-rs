import PhyloModel.Arena.QueryRefineBinary
/-! `search_nodes` (by name) and `get_by_name` as functions of the abstract tree -/
namespace AR

def namep (a : Arena) (n : Option String) (i : Nat) : Bool := (nd a i).name == n

theorem idsNamedR_decorate {a : Arena} {i : Nat} {t0 : RTI} (h : Rep a i t0) (n : Option String) :
    idsNamedR (decorate a t0) n = (pre t0).filter (namep a n) := by
  have := list_filter_map (a := a) (decorate a) (fun s => s.name == n) (namep a n) Rose.id id
    (fun s0 _ => by simp [namep]) (fun s0 _ => by simp) (subs t0) (subs_rep t0 i h)
  simp only [idsNamedR, nodesR_decorate, this, subs_ids, List.map_id]

/-- `search_nodes` with a name test lists, in arena order, exactly the nodes of the tree carrying the name -/
theorem searchName_refines {a : Arena} (g : Good a) (h1 : AtMostOneRoot a) {t : Rose} (h : absRoot a = .ok t)
    (n : Option String) : (searchName a n).Perm (idsNamedR t n) := by
  obtain ⟨r, t0, c⟩ := absRoot_ctx g.1 h1 h
  rw [c.dec, idsNamedR_decorate c.rep]
  exact scan_perm c (namep a n)

theorem searchName_count {a : Arena} (g : Good a) (h1 : AtMostOneRoot a) {t : Rose} (h : absRoot a = .ok t)
    (n : Option String) : (searchName a n).length = countNameR t n := by
  rw [(searchName_refines g h1 h n).length_eq, countNameR_eq]

/-- removed slots keep no name (what `prune` leaves behind; `Tomb` does not say it because names are payload) -/
def BlankNames (a : Arena) : Prop := ∀ i, (nd a i).deleted = true → (nd a i).name = none

/-- `get_by_name` does NOT filter removed slots (neither does the Rust code), and the model's `setName` can
    name a tombstone; so without `BlankNames` only this holds: a LIVE answer is a node of the tree carrying the
    name, and when nothing is found no node of the tree carries the name. -/
theorem getByName_refines_live {a : Arena} (g : Good a) (h1 : AtMostOneRoot a) {t : Rose}
    (h : absRoot a = .ok t) (s : String) :
    (∀ i, getByName a s = some i → live a i → i ∈ idsNamedR t (some s)) ∧
    (getByName a s = none → idsNamedR t (some s) = []) := by
  obtain ⟨r, t0, c⟩ := absRoot_ctx g.1 h1 h
  rw [c.dec, idsNamedR_decorate c.rep]
  constructor
  · intro i hi hl
    rw [getByName, List.find?_range_eq_some] at hi
    rw [List.mem_filter]
    exact ⟨(c.mem i).2 hl, hi.1⟩
  · intro hn
    rw [getByName, List.find?_range_eq_none] at hn
    rw [List.filter_eq_nil_iff]
    intro i hi
    have hl := (c.mem i).1 hi
    have := hn i hl.1
    simpa [namep] using this

/-- `getByName a s = some i → i` is a node of `t` named `s`, and `= none ↔` no node of `t` is named `s`.
    PARTIAL: needs the hypothesis `BlankNames a` (false otherwise: a `Good` arena may hold a named tombstone in a
    lower slot, which `get_by_name` returns).  Under it the answer is moreover the smallest id among the nodes
    of the tree carrying the name. -/
theorem getByName_refines_partial {a : Arena} (g : Good a) (h1 : AtMostOneRoot a) (hb : BlankNames a) {t : Rose}
    (h : absRoot a = .ok t) (s : String) :
    (∀ i, getByName a s = some i → i ∈ idsNamedR t (some s) ∧ ∀ j ∈ idsNamedR t (some s), i ≤ j) ∧
    (getByName a s = none ↔ idsNamedR t (some s) = []) := by
  obtain ⟨k1, k2⟩ := getByName_refines_live g h1 h s
  obtain ⟨r, t0, c⟩ := absRoot_ctx g.1 h1 h
  have hsome : ∀ i, getByName a s = some i → i ∈ idsNamedR t (some s) ∧ ∀ j ∈ idsNamedR t (some s), i ≤ j := by
    intro i hi
    have hi' := hi
    rw [getByName, List.find?_range_eq_some] at hi'
    have hname : (nd a i).name = some s := by simpa using hi'.1
    -- a slot carrying a name is not a tombstone
    have hl : live a i := ⟨List.mem_range.1 hi'.2.1, by
      cases hd : (nd a i).deleted with
      | false => rfl
      | true => rw [hb i hd] at hname; cases hname⟩
    refine ⟨k1 i hi hl, fun j hj => ?_⟩
    rw [c.dec, idsNamedR_decorate c.rep, List.mem_filter] at hj
    apply Classical.byContradiction
    intro hlt
    have := hi'.2.2 j (by omega)
    simp only [namep] at hj
    simp [hj.2] at this
  refine ⟨hsome, k2, fun he => ?_⟩
  cases hg : getByName a s with
  | none => rfl
  | some i => have := (hsome i hg).1; rw [he] at this; cases this

/-- `BlankNames` is part of what `checkInv` (the oracle the harness runs against the real arena) checks: a deleted
    slot passing `checkInv` has no name.  `Arena/BlankNames.lean` proves it of every edit history that never
    names a removed slot. -/
theorem blankNames_of_checkInv (a : Arena) (h : checkInv a = true) : BlankNames a := by
  intro i hd
  by_cases hi : i < a.size
  · simp only [checkInv, List.all_eq_true, List.mem_range] at h
    have := h i hi
    simp only [hd, ↓reduceIte, Bool.and_eq_true, Option.isNone_iff_eq_none] at this
    exact this.1.2
  · rw [nd_dead a i (by omega)]; rfl

end AR
