import PhyloModel.Arena.Reset
/-! `reset_depth_impl` meets `ResetOK`, by induction on the fuel -/
namespace AR

theorem reset_main : ∀ (f D : Nat) (r : Nat → Nat) (a : Arena) (x d : Nat), W a r → live a x →
    (∀ i, live a i → r i ≤ D) → D < f + r x →
    ∃ a', resetF f a x d = some a' ∧ ResetOK a a' x d := by
  intro f
  induction f with
  | zero => intro D r a x d _ hl hD hf; have := hD x hl; omega
  | succ f ihf =>
    intro D r a x d w hlx hD hf
    have hset : ∀ v, (nd (a.setIfInBounds x { nd a x with depth := d }) v).depth =
        if v = x then d else (nd a v).depth := fun v => by
      rw [nd_set]
      by_cases hv : v = x
      · rw [if_pos ⟨hv, hlx.1⟩, if_pos hv]
      · rw [if_neg fun h => hv h.1, if_neg hv]
    -- while folding over the children of `x`: links as in `a`, `x` at depth `d`, the subtrees of the children
    -- already visited at their new depths, every other depth as it was
    refine Exists.elim (foldlM_split (fun acc c => resetF f acc c (d + 1))
      (fun done cs b => (nd a x).children = done ++ cs ∧ Eqv a b ∧ (nd b x).depth = d ∧
        (∀ c v k, c ∈ done → BelowK a c v k → (nd b v).depth = d + 1 + k) ∧
        (∀ v, v ≠ x → (∀ c k, c ∈ done → ¬ BelowK a c v k) → (nd b v).depth = (nd a v).depth))
      ?_ (nd a x).children [] (a.setIfInBounds x { nd a x with depth := d }) ?_) ?_
    · rintro done c cs b ⟨hch, he, hdx, hin, hout⟩
      have hcmem : c ∈ (nd a x).children := by rw [hch]; simp
      obtain ⟨hlc, hcp, hrk⟩ := w.child_ok x c hlx hcmem
      obtain ⟨b1, hb1, ok⟩ := ihf D r b c (d + 1) (he.W w) ((he.live_iff c).2 hlc)
        (fun i hl => hD i ((he.live_iff i).1 hl)) (by omega)
      have hnodup := w.nodup x
      rw [hch] at hnodup
      have hcnd : c ∉ done := fun hm => (List.nodup_append.1 hnodup).2.2 c hm c (by simp) rfl
      have hx_not : ∀ k, ¬ BelowK b c x k := fun k hb => by have := BelowK.rank w (he.below hb); omega
      refine ⟨b1, hb1, by rw [hch, List.append_assoc]; rfl, he.trans ok.eqv, by rw [ok.outside x hx_not]; exact hdx, ?_, ?_⟩
      · intro c0 v k hc0 hb
        simp only [List.mem_append, List.mem_singleton] at hc0
        rcases hc0 with hc0 | rfl
        · -- v below an earlier child: untouched by the reset below c
          have hc0mem : c0 ∈ (nd a x).children := by rw [hch]; simp [hc0]
          have hne : c0 ≠ c := fun h => hcnd (h ▸ hc0)
          have : ∀ k', ¬ BelowK b c v k' := fun k' hb' =>
            BelowK.disjoint w hlx hc0mem hcmem hne hb (he.below hb')
          rw [ok.outside v this]; exact hin c0 v k hc0 hb
        · exact ok.inside v k (he.symm.below hb)
      · intro v hvx hnb
        have hnbc : ∀ k', ¬ BelowK b c v k' := fun k' hb' => hnb c k' (by simp) (he.below hb')
        rw [ok.outside v hnbc]
        exact hout v hvx (fun c0 k hc0 => hnb c0 k (by simp [hc0]))
    · exact ⟨rfl, (onlyDepth_setDepth a x d).eqv, by rw [hset, if_pos rfl], fun c v k hc => (by cases hc),
        fun v hv _ => by rw [hset, if_neg hv]⟩
    · rintro b' ⟨hfold, _, he, h2, h3, h4⟩
      simp only [List.nil_append] at h3 h4
      refine ⟨b', ?_, he, ?_, ?_⟩
      · have h1 : x < a.size ∧ (nd a x).deleted = false := hlx
        rw [resetF, if_pos h1]
        exact hfold
      · intro v k hb
        cases k with
        | zero =>
          cases hb with
          | refl _ => exact h2
        | succ k =>
          obtain ⟨c, hc, hbc⟩ := BelowK.top w hb
          rw [h3 c v k hc hbc]; omega
      · intro v hnb
        have hvx : v ≠ x := by intro h; subst h; exact hnb 0 (BelowK.refl hlx)
        exact h4 v hvx (fun c k hc hbc => hnb (k + 1) (BelowK.under_child w hlx hc hbc))

end AR
