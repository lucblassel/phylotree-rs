import PhyloModel.Arena.QueryRefineDistance
/-! `diameter` as a function of the abstract tree -/
namespace AR

theorem pairsOf_eq : ∀ l : List Nat, pairsOf l = l.pairs
  | [] => rfl
  | x :: xs => by rw [pairsOf, List.pairs, pairsOf_eq xs]

theorem pairsOfG_eq {α : Type} : ∀ l : List α, pairsOfG l = l.pairs
  | [] => rfl
  | x :: xs => by rw [pairsOfG, List.pairs, pairsOfG_eq xs]

theorem maxOf_pairs_perm {α : Type} (f : α × α → Int) {l1 l2 : List α} (h : l1.Perm l2) (hnd : l1.Nodup)
    (hsym : ∀ x ∈ l1, ∀ y ∈ l1, f (x, y) = f (y, x)) :
    maxOf (l1.pairs.map f) = maxOf (l2.pairs.map f) := by
  apply maxOf_ext
  intro v
  rw [List.mem_map_pairs f hnd hsym, List.mem_map_pairs f (h.nodup_iff.1 hnd)
    (fun x hx y hy => hsym x (h.mem_iff.2 hx) y (h.mem_iff.2 hy))]
  simp only [h.mem_iff]

theorem edgesOf_joinIds_comm (a : Arena) (qx qy : List Nat) :
    edgesOf a (joinIds qx qy) = edgesOf a (joinIds qy qx) := by
  have h : (joinIds qx qy).Perm (joinIds qy qx) := by
    simp only [joinIds, C09.symmetric.cursor_comm qy qx]
    exact List.perm_append_comm
  simp only [edgesOf, h.length_eq, optSum_perm (h.map _)]

def pairDist (a : Arena) (unit : Int) (xy : Nat × Nat) : Int := distOr unit (distance a xy.1 xy.2)

theorem diameter_eq (a : Arena) (unit : Int) : diameter a unit = (do
    let ds ← (leaves a).pairs.mapM (fun xy => do let d ← distance a xy.1 xy.2; pure (distVal unit d))
    QR.ofOpt (maxOf ds) "IsEmpty") := by
  rw [diameter, pairsOf_eq]

/-- `diameter`: the largest tip-to-tip path length of the tree (sum of branch lengths, edge count when a
    length on the path is absent); refused on a tree with fewer than two tips -/
theorem diameter_refines {a : Arena} (g : Good a) (h1 : AtMostOneRoot a) {t : Rose} (h : absRoot a = .ok t)
    (unit : Int) : diameter a unit = QR.ofOpt (diameterR unit t) "IsEmpty" := by
  obtain ⟨r, t0, c⟩ := absRoot_ctx g.1 h1 h
  have w := g.1.toW
  have hroot : Path a [r] r := Path.root c.is_root.1 c.is_root.2
  let endr : List (Nat × Nat) → Nat := fun s => endOf r (idsOf s)
  have hsub := tipSteps_sub t0
  -- every distance query between two tips succeeds, with the value read off their step lists
  have hD : ∀ sx ∈ tipSteps t0, ∀ sy ∈ tipSteps t0,
      distance a (endr sx) (endr sy) = .ok (edgesOf a (joinIds (idsOf sx) (idsOf sy))) := fun sx hx sy hy =>
    distance_paths w (nodeSteps_path w t0 r [r] c.rep hroot sx (hsub sx hx))
      (nodeSteps_path w t0 r [r] c.rep hroot sy (hsub sy hy))
  have hperm : (leaves a).Perm ((tipSteps t0).map endr) := tipSteps_ends a t0 r c.rep ▸ leaves_perm_ctx c
  have hmem : ∀ x ∈ leaves a, ∃ s ∈ tipSteps t0, endr s = x := fun x hx => List.mem_map.1 (hperm.mem_iff.1 hx)
  have hm : (leaves a).pairs.mapM (fun xy => do let d ← distance a xy.1 xy.2; pure (distVal unit d))
      = .ok ((leaves a).pairs.map (pairDist a unit)) := by
    apply mapM_ok
    intro ⟨x, y⟩ hxy
    obtain ⟨hx, hy⟩ := List.mem_of_mem_pairs hxy
    obtain ⟨sx, hsx, rfl⟩ := hmem x hx
    obtain ⟨sy, hsy, rfl⟩ := hmem y hy
    simp [pairDist, hD sx hsx sy hsy, distOr]
  have hsym : ∀ x ∈ leaves a, ∀ y ∈ leaves a, pairDist a unit (x, y) = pairDist a unit (y, x) := by
    intro x hx y hy
    obtain ⟨sx, hsx, rfl⟩ := hmem x hx
    obtain ⟨sy, hsy, rfl⟩ := hmem y hy
    simp only [pairDist, hD sx hsx sy hsy, hD sy hsy sx hsx, edgesOf_joinIds_comm a (idsOf sx) (idsOf sy)]
  rw [diameter_eq, hm]
  simp only [QR.bind_ok]
  congr 1
  rw [maxOf_pairs_perm (pairDist a unit) hperm (leaves_nodup a) hsym, List.pairs_map, List.map_map,
    c.dec, diameterR, diameterNL, ← dec, tipPathsNL_dec, pairsOfG_eq, List.pairs_map, List.map_map]
  congr 1
  apply List.map_congr_left
  intro ⟨sx, sy⟩ hxy
  obtain ⟨hx, hy⟩ := List.mem_of_mem_pairs hxy
  obtain ⟨s, e1, e2⟩ := joinPaths_coh a (nodeSteps_coh w t0 r c.rep sx (hsub sx hx) sy (hsub sy hy))
  simp only [Function.comp, pairDist, hD sx hx sy hy, distOr, e1, pathLen_steps, e2]

end AR
