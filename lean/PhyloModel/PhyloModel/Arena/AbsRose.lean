import PhyloModel.Arena.Abs
import PhyloModel.Arena.RepFacts
import PhyloModel.Arena.OneRoot
/-! # The executable abstraction `absF` / `absRoot` is total under the invariant, and what it returns

`decorate a t` fills the fields of an id-only tree `t : RTI` from the arena slots.  Under `Inv a` every live
slot `i` represents a tree `t0` (`Rep a i t0`) and `absF (fuelOf a) a i = some (decorate a t0)`; with at most one
root, `absRoot a` returns the decorated tree of the root, whose node set is exactly the set of live slots,
each once.  The last section is the generic "scan of all slots = walk of the tree" permutation lemma behind the
refinement proofs of the queries that scan the slots (`QueryRefineBase`, `Binary`, `Names`, `Indices`, and `Dist` /
`Diam` for the list of leaves); distances, common ancestors and traversals do not need it. -/
namespace AR

mutual
def decorate (a : Arena) : RTI → Rose
  | .node i ks => .node i (nd a i).name (nd a i).pedge (nd a i).depth (decorateL a ks)
def decorateL (a : Arena) : List RTI → List Rose
  | [] => []
  | k :: ks => decorate a k :: decorateL a ks
end

theorem decorateL_eq_map (a : Arena) : ∀ ks : List RTI, decorateL a ks = ks.map (decorate a)
  | [] => rfl
  | k :: ks => by rw [decorateL, decorateL_eq_map a ks]; rfl

@[simp] theorem decorate_id (a : Arena) (t : RTI) : (decorate a t).id = t.id := by
  cases t; simp [decorate, Rose.id, RTI.id]
@[simp] theorem decorate_name (a : Arena) (t : RTI) : (decorate a t).name = (nd a t.id).name := by
  cases t; simp [decorate, Rose.name, RTI.id]
@[simp] theorem decorate_len (a : Arena) (t : RTI) : (decorate a t).len = (nd a t.id).pedge := by
  cases t; simp [decorate, Rose.len, RTI.id]
@[simp] theorem decorate_depth (a : Arena) (t : RTI) : (decorate a t).depth = (nd a t.id).depth := by
  cases t; simp [decorate, Rose.depth, RTI.id]
@[simp] theorem decorate_kids (a : Arena) (t : RTI) : (decorate a t).kids = t.kids.map (decorate a) := by
  cases t; simp [decorate, Rose.kids, RTI.kids, decorateL_eq_map]

theorem mapM_ids_some {β : Type} (g : Nat → Option β) (h : RTI → β) : ∀ (ks : List RTI),
    (∀ k ∈ ks, g k.id = some (h k)) → (ks.map RTI.id).mapM g = some (ks.map h)
  | [], _ => rfl
  | k :: ks, hg => by
    simp only [List.forall_mem_cons] at hg
    simp [List.mapM_cons, hg.1, mapM_ids_some g h ks hg.2]

theorem absF_rep (a : Arena) : ∀ (t : RTI) (f i : Nat), Rep a i t → height t ≤ f →
    absF f a i = some (decorate a t) :=
  Rep.fuel_ind (P := fun f i t => absF f a i = some (decorate a t)) (fun f i ks hl hc _ hk => by
    rw [absF, if_pos ((isLive_iff a i).2 hl), hc, mapM_ids_some _ (decorate a) ks hk, decorate,
      decorateL_eq_map]; rfl)

theorem absFL_rep (a : Arena) : ∀ (ts : List RTI) (f : Nat) (cs : List Nat), RepL a cs ts → heightL ts ≤ f →
    cs.mapM (fun c => absF f a c) = some (decorateL a ts) := by
  intro ts f cs h hf
  obtain ⟨rfl, hk⟩ := repL_iff.1 h
  rw [decorateL_eq_map]
  exact mapM_ids_some _ _ ts (fun k hm => absF_rep a k f k.id (hk k hm) (heightL_le.1 hf k hm))

mutual
def subs : RTI → List RTI | .node i ks => .node i ks :: subsL ks
def subsL : List RTI → List RTI | [] => [] | k :: ks => subs k ++ subsL ks
end

theorem subsL_eq_flatMap : ∀ ks : List RTI, subsL ks = ks.flatMap subs
  | [] => rfl
  | k :: ks => by rw [subsL, subsL_eq_flatMap ks]; simp

theorem subs_eq (t : RTI) : subs t = t :: subsL t.kids := by cases t; simp [subs, RTI.kids]

mutual
theorem subs_ids : ∀ t : RTI, (subs t).map RTI.id = pre t
  | .node i ks => by simp only [subs, pre, List.map_cons, RTI.id, subsL_ids ks]
theorem subsL_ids : ∀ ts : List RTI, (subsL ts).map RTI.id = preL ts
  | [] => by simp [subsL, preL]
  | t :: ts => by simp only [subsL, preL, List.map_append, subs_ids t, subsL_ids ts]
end

theorem Rep.is_live {a : Arena} {i : Nat} {t : RTI} (h : Rep a i t) : live a i := by
  cases t; exact h.2.1
theorem Rep.kids_rep {a : Arena} {i : Nat} {t : RTI} (h : Rep a i t) : RepL a (nd a i).children t.kids := by
  cases t; exact h.2.2

theorem repL_ids {a : Arena} (ts : List RTI) (cs : List Nat) (h : RepL a cs ts) : ts.map RTI.id = cs :=
  (repL_iff.1 h).1.symm

theorem repL_mem {a : Arena} (ts : List RTI) (cs : List Nat) (h : RepL a cs ts) : ∀ k ∈ ts, Rep a k.id k :=
  (repL_iff.1 h).2

theorem Rep.kids_ids {a : Arena} {i : Nat} {t : RTI} (h : Rep a i t) : t.kids.map RTI.id = (nd a i).children :=
  repL_ids _ _ h.kids_rep

theorem Rep.kid {a : Arena} {i : Nat} {t : RTI} (h : Rep a i t) : ∀ k ∈ t.kids, Rep a k.id k :=
  repL_mem _ _ h.kids_rep

theorem subs_rep {a : Arena} : ∀ (t : RTI) (i : Nat), Rep a i t → ∀ s ∈ subs t, Rep a s.id s := by
  intro t
  induction t using RTI.ind with
  | _ j ks ih =>
    intro i h s hs
    rw [subs, subsL_eq_flatMap, List.mem_cons, List.mem_flatMap] at hs
    rcases hs with rfl | ⟨k, hm, hs⟩
    · rw [h.id_eq]; exact h
    · exact ih k hm k.id (h.kid k hm) s hs

theorem subsL_rep {a : Arena} (ts : List RTI) (cs : List Nat) (h : RepL a cs ts) : ∀ s ∈ subsL ts, Rep a s.id s := by
  intro s hs
  rw [subsL_eq_flatMap, List.mem_flatMap] at hs
  obtain ⟨k, hm, hs⟩ := hs
  exact subs_rep k k.id (repL_mem ts cs h k hm) s hs

mutual
def nodesR : Rose → List Rose | .node i n l d ks => .node i n l d ks :: nodesRL ks
def nodesRL : List Rose → List Rose | [] => [] | k :: ks => nodesR k ++ nodesRL ks
end

def idsR (t : Rose) : List Nat := (nodesR t).map Rose.id

mutual
theorem nodesR_decorate (a : Arena) : ∀ t : RTI, nodesR (decorate a t) = (subs t).map (decorate a)
  | .node i ks => by
    simp only [decorate, nodesR, subs, List.map_cons, nodesRL_decorate a ks]
theorem nodesRL_decorate (a : Arena) : ∀ ts : List RTI, nodesRL (decorateL a ts) = (subsL ts).map (decorate a)
  | [] => by simp [decorateL, nodesRL, subsL]
  | t :: ts => by
    simp only [decorateL, nodesRL, subsL, List.map_append, nodesR_decorate a t, nodesRL_decorate a ts]
end

theorem idsR_decorate (a : Arena) (t : RTI) : idsR (decorate a t) = pre t := by
  simp only [idsR, nodesR_decorate, List.map_map]
  rw [← subs_ids t]
  apply List.map_congr_left
  intro s _
  simp

theorem mem_nodesR_decorate {a : Arena} {t : RTI} {i : Nat} (h : Rep a i t) (s : Rose)
    (hs : s ∈ nodesR (decorate a t)) :
    ∃ s0, s0 ∈ subs t ∧ s = decorate a s0 ∧ Rep a s.id s0 ∧ live a s.id ∧
      s.name = (nd a s.id).name ∧ s.len = (nd a s.id).pedge ∧ s.depth = (nd a s.id).depth ∧
      s.kids.map Rose.id = (nd a s.id).children := by
  rw [nodesR_decorate, List.mem_map] at hs
  obtain ⟨s0, hs0, rfl⟩ := hs
  have hr := subs_rep t i h s0 hs0
  refine ⟨s0, hs0, rfl, by simpa using hr, by simpa using hr.is_live, by simp, by simp, by simp, ?_⟩
  simp only [decorate_kids, List.map_map, decorate_id]
  rw [← hr.kids_ids]
  apply List.map_congr_left
  intro k _
  simp

theorem absF_total {a : Arena} (hinv : Inv a) (i : Nat) (hl : live a i) :
    ∃ t0, Rep a i t0 ∧ absF (fuelOf a) a i = some (decorate a t0) ∧ (decorate a t0).id = i ∧
      (idsR (decorate a t0)).Nodup ∧ (∀ v, v ∈ idsR (decorate a t0) ↔ ∃ k, BelowK a i v k) := by
  obtain ⟨t0, ht, _, hh, _⟩ := rep_total hinv i hl
  refine ⟨t0, ht, absF_rep a t0 _ i ht hh, by simp [ht.id_eq], ?_, ?_⟩
  · rw [idsR_decorate]; exact pre_nodup hinv.toW t0 i ht
  · intro v; rw [idsR_decorate]; exact mem_pre_iff hinv.toW t0 i ht v

theorem no_root_empty (i : Nat) : ¬ isRoot (#[] : Arena) i := fun hi => absurd hi.1.1 (by simp)

theorem runOps_empty {ops : List Op} (hadm : AdmissibleRun #[] ops) :
    Good (runOps #[] ops) ∧ AtMostOneRoot (runOps #[] ops) :=
  runOps_oneRoot ops empty_good (fun i _ hi => absurd hi (no_root_empty i)) hadm

theorem getRoot_isRoot {a : Arena} {r : Nat} (h : getRoot a = some r) : isRoot a r := by
  have := List.find?_some h
  simp only [Bool.and_eq_true, Option.isNone_iff_eq_none] at this
  exact ⟨(isLive_iff a r).1 this.1, this.2⟩

/-- the facts every refinement proof starts from -/
structure RootCtx (a : Arena) (t : Rose) (r : Nat) (t0 : RTI) : Prop where
  root_eq : getRoot a = some r
  is_root : isRoot a r
  rep : Rep a r t0
  dec : t = decorate a t0
  nodup : (pre t0).Nodup
  mem : ∀ v, v ∈ pre t0 ↔ live a v
  only_root : ∀ v, live a v → (nd a v).parent = none → v = r

theorem absRoot_of_rep {a : Arena} (hinv : Inv a) (h1 : AtMostOneRoot a) {r : Nat} {t0 : RTI} (hr : isRoot a r)
    (hrep : Rep a r t0) : absRoot a = .ok (decorate a t0) := by
  obtain ⟨r', _, hget, huniq, _⟩ := one_tree hinv h1 r hr.1
  obtain rfl := huniq r hr
  obtain ⟨t', ht', _, hh, _⟩ := rep_total hinv r hr.1
  obtain rfl := rep_unique a t' t0 r ht' hrep
  simp [absRoot, root, hget, QR.ofOpt, absF_rep a t' _ r ht' hh]

theorem absRoot_ctx {a : Arena} (hinv : Inv a) (h1 : AtMostOneRoot a) {t : Rose} (h : absRoot a = .ok t) :
    ∃ r t0, RootCtx a t r t0 := by
  cases hr : getRoot a with
  | none => simp [absRoot, root, hr, QR.ofOpt] at h
  | some r =>
    have hroot := getRoot_isRoot hr
    obtain ⟨r', _, _, huniq, hall⟩ := one_tree hinv h1 r hroot.1
    obtain rfl := huniq r hroot
    obtain ⟨t0, ht, _⟩ := rep_total hinv r hroot.1
    rw [absRoot_of_rep hinv h1 hroot ht, QR.ok.injEq] at h
    refine ⟨r, t0, hr, hroot, ht, h.symm, pre_nodup hinv.toW t0 r ht, fun v => ?_, fun v hv hp => huniq v ⟨hv, hp⟩⟩
    rw [mem_pre_iff hinv.toW t0 r ht v]
    exact ⟨fun ⟨k, hb⟩ => hb.is_live, hall v⟩

theorem absRoot_total {a : Arena} (hinv : Inv a) (h1 : AtMostOneRoot a) (x : Nat) (hl : live a x) :
    ∃ t, absRoot a = .ok t := by
  obtain ⟨r, hroot, _⟩ := one_tree hinv h1 x hl
  obtain ⟨t0, ht, _⟩ := rep_total hinv r hroot.1
  exact ⟨_, absRoot_of_rep hinv h1 hroot ht⟩

/-- the abstraction exists exactly when the arena holds a live node (an arena that is empty or whose nodes
    were all removed has no root: the executable queries then answer `RootNotFound`, resp. list nothing) -/
theorem absRoot_ok_iff_live {a : Arena} (g : Good a) (h1 : AtMostOneRoot a) :
    (∃ t, absRoot a = .ok t) ↔ ∃ x, live a x := by
  constructor
  · rintro ⟨t, h⟩
    obtain ⟨r, t0, c⟩ := absRoot_ctx g.1 h1 h
    exact ⟨r, c.is_root.1⟩
  · rintro ⟨x, hx⟩
    exact absRoot_total g.1 h1 x hx

theorem absRoot_nodes {a : Arena} (g : Good a) (h1 : AtMostOneRoot a) {t : Rose} (h : absRoot a = .ok t) :
    (idsR t).Nodup ∧ ∀ v, v ∈ idsR t ↔ live a v := by
  obtain ⟨r, t0, c⟩ := absRoot_ctx g.1 h1 h
  rw [c.dec, idsR_decorate]
  exact ⟨c.nodup, c.mem⟩

theorem live_scan_perm {a : Arena} {t : Rose} {r : Nat} {t0 : RTI} (c : RootCtx a t r t0) :
    ((List.range a.size).filter (fun i => isLive a i)).Perm (pre t0) := by
  rw [List.perm_ext_iff_of_nodup (List.nodup_range.sublist List.filter_sublist) c.nodup]
  intro v
  rw [c.mem v, List.mem_filter, isLive_iff, List.mem_range]
  exact ⟨fun h => h.2, fun h => ⟨h.1, h⟩⟩

theorem scan_perm {a : Arena} {t : Rose} {r : Nat} {t0 : RTI} (c : RootCtx a t r t0) (p : Nat → Bool) :
    ((List.range a.size).filter (fun i => isLive a i && p i)).Perm ((pre t0).filter p) := by
  have := (live_scan_perm c).filter p
  rw [List.filter_filter] at this
  have e : (fun i => p i && isLive a i) = (fun i => isLive a i && p i) := by
    funext i; exact Bool.and_comm _ _
  rw [e] at this
  exact this

theorem Good.blank {a : Arena} (g : Good a) {i : Nat} (h : isLive a i = false) :
    (nd a i).children = [] ∧ (nd a i).parent = none := by
  by_cases hs : i < a.size
  · have hd : (nd a i).deleted = true := by simpa [isLive, hs] using h
    exact ⟨(g.2 i hd).1, (g.2 i hd).2.1⟩
  · rw [nd_dead a i (by omega)]; exact ⟨rfl, rfl⟩

theorem scan_perm' {a : Arena} {t : Rose} {r : Nat} {t0 : RTI} (c : RootCtx a t r t0) (g : Good a) (p : Nat → Bool)
    (hp : ∀ i, (nd a i).children = [] → (nd a i).parent = none → p i = false) :
    ((List.range a.size).filter p).Perm ((pre t0).filter p) := by
  have e : (List.range a.size).filter p = (List.range a.size).filter (fun i => isLive a i && p i) := by
    apply List.filter_congr
    intro i _
    cases hl : isLive a i with
    | true => rfl
    | false => exact hp i (g.blank hl).1 (g.blank hl).2
  rw [e]
  exact scan_perm c p

/-- non-vacuity: the abstraction of the cherry `(1,2)0` -/
example : (match absRoot ((addChildNamed (addChildNamed (add #[] none).1 0 (some 3) none).1 0 (some 4) none).1) with
    | .ok t => idsR t == [0, 1, 2] | _ => false) = true := by decide

end AR
