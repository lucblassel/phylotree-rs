import PhyloModel.Arena.Path
/-! The cursor of `get_common_ancestor` / `get_distance` and the deepest common ancestor -/
namespace AR

/-- index of the first position where the two root paths differ, or the shorter length -/
def cursor : List Nat → List Nat → Nat
  | x :: xs, y :: ys => if x = y then cursor xs ys + 1 else 0
  | _, _ => 0

theorem cursor_spec : ∀ (p q : List Nat), ∃ c p2 q2, p = c ++ p2 ∧ q = c ++ q2 ∧ c.length = cursor p q ∧
    (∀ x y, p2.head? = some x → q2.head? = some y → x ≠ y)
  | [], q => ⟨[], [], q, by simp [cursor]⟩
  | x :: xs, [] => ⟨[], x :: xs, [], by simp [cursor]⟩
  | x :: xs, y :: ys => by
    by_cases h : x = y
    · subst h
      obtain ⟨c, p2, q2, h1, h2, h3, h4⟩ := cursor_spec xs ys
      exact ⟨x :: c, p2, q2, by simp [h1], by simp [h2], by simp [cursor, h3], h4⟩
    · exact ⟨[], x :: xs, y :: ys, by simp, by simp, by simp [cursor, h], by
        intro a b ha hb; simp at ha hb; subst ha hb; exact h⟩

theorem common_prefix_le (c p2 q2 : List Nat) (hd : ∀ x y, p2.head? = some x → q2.head? = some y → x ≠ y) :
    ∀ (d p3 q3 : List Nat), c ++ p2 = d ++ p3 → c ++ q2 = d ++ q3 → ∃ e, c = d ++ e := by
  induction c with
  | nil =>
    intro d p3 q3 h1 h2
    cases d with
    | nil => exact ⟨[], rfl⟩
    | cons z zs =>
      simp only [List.nil_append, List.cons_append] at h1 h2
      have := hd z z (by rw [h1]; rfl) (by rw [h2]; rfl)
      exact absurd rfl this
  | cons x c ih =>
    intro d p3 q3 h1 h2
    cases d with
    | nil => exact ⟨x :: c, rfl⟩
    | cons z zs =>
      simp only [List.cons_append, List.cons.injEq] at h1 h2
      obtain ⟨e, he⟩ := ih zs p3 q3 h1.2 h2.2
      exact ⟨e, by rw [h1.1, he]; rfl⟩

/-- C09 core: the node at `cursor - 1` on the root paths is the deepest common ancestor, and the path
    tails measure the two legs of the connecting path -/
theorem lca_correct {a : Arena} {p q : List Nat} {s t : Nat} (hp : Path a p s) (hq : Path a q t)
    (hroot : p.head? = q.head?) :
    ∃ l c p2 q2, p = c ++ [l] ++ p2 ∧ q = c ++ [l] ++ q2 ∧ (c ++ [l]).length = cursor p q ∧
      BelowK a l s p2.length ∧ BelowK a l t q2.length ∧
      (∀ m k k', BelowK a m s k → BelowK a m t k' → ∃ j, BelowK a m l j) := by
  obtain ⟨c0, p2, q2, h1, h2, h3, h4⟩ := cursor_spec p q
  -- the common prefix is non-empty: same root
  have hne : c0 ≠ [] := by
    intro h; subst h
    simp only [List.nil_append] at h1 h2
    subst h1 h2
    cases hx : p.head? with
    | none =>
      obtain ⟨l0, rfl⟩ := hp.eq_concat
      simp at hx
    | some x =>
      have hy : q.head? = some x := by rw [← hroot, hx]
      exact h4 x x hx hy rfl
  obtain ⟨c, l, rfl⟩ : ∃ c l, c0 = c ++ [l] := by
    rcases List.eq_nil_or_concat c0 with h | ⟨c, l, h⟩
    · exact absurd h hne
    · exact ⟨c, l, by simpa using h⟩
  have hs := hp.split c p2 l (by rw [h1]; simp)
  have ht := hq.split c q2 l (by rw [h2]; simp)
  refine ⟨l, c, p2, q2, h1, h2, h3, hs.2, ht.2, ?_⟩
  intro m k k' hbs hbt
  obtain ⟨lm, l2, e1, hm1, _⟩ := Path.above hbs hp
  obtain ⟨lm', l2', e2, hm2, _⟩ := Path.above hbt hq
  have hu : lm = lm' := Path.unique hm1 hm2
  subst hu
  -- the root path of m is a common prefix, hence a prefix of the first `cursor` entries
  obtain ⟨e, he⟩ := common_prefix_le (c ++ [l]) p2 q2 h4 lm l2 l2' (by rw [← h1, e1]) (by rw [← h2, e2])
  obtain ⟨lm0, hlm0⟩ := hm1.eq_concat
  have := hs.1.split lm0 e m (by rw [he, hlm0]; simp)
  exact ⟨e.length, this.2⟩

end AR
