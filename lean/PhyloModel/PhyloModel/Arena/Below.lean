import PhyloModel.Arena.Prune
/-! Subtree levels (`BelowK`) under a structural invariant with a ghost rank -/
namespace AR

/-- structure-only invariant: links mirrored, child lists duplicate-free, a ghost rank grows along edges
    (acyclicity witness that does not depend on the cached `depth` field) -/
structure W (a : Arena) (r : Nat → Nat) : Prop where
  child_ok : ∀ i c, live a i → c ∈ (nd a i).children → live a c ∧ (nd a c).parent = some i ∧ r i < r c
  parent_ok : ∀ i p, live a i → (nd a i).parent = some p → live a p ∧ i ∈ (nd a p).children
  nodup : ∀ i, (nd a i).children.Nodup

theorem Inv.toW {a : Arena} (h : Inv a) : W a (fun i => (nd a i).depth) := by
  constructor
  · intro i c hl hc
    obtain ⟨h1, h2, h3, _⟩ := h.child_ok i c hl hc
    exact ⟨h1, h2, by show (nd a i).depth < (nd a c).depth; omega⟩
  · exact h.parent_ok
  · exact h.nodup

/-- `v` is exactly `k` levels below `x` -/
inductive BelowK (a : Arena) (x : Nat) : Nat → Nat → Prop where
  | refl : live a x → BelowK a x x 0
  | step {p c k} : BelowK a x p k → live a c → (nd a c).parent = some p → BelowK a x c (k + 1)

theorem BelowK.is_live {a : Arena} {x v k : Nat} (h : BelowK a x v k) : live a v := by
  cases h <;> assumption

theorem W.parent_lt {a : Arena} {r : Nat → Nat} (w : W a r) {c p : Nat} (hl : live a c)
    (hp : (nd a c).parent = some p) : r p < r c :=
  (w.child_ok p c (w.parent_ok c p hl hp).1 (w.parent_ok c p hl hp).2).2.2

theorem BelowK.rank {a : Arena} {r : Nat → Nat} (w : W a r) {x v k : Nat} (h : BelowK a x v k) :
    r x + k ≤ r v := by
  induction h with
  | refl _ => omega
  | step hp hl hpar ih =>
    have := w.parent_lt hl hpar
    omega

theorem BelowK.depth_eq {a : Arena} (hinv : Inv a) {x v k : Nat} (h : BelowK a x v k) :
    (nd a v).depth = (nd a x).depth + k := by
  induction h with
  | refl _ => rfl
  | step hb hl hpar ih =>
    obtain ⟨hlp, hmem⟩ := hinv.parent_ok _ _ hl hpar
    have := (hinv.child_ok _ _ hlp hmem).2.2.1
    omega

theorem BelowK.level_unique {a : Arena} {r : Nat → Nat} (w : W a r) {x v k k' : Nat}
    (h : BelowK a x v k) (h' : BelowK a x v k') : k = k' := by
  induction h generalizing k' with
  | refl hl =>
    cases h' with
    | refl _ => rfl
    | step hp' hl' hpar' =>
      -- x has a parent p' that is below x: rank contradiction
      have h1 := BelowK.rank w hp'
      have := w.parent_lt hl' hpar'
      omega
  | step hp hl hpar ih =>
    cases h' with
    | refl _ =>
      have h1 := BelowK.rank w hp
      have := w.parent_lt hl hpar
      omega
    | step hp' hl' hpar' =>
      rw [hpar] at hpar'
      cases hpar'
      rw [ih hp']

theorem BelowK.top {a : Arena} {r : Nat → Nat} (w : W a r) {x v k : Nat} (h : BelowK a x v (k + 1)) :
    ∃ c, c ∈ (nd a x).children ∧ BelowK a c v k := by
  generalize hk : k + 1 = n at h
  induction h generalizing k with
  | refl _ => omega
  | @step p c m hp hl hpar ih =>
    have hm : m = k := by omega
    subst hm
    cases m with
    | zero =>
      cases hp with
      | refl hlx =>
        exact ⟨c, (w.parent_ok _ _ hl hpar).2, BelowK.refl hl⟩
    | succ m' =>
      obtain ⟨c0, hc0, hb⟩ := ih rfl
      exact ⟨c0, hc0, BelowK.step hb hl hpar⟩

theorem BelowK.push_top {a : Arena} {i c v k : Nat} (h : BelowK a c v k) (hli : live a i)
    (hpar : (nd a c).parent = some i) : BelowK a i v (k + 1) := by
  induction h with
  | refl hlc => exact BelowK.step (BelowK.refl hli) hlc hpar
  | step _ hl hp ih => exact BelowK.step ih hl hp

theorem BelowK.under_child {a : Arena} {r : Nat → Nat} (w : W a r) {x c v k : Nat} (hx : live a x)
    (hc : c ∈ (nd a x).children) (h : BelowK a c v k) : BelowK a x v (k + 1) :=
  h.push_top hx (w.child_ok _ _ hx hc).2.1

theorem BelowK.disjoint {a : Arena} {r : Nat → Nat} (w : W a r) {x c1 c2 v k1 k2 : Nat} (hx : live a x)
    (h1c : c1 ∈ (nd a x).children) (h2c : c2 ∈ (nd a x).children) (hne : c1 ≠ c2)
    (h1 : BelowK a c1 v k1) (h2 : BelowK a c2 v k2) : False := by
  have hb1 := BelowK.under_child w hx h1c h1
  have hb2 := BelowK.under_child w hx h2c h2
  have hk := BelowK.level_unique w hb1 hb2
  have hk' : k1 = k2 := by omega
  subst hk'
  clear hb1 hb2 hk
  induction h1 with
  | refl hl =>
    cases h2 with
    | refl _ => exact hne rfl
  | step hp hl hpar ih =>
    cases h2 with
    | step hp' hl' hpar' =>
      rw [hpar] at hpar'; cases hpar'
      exact ih hp'

end AR
