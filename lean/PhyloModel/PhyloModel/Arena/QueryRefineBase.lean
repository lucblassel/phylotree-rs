import PhyloModel.Arena.RoseStats
import PhyloModel.Arena.QRLemmas
import PhyloModel.Props.C12
/-! # Every read-only query is a function of the abstract tree

For an arena `a` satisfying the invariant (`Good a`) with at most one root (`AtMostOneRoot a`) and abstract
tree `t` (`absRoot a = .ok t`), the executable queries of `Arena/Query.lean` — which scan ALL slots of the
arena like the Rust code does — return the textbook answers of `Arena/RoseStats.lean` computed on `t`. -/
namespace AR

def dec (a : Arena) (t : RTI) : RoseNL := erase (decorate a t)

@[simp] theorem dec_name (a : Arena) (t : RTI) : (dec a t).name = (nd a t.id).name := by simp [dec]
@[simp] theorem dec_len (a : Arena) (t : RTI) : (dec a t).len = (nd a t.id).pedge := by simp [dec]
theorem dec_kids (a : Arena) (t : RTI) : (dec a t).kids = t.kids.map (dec a) := by
  simp only [dec, erase_kids, decorate_kids, List.map_map]; rfl

theorem nodesNL_dec (a : Arena) (t : RTI) : nodesNL (dec a t) = (subs t).map (dec a) := by
  simp only [dec, nodesNL_erase, nodesR_decorate, List.map_map]; rfl

theorem nodesNLL_map_dec (a : Arena) : ∀ ks : List RTI, nodesNLL (ks.map (dec a)) = (subsL ks).map (dec a)
  | [] => by simp [nodesNLL, subsL]
  | k :: ks => by
    simp only [List.map_cons, nodesNLL, subsL, List.map_append, nodesNL_dec, nodesNLL_map_dec a ks]

theorem dec_kids_len {a : Arena} {s0 : RTI} (h : Rep a s0.id s0) :
    (dec a s0).kids.length = (nd a s0.id).children.length := by
  rw [dec_kids, List.length_map, ← h.kids_ids, List.length_map]

theorem dec_isTip {a : Arena} {s0 : RTI} (h : Rep a s0.id s0) :
    (dec a s0).isTip = (nd a s0.id).children.isEmpty := by
  have := dec_kids_len h
  rw [RoseNL.isTip, Bool.eq_iff_iff, List.isEmpty_iff, List.isEmpty_iff, ← List.length_eq_zero_iff,
    ← List.length_eq_zero_iff, this]

theorem decorate_isTip {a : Arena} {s0 : RTI} (h : Rep a s0.id s0) :
    (decorate a s0).isTip = (nd a s0.id).children.isEmpty := by
  rw [← erase_isTip]; exact dec_isTip h

/-- transport of a filtered, mapped node list from the tree to the arena -/
theorem list_filter_map {γ β : Type} {a : Arena} (D : RTI → γ) (P : γ → Bool) (p : Nat → Bool) (F : γ → β)
    (f : Nat → β) (hP : ∀ s0, Rep a s0.id s0 → P (D s0) = p s0.id)
    (hF : ∀ s0, Rep a s0.id s0 → F (D s0) = f s0.id) :
    ∀ (l : List RTI), (∀ s0 ∈ l, Rep a s0.id s0) →
      ((l.map D).filter P).map F = ((l.map RTI.id).filter p).map f
  | [], _ => rfl
  | s0 :: l, hl => by
    have h0 := hl s0 (by simp)
    have ih := list_filter_map D P p F f hP hF l (fun s hs => hl s (by simp [hs]))
    simp only [List.map_cons, List.filter_cons, hP s0 h0]
    split
    · simp only [List.map_cons, hF s0 h0, ih]
    · exact ih

theorem list_map {γ β : Type} {a : Arena} (D : RTI → γ) (F : γ → β) (f : Nat → β)
    (hF : ∀ s0, Rep a s0.id s0 → F (D s0) = f s0.id) (l : List RTI) (hl : ∀ s0 ∈ l, Rep a s0.id s0) :
    (l.map D).map F = (l.map RTI.id).map f := by
  rw [List.map_map, List.map_map]
  apply List.map_congr_left
  intro s0 hs
  exact hF s0 (hl s0 hs)

theorem idxOf_map_inj {α β : Type} [BEq α] [LawfulBEq α] [BEq β] [LawfulBEq β] (f : α → β) :
    ∀ (l : List α) (x : α), (∀ y ∈ l, f y = f x → y = x) → (l.map f).idxOf (f x) = l.idxOf x
  | [], _, _ => rfl
  | y :: l, x, h => by
    have ih := idxOf_map_inj f l x (fun z hz => h z (by simp [hz]))
    simp only [List.map_cons, List.idxOf_cons]
    by_cases hyx : y = x
    · subst hyx; simp
    · have hne : ¬ f y = f x := fun e => hyx (h y (by simp) e)
      have e1 : (y == x) = false := by simpa using hyx
      have e2 : (f y == f x) = false := by simpa using hne
      rw [e1, e2, ih]

theorem getElem?_idxOf' {α : Type} [BEq α] [LawfulBEq α] (l : List α) (x : α) (h : x ∈ l) :
    l[l.idxOf x]? = some x := by
  rw [List.getElem?_eq_getElem (List.idxOf_lt_length_iff.2 h), List.getElem_idxOf]

def tipp (a : Arena) (i : Nat) : Bool := (nd a i).children.isEmpty

theorem tipIdsR_decorate {a : Arena} {i : Nat} {t0 : RTI} (h : Rep a i t0) :
    tipIdsR (decorate a t0) = (pre t0).filter (tipp a) := by
  have := list_filter_map (decorate a) Rose.isTip (tipp a) Rose.id id
    (fun s0 h0 => decorate_isTip h0) (fun s0 _ => by simp) (subs t0) (subs_rep t0 i h)
  simp only [tipIdsR, tipsR, nodesR_decorate, this, subs_ids, List.map_id]

theorem tipNames_decorate {a : Arena} {i : Nat} {t0 : RTI} (h : Rep a i t0) :
    leafNamesR (decorate a t0) = ((pre t0).filter (tipp a)).map (fun i => (nd a i).name) := by
  have := list_filter_map (decorate a) Rose.isTip (tipp a) Rose.name (fun i => (nd a i).name)
    (fun s0 h0 => decorate_isTip h0) (fun s0 _ => by simp) (subs t0) (subs_rep t0 i h)
  simp only [leafNamesR_eq, tipsR, nodesR_decorate, this, subs_ids]

theorem nLeavesNL_dec {a : Arena} {i : Nat} {t0 : RTI} (h : Rep a i t0) :
    nLeavesNL (dec a t0) = ((pre t0).filter (tipp a)).length := by
  have := nLeavesR_eq (decorate a t0)
  simp only [nLeavesR] at this
  rw [dec, this, ← tipIdsR_decorate h, tipIdsR, List.length_map]

theorem leaves_nodup (a : Arena) : (leaves a).Nodup :=
  List.nodup_range.sublist List.filter_sublist

theorem leaves_perm_ctx {a : Arena} {t : Rose} {r : Nat} {t0 : RTI} (c : RootCtx a t r t0) :
    (leaves a).Perm ((pre t0).filter (tipp a)) := scan_perm c (tipp a)

/-- `get_leaves` lists, in arena order, exactly the tips of the tree -/
theorem leaves_refines {a : Arena} (g : Good a) (h1 : AtMostOneRoot a) {t : Rose} (h : absRoot a = .ok t) :
    (leaves a).Perm (tipIdsR t) := by
  obtain ⟨r, t0, c⟩ := absRoot_ctx g.1 h1 h
  rw [c.dec, tipIdsR_decorate c.rep]
  exact leaves_perm_ctx c

/-- `n_leaves` is the number of tips of the tree -/
theorem nLeaves_refines {a : Arena} (g : Good a) (h1 : AtMostOneRoot a) {t : Rose} (h : absRoot a = .ok t) :
    nLeaves a = nLeavesR t := by
  rw [nLeaves, (leaves_refines g h1 h).length_eq, nLeavesR_eq, tipIdsR, List.length_map]

/-- the leaf names (`get_leaf_names`) are, up to order, the names of the tips of the tree -/
theorem leafNames_refines {a : Arena} (g : Good a) (h1 : AtMostOneRoot a) {t : Rose} (h : absRoot a = .ok t) :
    ((leaves a).map (fun i => (nd a i).name)).Perm (leafNamesR t) := by
  obtain ⟨r, t0, c⟩ := absRoot_ctx g.1 h1 h
  rw [c.dec, tipNames_decorate c.rep]
  exact (leaves_perm_ctx c).map _

theorem RootCtx.root_ok {a : Arena} {t : Rose} {r : Nat} {t0 : RTI} (c : RootCtx a t r t0) : root a = .ok r := by
  simp [root, c.root_eq, QR.ofOpt]

theorem RootCtx.size_ne_zero {a : Arena} {t : Rose} {r : Nat} {t0 : RTI} (c : RootCtx a t r t0) : a.size ≠ 0 := by
  have := c.is_root.1.1; omega

theorem RootCtx.t0_id {a : Arena} {t : Rose} {r : Nat} {t0 : RTI} (c : RootCtx a t r t0) : t0.id = r := c.rep.id_eq

theorem RootCtx.rep' {a : Arena} {t : Rose} {r : Nat} {t0 : RTI} (c : RootCtx a t r t0) : Rep a t0.id t0 := by
  rw [c.t0_id]; exact c.rep

theorem isRooted_ctx {a : Arena} {t : Rose} {r : Nat} {t0 : RTI} (c : RootCtx a t r t0) :
    isRooted a = .ok ((nd a r).children.length == 2) := by
  have := c.size_ne_zero
  simp [isRooted, c.root_ok, this]

/-- `is_rooted`: the root of the tree has exactly two kids -/
theorem isRooted_refines {a : Arena} (g : Good a) (h1 : AtMostOneRoot a) {t : Rose} (h : absRoot a = .ok t) :
    isRooted a = .ok (isRootedR t) := by
  obtain ⟨r, t0, c⟩ := absRoot_ctx g.1 h1 h
  rw [isRooted_ctx c, c.dec, isRootedR, isRootedNL]
  have := dec_kids_len c.rep'
  rw [c.t0_id] at this
  rw [← dec, this]

end AR
