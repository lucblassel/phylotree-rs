import PhyloModel.Arena.QueryRefineBase
import PhyloModel.Arena.QueryRefineBinary
import PhyloModel.Arena.QueryRefineNames
import PhyloModel.Arena.QueryRefineIndices
import PhyloModel.Arena.QueryRefineDist
import PhyloModel.Arena.QueryRefineDistance
import PhyloModel.Arena.QueryRefineDiam
import PhyloModel.Arena.QueryRefineTraverse
import PhyloModel.Arena.QueryRefineLca
/-! # Every read-only query is a function of the abstract tree (umbrella file)

Hypotheses everywhere: `Good a`, `AtMostOneRoot a`, `absRoot a = .ok t`.  Each `<query>_refines` equates the
executable query of `Arena/Query.lean` with its definition on `t` in `Arena/RoseStats.lean`; `getByName` needs the
extra hypothesis `BlankNames a` (`getByName_refines_partial`); distances and common ancestors address nodes by
pre-order position. -/
