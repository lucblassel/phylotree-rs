import PhyloModel.Arena.RoseStats
import PhyloModel.Arena.Inorder
import PhyloModel.Arena.LevelFacts
/-! # Traversals of a generic labelled rose tree, natural in the labels

`GT α` is a rose tree with labels in `α`.  The four traversals (`pre`, `post`, `ino`, `level`) are defined once;
each commutes with relabelling (`…_map`).  The id tree `RTI`, the abstract tree `Rose` and the id-free tree
`RoseNL` embed into `GT`, and the `RTI`-level traversals (`AR.pre`, `AR.post`, `AR.ino`, `LV.bfsD`)
are the generic ones on the embedded tree. -/
namespace AR

inductive GT (α : Type) where
  | node (lab : α) (kids : List (GT α))

namespace GT
variable {α β γ : Type}

def lab : GT α → α | .node l _ => l
def kids : GT α → List (GT α) | .node _ ks => ks

mutual
def map (f : α → β) : GT α → GT β | .node l ks => .node (f l) (mapL f ks)
def mapL (f : α → β) : List (GT α) → List (GT β) | [] => [] | k :: ks => map f k :: mapL f ks
end

theorem mapL_eq (f : α → β) : ∀ ks : List (GT α), mapL f ks = ks.map (map f)
  | [] => rfl
  | k :: ks => by rw [mapL, mapL_eq f ks]; rfl

@[simp] theorem map_lab (f : α → β) (t : GT α) : (map f t).lab = f t.lab := by cases t; simp [map, lab]
@[simp] theorem map_kids (f : α → β) (t : GT α) : (map f t).kids = t.kids.map (map f) := by
  cases t; simp [map, kids, mapL_eq]

mutual
theorem map_map (f : α → β) (g : β → γ) : ∀ t : GT α, map g (map f t) = map (g ∘ f) t
  | .node l ks => by simp only [map, Function.comp, mapL_mapL f g ks]
theorem mapL_mapL (f : α → β) (g : β → γ) : ∀ ts : List (GT α), mapL g (mapL f ts) = mapL (g ∘ f) ts
  | [] => by simp [mapL]
  | t :: ts => by simp only [mapL, map_map f g t, mapL_mapL f g ts]
end

mutual
def pre : GT α → List α | .node l ks => l :: preL ks
def preL : List (GT α) → List α | [] => [] | k :: ks => pre k ++ preL ks
end
mutual
def post : GT α → List α | .node l ks => postL ks ++ [l]
def postL : List (GT α) → List α | [] => [] | k :: ks => post k ++ postL ks
end

mutual
theorem pre_map (f : α → β) : ∀ t : GT α, (map f t).pre = t.pre.map f
  | .node l ks => by simp only [map, pre, List.map_cons, preL_map f ks]
theorem preL_map (f : α → β) : ∀ ts : List (GT α), preL (mapL f ts) = (preL ts).map f
  | [] => by simp [mapL, preL]
  | t :: ts => by simp only [mapL, preL, List.map_append, pre_map f t, preL_map f ts]
end
mutual
theorem post_map (f : α → β) : ∀ t : GT α, (map f t).post = t.post.map f
  | .node l ks => by simp only [map, post, List.map_append, List.map_cons, List.map_nil, postL_map f ks]
theorem postL_map (f : α → β) : ∀ ts : List (GT α), postL (mapL f ts) = (postL ts).map f
  | [] => by simp [mapL, postL]
  | t :: ts => by simp only [mapL, postL, List.map_append, post_map f t, postL_map f ts]
end

/-! ### in-order (binary trees; a single kid is a left kid) -/
def ino : GT α → Option (List α)
  | .node i [] => some [i]
  | .node i [l] => (ino l).map (· ++ [i])
  | .node i [l, r] => (ino l).bind fun a => (ino r).map fun b => a ++ [i] ++ b
  | .node _ (_ :: _ :: _ :: _) => none

theorem ino_map (f : α → β) : ∀ t : GT α, (map f t).ino = t.ino.map (·.map f)
  | .node i [] => by simp [map, mapL, ino]
  | .node i [l] => by
    have := ino_map f l
    simp only [map, mapL, ino, this]
    cases ino l <;> simp
  | .node i [l, r] => by
    have h1 := ino_map f l
    have h2 := ino_map f r
    simp only [map, mapL, ino, h1, h2]
    cases ino l <;> cases ino r <;> simp
  | .node _ (_ :: _ :: _ :: _) => by simp [map, mapL, ino]

mutual
def size : GT α → Nat | .node _ ks => 1 + sizeL ks
def sizeL : List (GT α) → Nat | [] => 0 | k :: ks => size k + sizeL ks
end

theorem sizeL_append : ∀ (a b : List (GT α)), sizeL (a ++ b) = sizeL a + sizeL b
  | [], b => by simp [sizeL]
  | x :: a, b => by simp only [List.cons_append, sizeL, sizeL_append a b]; omega

theorem size_eq (t : GT α) : size t = 1 + sizeL t.kids := by cases t; simp [size, kids]

/-- the queue loop of `Tree::levelorder`, one dequeue per unit of fuel -/
def bfs : Nat → List (GT α) → List α
  | 0, _ => []
  | _, [] => []
  | f + 1, t :: q => t.lab :: bfs f (q ++ t.kids)

theorem bfs_nil (f : Nat) : bfs f ([] : List (GT α)) = [] := by cases f <;> simp [bfs]

theorem bfs_fuel : ∀ (f : Nat) (q : List (GT α)), sizeL q ≤ f → bfs f q = bfs (sizeL q) q
  | 0, q, h => by
    have : sizeL q = 0 := by omega
    rw [this]
  | f + 1, [], _ => by simp [bfs_nil]
  | f + 1, t :: q, h => by
    have hs : sizeL (t :: q) = sizeL (q ++ t.kids) + 1 := by
      rw [sizeL_append, sizeL, size_eq]; omega
    rw [hs, bfs, bfs, bfs_fuel f (q ++ t.kids) (by omega)]

def level (t : GT α) : List α := bfs (size t) [t]

theorem bfs_map (f : α → β) : ∀ (n : Nat) (q : List (GT α)), bfs n (q.map (map f)) = (bfs n q).map f
  | 0, _ => by simp [bfs]
  | n + 1, [] => by simp [bfs]
  | n + 1, t :: q => by
    have := bfs_map f n (q ++ t.kids)
    simp only [List.map_cons, bfs, map_lab, map_kids, ← List.map_append, this]

mutual
theorem size_map (f : α → β) : ∀ t : GT α, size (map f t) = size t
  | .node l ks => by simp only [map, size, sizeL_map f ks]
theorem sizeL_map (f : α → β) : ∀ ts : List (GT α), sizeL (mapL f ts) = sizeL ts
  | [] => by simp [mapL, sizeL]
  | t :: ts => by simp only [mapL, sizeL, size_map f t, sizeL_map f ts]
end

theorem level_map (f : α → β) (t : GT α) : (map f t).level = t.level.map f := by
  have := bfs_map f (size t) [t]
  simpa [level, size_map] using this

end GT

mutual
def rtiGT : RTI → GT Nat | .node i ks => .node i (rtiGTL ks)
def rtiGTL : List RTI → List (GT Nat) | [] => [] | k :: ks => rtiGT k :: rtiGTL ks
end
mutual
def roseGT : Rose → GT (Nat × Option String) | .node i n _ _ ks => .node (i, n) (roseGTL ks)
def roseGTL : List Rose → List (GT (Nat × Option String)) | [] => [] | k :: ks => roseGT k :: roseGTL ks
end
mutual
def nlGT : RoseNL → GT (Option String) | .node n _ ks => .node n (nlGTL ks)
def nlGTL : List RoseNL → List (GT (Option String)) | [] => [] | k :: ks => nlGT k :: nlGTL ks
end

mutual
theorem roseGT_erase : ∀ t : Rose, nlGT (erase t) = GT.map Prod.snd (roseGT t)
  | .node i n l d ks => by simp only [erase, nlGT, roseGT, GT.map, roseGTL_erase ks]
theorem roseGTL_erase : ∀ ts : List Rose, nlGTL (eraseL ts) = GT.mapL Prod.snd (roseGTL ts)
  | [] => by simp [eraseL, nlGTL, roseGTL, GT.mapL]
  | t :: ts => by simp only [eraseL, nlGTL, roseGTL, GT.mapL, roseGT_erase t, roseGTL_erase ts]
end

mutual
theorem roseGT_decorate (a : Arena) : ∀ t : RTI,
    roseGT (decorate a t) = GT.map (fun i => (i, (nd a i).name)) (rtiGT t)
  | .node i ks => by simp only [decorate, roseGT, rtiGT, GT.map, roseGTL_decorate a ks]
theorem roseGTL_decorate (a : Arena) : ∀ ts : List RTI,
    roseGTL (decorateL a ts) = GT.mapL (fun i => (i, (nd a i).name)) (rtiGTL ts)
  | [] => by simp [decorateL, roseGTL, rtiGTL, GT.mapL]
  | t :: ts => by simp only [decorateL, roseGTL, rtiGTL, GT.mapL, roseGT_decorate a t, roseGTL_decorate a ts]
end

mutual
theorem pre_rtiGT : ∀ t : RTI, (rtiGT t).pre = pre t
  | .node i ks => by simp only [rtiGT, GT.pre, pre, preL_rtiGT ks]
theorem preL_rtiGT : ∀ ts : List RTI, GT.preL (rtiGTL ts) = preL ts
  | [] => by simp [rtiGTL, GT.preL, preL]
  | t :: ts => by simp only [rtiGTL, GT.preL, preL, pre_rtiGT t, preL_rtiGT ts]
end
mutual
theorem post_rtiGT : ∀ t : RTI, (rtiGT t).post = post t
  | .node i ks => by simp only [rtiGT, GT.post, post, postL_rtiGT ks]
theorem postL_rtiGT : ∀ ts : List RTI, GT.postL (rtiGTL ts) = postL ts
  | [] => by simp [rtiGTL, GT.postL, postL]
  | t :: ts => by simp only [rtiGTL, GT.postL, postL, post_rtiGT t, postL_rtiGT ts]
end

theorem ino_rtiGT : ∀ t : RTI, (rtiGT t).ino = ino t
  | .node i [] => by simp [rtiGT, rtiGTL, GT.ino, ino]
  | .node i [l] => by simp only [rtiGT, rtiGTL, GT.ino, ino, ino_rtiGT l]
  | .node i [l, r] => by simp only [rtiGT, rtiGTL, GT.ino, ino, ino_rtiGT l, ino_rtiGT r]
  | .node _ (_ :: _ :: _ :: _) => by simp [rtiGT, rtiGTL, GT.ino, ino]

mutual
def lvGT : LV.T → GT Nat | .node i ks => .node i (lvGTL ks)
def lvGTL : List LV.T → List (GT Nat) | [] => [] | k :: ks => lvGT k :: lvGTL ks
end

theorem lvGTL_eq : ∀ ks : List LV.T, lvGTL ks = ks.map lvGT
  | [] => rfl
  | k :: ks => by rw [lvGTL, lvGTL_eq ks]; rfl

mutual
theorem lvGT_toLV : ∀ t : RTI, lvGT (toLV t) = rtiGT t
  | .node i ks => by simp only [toLV, lvGT, rtiGT, lvGTL_toLVL ks]
theorem lvGTL_toLVL : ∀ ts : List RTI, lvGTL (toLVL ts) = rtiGTL ts
  | [] => by simp [toLVL, lvGTL, rtiGTL]
  | t :: ts => by simp only [toLVL, lvGTL, rtiGTL, lvGT_toLV t, lvGTL_toLVL ts]
end

theorem bfsD_gt : ∀ (f : Nat) (q : List (LV.T × Nat)),
    (LV.bfsD f q).map (·.1) = GT.bfs f (q.map (fun p => lvGT p.1))
  | 0, _ => by simp [LV.bfsD, GT.bfs]
  | f + 1, [] => by simp [LV.bfsD, GT.bfs]
  | f + 1, (t, d) :: q => by
    have := bfsD_gt f (q ++ t.kids.map (fun k => (k, d + 1)))
    cases t with
    | node i ks =>
      simp only [LV.bfsD, List.map_cons, GT.bfs, LV.T.id, LV.T.kids, lvGT, GT.lab, GT.kids] at this ⊢
      rw [this]
      simp [lvGTL_eq, Function.comp_def]

mutual
theorem size_rtiGT : ∀ t : RTI, (rtiGT t).size = szR t
  | .node i ks => by simp only [rtiGT, GT.size, szR, sizeL_rtiGTL ks]
theorem sizeL_rtiGTL : ∀ ts : List RTI, GT.sizeL (rtiGTL ts) = szRL ts
  | [] => by simp [rtiGTL, GT.sizeL, szRL]
  | t :: ts => by simp only [rtiGTL, GT.sizeL, szRL, size_rtiGT t, sizeL_rtiGTL ts]
end

theorem bfsD_level (t : RTI) (f : Nat) (hf : szR t ≤ f) :
    (LV.bfsD f [(toLV t, 0)]).map (·.1) = (rtiGT t).level := by
  rw [bfsD_gt]
  simp only [List.map_cons, List.map_nil, lvGT_toLV]
  rw [GT.bfs_fuel f [rtiGT t] (by simp [GT.sizeL, size_rtiGT]; exact hf)]
  simp [GT.level, GT.sizeL]

end AR
