import PhyloModel.Arena.OpsInv
/-! Postcondition and frame of `compress`: when it succeeds no live non-root node with exactly one child is
    left, and the set of leaves is what it was. -/
namespace AR

/-- the nodes `Tree::compress` collects -/
def Unary (a : Arena) (i : Nat) : Prop :=
  live a i ∧ (nd a i).parent.isSome = true ∧ (nd a i).children.length = 1
def IsTip (a : Arena) (i : Nat) : Prop := live a i ∧ (nd a i).children = []

theorem compressNode_step {a a' : Arena} {v : Nat} {o : Option Nat} (g : Good a)
    (h : compressNode a v = (a', .ok o)) :
    (∀ i, Unary a' i ↔ (Unary a i ∧ i ≠ v)) ∧ (∀ i, IsTip a' i ↔ IsTip a i) := by
  obtain ⟨p, c, e, hlv, hpar, hch, _, _, s⟩ := compressNode_ok g h
  obtain ⟨hlp, hlc, hpc, hvc, hvp⟩ := splice_ne g.1 hlv hpar hch
  obtain ⟨_, hvmem⟩ := g.1.parent_ok v p hlv hpar
  have hcpar := (g.1.child_ok v c hlv (by rw [hch]; exact List.mem_singleton.2 rfl)).2.1
  -- `p` trades `v` for `c`: as many children as before, and at least one
  have hplen : (((nd a p).children ++ [c]).erase v).length = (nd a p).children.length := by
    rw [List.erase_append_left _ hvmem, List.length_append, List.length_erase_of_mem hvmem]
    have := List.length_pos_of_mem hvmem
    simp; omega
  have hpne : (nd a p).children ≠ [] := List.ne_nil_of_mem hvmem
  refine ⟨fun i => ?_, fun i => ?_⟩
  · rw [Unary, Unary, s.live_iff, s.parent, s.children]
    by_cases h1 : i = v
    · simp [h1]
    · by_cases h2 : i = p
      · subst h2; simp [h1, hpc, hplen]
      · by_cases h3 : i = c
        · subst h3; simp [h1, h2, hcpar]
        · simp [h1, h2, h3]
  · rw [IsTip, IsTip, s.live_iff, s.children]
    by_cases h1 : i = v
    · simp [h1, hch]
    · by_cases h2 : i = p
      · subst h2
        simp only [h1, ↓reduceIte, hpne, and_false, iff_false, not_and, ne_eq, not_false_eq_true, and_true]
        intro _ h0
        have := congrArg List.length h0
        rw [hplen] at this
        exact hpne (List.eq_nil_of_length_eq_zero this)
      · simp [h1, h2]

/-- `compress` succeeded: the loop over a list that holds every one-child non-root node removed them all (a round
    removes its node and creates no new one); the tips are the same nodes -/
theorem compressLoop_post : ∀ (vs : List Nat) {a a' : Arena} {o : Option Nat}, Good a →
    (∀ i, Unary a i → i ∈ vs) → compressLoop vs a = (a', .ok o) →
    (∀ i, ¬ Unary a' i) ∧ (∀ i, IsTip a' i ↔ IsTip a i)
  | [], a, a', o, _, hu, h => by
    simp only [compressLoop] at h
    have : a = a' := by injection h
    subst this
    exact ⟨fun i hi => by simpa using hu i hi, fun _ => Iff.rfl⟩
  | v :: vs, a, a', o, g, hu, h => by
    unfold compressLoop at h
    split at h
    next a1 o1 heq =>
      have g1 := (compressNode_good v g)
      rw [heq] at g1
      obtain ⟨s1, s2⟩ := compressNode_step g heq
      obtain ⟨r1, r2⟩ := compressLoop_post vs g1.1
        (fun i hi => (List.mem_cons.1 (hu i ((s1 i).1 hi).1)).resolve_left ((s1 i).1 hi).2) h
      exact ⟨r1, fun i => (r2 i).trans (s2 i)⟩
    next r hne =>
      have : compressNode a v = (a', .ok o) := h
      exact absurd this (by intro e; exact hne a' o e)

theorem mem_toCompress (a : Arena) (i : Nat) : i ∈ toCompress a ↔ Unary a i := by
  simp only [toCompress, List.mem_filter, List.mem_range, Bool.and_eq_true, beq_iff_eq, Unary]
  constructor
  · rintro ⟨_, ⟨h1, h2⟩, h3⟩; exact ⟨(isLive_iff a i).1 h1, h2, h3⟩
  · rintro ⟨h1, h2, h3⟩; exact ⟨h1.1, ⟨(isLive_iff a i).2 h1, h2⟩, h3⟩

/-- **postcondition of `compress`**: on success no live non-root node has exactly one child, and the tips
    are exactly the tips before -/
theorem compress_post {a a' : Arena} {o : Option Nat} (g : Good a) (h : compress a = (a', .ok o)) :
    (∀ i, ¬ Unary a' i) ∧ (∀ i, IsTip a' i ↔ IsTip a i) :=
  compressLoop_post _ g (fun i => (mem_toCompress a i).2) h

end AR
