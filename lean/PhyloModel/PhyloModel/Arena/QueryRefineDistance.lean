import PhyloModel.Arena.QueryRefineDist
/-! # Node-to-node distances as a function of the abstract tree

Nodes are addressed id-free by their position in the pre-order of the tree.  `distNL T i j` is the textbook
answer of `get_distance` between the `i`-th and the `j`-th node of `T` (sum of the branch lengths on the
connecting path, absent when one is absent; number of edges), computed from the root-to-node paths of `T`.
`distance_refines`: the executable `distance` between the `i`-th and `j`-th node of the abstract tree of an
arena returns `distNL (erase t) i j`. -/
namespace AR

mutual
/-- for every node, in pre-order, the steps (kid index, branch length) leading from the root to it -/
def nodePathsNL : RoseNL → List (List Step)
  | .node _ _ ks => [] :: nodePathsNLL 0 ks
def nodePathsNLL : Nat → List RoseNL → List (List Step)
  | _, [] => []
  | j, k :: ks => (nodePathsNL k).map (fun p => (j, k.len) :: p) ++ nodePathsNLL (j + 1) ks
end

/-- `get_distance` between the `i`-th and `j`-th node (pre-order positions) -/
def distNL (T : RoseNL) (i j : Nat) : Option Int × Nat :=
  let P := nodePathsNL T
  let p := joinPaths (P.getD i []) (P.getD j [])
  (optSum (p.map (·.2)), p.length)

mutual
theorem nodePathsNL_dec (a : Arena) : ∀ t : RTI,
    nodePathsNL (dec a t) = (nodeSteps t).map (fun s => s.map (stepF a))
  | .node i ks => by
    have := nodePathsNLL_dec a 0 ks
    simp only [dec, decorate, erase, nodePathsNL, nodeSteps, eraseL_decorateL, List.map_cons, List.map_nil]
    rw [this]
theorem nodePathsNLL_dec (a : Arena) : ∀ (j : Nat) (ts : List RTI),
    nodePathsNLL j (ts.map (dec a)) = (nodeStepsL j ts).map (fun s => s.map (stepF a))
  | _, [] => by simp [nodePathsNLL, nodeStepsL]
  | j, k :: ks => by
    simp only [List.map_cons, nodePathsNLL, nodeStepsL, List.map_append, List.map_map, nodePathsNL_dec a k,
      nodePathsNLL_dec a (j + 1) ks]
    congr 1
    apply List.map_congr_left
    intro s _
    simp [stepF]
end

mutual
theorem nodeSteps_ends : ∀ (t : RTI), (nodeSteps t).map (fun s => endOf t.id (idsOf s)) = pre t
  | .node j ks => by
    have := nodeStepsL_ends 0 ks j
    simp only [nodeSteps, List.map_cons, pre, RTI.id, this]
    simp [idsOf, endOf]
theorem nodeStepsL_ends : ∀ (j : Nat) (ts : List RTI) (i : Nat),
    (nodeStepsL j ts).map (fun s => endOf i (idsOf s)) = preL ts
  | _, [], _ => by simp [nodeStepsL, preL]
  | j, t :: ts, i => by
    have h1 := nodeSteps_ends t
    have h2 := nodeStepsL_ends (j + 1) ts i
    simp only [nodeStepsL, List.map_append, List.map_map, preL, h2, ← h1]
    congr 1
end

/-! ### the leading steps two root paths share: by kid index (tree side) and by node id (arena side) -/

/-- number of leading steps two root paths share, steps compared by kid index -/
def common {β γ : Type} : List (Nat × β) → List (Nat × γ) → Nat
  | x :: xs, y :: ys => if x.1 = y.1 then common xs ys + 1 else 0
  | _, _ => 0

theorem joinPaths_eq : ∀ (p q : List Step), joinPaths p q = p.drop (common p q) ++ q.drop (common p q)
  | [], q => by simp [joinPaths, common]
  | x :: xs, [] => by simp [joinPaths, common]
  | x :: xs, y :: ys => by
    simp only [joinPaths, common]
    split
    · simpa using joinPaths_eq xs ys
    · rfl

theorem common_map (a : Arena) : ∀ (sx sy : List (Nat × Nat)),
    common (sx.map (stepF a)) (sy.map (stepF a)) = common sx sy
  | [], sy => by simp [common]
  | x :: xs, [] => by simp [common]
  | x :: xs, y :: ys => by simp only [List.map_cons, common, stepF, common_map a xs ys]

theorem common_self : ∀ s : List (Nat × Nat), common s s = s.length
  | [] => rfl
  | x :: xs => by simp [common, common_self xs]

/-- two step lists of the same tree: kid indices agree exactly where node ids agree -/
def Coh : List (Nat × Nat) → List (Nat × Nat) → Prop
  | x :: xs, y :: ys => (x.1 = y.1 ↔ x.2 = y.2) ∧ (x.1 = y.1 → Coh xs ys)
  | _, _ => True

theorem coh_cons_of_ne {j j' c c' : Nat} (s s' : List (Nat × Nat)) (h1 : j ≠ j') (h2 : c ≠ c') :
    Coh ((j, c) :: s) ((j', c') :: s') := by
  rw [Coh]
  exact ⟨⟨fun e => absurd e h1, fun e => absurd e h2⟩, fun e => absurd e h1⟩

theorem coh_common : ∀ (sx sy : List (Nat × Nat)), Coh sx sy → common sx sy = cursor (idsOf sx) (idsOf sy)
  | [], sy, _ => by simp [common, idsOf, cursor]
  | x :: xs, [], _ => by simp [common, idsOf, cursor]
  | x :: xs, y :: ys, h => by
    simp only [Coh] at h
    simp only [common, idsOf, List.map_cons, cursor]
    by_cases h1 : x.1 = y.1
    · have := coh_common xs ys (h.2 h1)
      simp only [idsOf] at this
      simp [h1, h.1.1 h1, this]
    · have h2 : ¬ x.2 = y.2 := fun e => h1 (h.1.2 e)
      simp [h1, h2]

theorem joinPaths_coh (a : Arena) {sx sy : List (Nat × Nat)} (h : Coh sx sy) :
    ∃ s, joinPaths (sx.map (stepF a)) (sy.map (stepF a)) = s.map (stepF a) ∧
      idsOf s = joinIds (idsOf sx) (idsOf sy) :=
  ⟨sx.drop (common sx sy) ++ sy.drop (common sx sy),
    by rw [joinPaths_eq, common_map, List.map_append, List.map_drop, List.map_drop],
    by rw [coh_common sx sy h, joinIds, idsOf, idsOf, idsOf, List.map_append, List.map_drop, List.map_drop]⟩

theorem nodeStepsL_head {a : Arena} : ∀ (j : Nat) (ts : List RTI) (cs : List Nat), RepL a cs ts →
    ∀ s ∈ nodeStepsL j ts, ∃ j' c rest, s = (j', c) :: rest ∧ j ≤ j' ∧ c ∈ cs
  | _, [], _, _, s, hs => by simp [nodeStepsL] at hs
  | j, t :: ts, cs, h, s, hs => by
    obtain ⟨c, cs, rfl, h⟩ := h.cons_inv
    simp only [nodeStepsL, List.mem_append, List.mem_map] at hs
    rcases hs with ⟨s', _, rfl⟩ | hs
    · exact ⟨j, c, s', by rw [h.1.id_eq], Nat.le_refl _, by simp⟩
    · obtain ⟨j', c', rest, e, hj, hc⟩ := nodeStepsL_head (j + 1) ts cs h.2 s hs
      exact ⟨j', c', rest, e, by omega, by simp [hc]⟩

mutual
theorem nodeSteps_coh {a : Arena} {rk : Nat → Nat} (w : W a rk) : ∀ (t : RTI) (i : Nat), Rep a i t →
    ∀ sx ∈ nodeSteps t, ∀ sy ∈ nodeSteps t, Coh sx sy
  | .node j ks, i, h, sx, hx, sy, hy => by
    simp only [Rep] at h
    obtain ⟨rfl, _, hk⟩ := h
    simp only [nodeSteps, List.mem_cons] at hx hy
    rcases hx with rfl | hx
    · simp [Coh]
    · rcases hy with rfl | hy
      · cases sx <;> simp [Coh]
      · exact nodeStepsL_coh w 0 ks _ (w.nodup i) hk sx hx sy hy
theorem nodeStepsL_coh {a : Arena} {rk : Nat → Nat} (w : W a rk) : ∀ (j : Nat) (ts : List RTI) (cs : List Nat),
    cs.Nodup → RepL a cs ts → ∀ sx ∈ nodeStepsL j ts, ∀ sy ∈ nodeStepsL j ts, Coh sx sy
  | _, [], _, _, _, sx, hx, _, _ => by simp [nodeStepsL] at hx
  | j, t :: ts, cs, hnd, h, sx, hx, sy, hy => by
    obtain ⟨c, cs, rfl, h⟩ := h.cons_inv
    simp only [List.nodup_cons] at hnd
    simp only [nodeStepsL, List.mem_append, List.mem_map] at hx hy
    have hid := h.1.id_eq
    rcases hx with ⟨sx', hx', rfl⟩ | hx <;> rcases hy with ⟨sy', hy', rfl⟩ | hy
    · simp only [Coh, true_and]
      exact fun _ => nodeSteps_coh w t c h.1 sx' hx' sy' hy'
    · obtain ⟨j', c', rest, rfl, hj, hc⟩ := nodeStepsL_head (j + 1) ts cs h.2 sy hy
      exact coh_cons_of_ne _ _ (by omega) (fun e => hnd.1 (hid ▸ e ▸ hc))
    · obtain ⟨j', c', rest, rfl, hj, hc⟩ := nodeStepsL_head (j + 1) ts cs h.2 sx hx
      exact coh_cons_of_ne _ _ (by omega) (fun e => hnd.1 (hid ▸ e ▸ hc))
    · exact nodeStepsL_coh w (j + 1) ts cs hnd.2 h.2 sx hx sy hy
end

theorem RootCtx.nodeSteps_getElem? {a : Arena} {t : Rose} {r : Nat} {t0 : RTI} (c : RootCtx a t r t0) (i x : Nat)
    (h : (idsR t)[i]? = some x) : ∃ s, (nodeSteps t0)[i]? = some s ∧ s ∈ nodeSteps t0 ∧ endOf r (idsOf s) = x := by
  rw [c.dec, idsR_decorate, ← nodeSteps_ends t0, List.getElem?_map, c.t0_id] at h
  cases hs : (nodeSteps t0)[i]? with
  | none => rw [hs] at h; simp at h
  | some s =>
    rw [hs] at h
    simp only [Option.map_some, Option.some.injEq] at h
    exact ⟨s, rfl, List.mem_of_getElem? hs, h⟩

/-- **`get_distance` between any two nodes** of the tree, addressed by their pre-order positions, is the
    textbook path length of the erased tree -/
theorem distance_refines {a : Arena} (g : Good a) (h1 : AtMostOneRoot a) {t : Rose} (h : absRoot a = .ok t)
    (i j x y : Nat) (hx : (idsR t)[i]? = some x) (hy : (idsR t)[j]? = some y) :
    distance a x y = .ok (distNL (erase t) i j) := by
  obtain ⟨r, t0, c⟩ := absRoot_ctx g.1 h1 h
  have w := g.1.toW
  have hroot : Path a [r] r := Path.root c.is_root.1 c.is_root.2
  obtain ⟨sx, hsx, hmx, rfl⟩ := c.nodeSteps_getElem? i x hx
  obtain ⟨sy, hsy, hmy, rfl⟩ := c.nodeSteps_getElem? j y hy
  have px := nodeSteps_path w t0 r [r] c.rep hroot sx hmx
  have py := nodeSteps_path w t0 r [r] c.rep hroot sy hmy
  have hcoh := nodeSteps_coh w t0 r c.rep sx hmx sy hmy
  have htree : distNL (erase t) i j = edgesOf a (joinIds (idsOf sx) (idsOf sy)) := by
    rw [c.dec, ← dec]
    obtain ⟨s, e1, e2⟩ := joinPaths_coh a hcoh
    simp only [distNL, nodePathsNL_dec, List.getD_eq_getElem?_getD, List.getElem?_map, hsx, hsy, Option.map_some,
      Option.getD_some, e1, edgesOf, ← e2, List.map_map, List.length_map]
    simp only [idsOf, List.map_map, List.length_map]
    rfl
  rw [htree]
  exact distance_paths w px py

end AR
