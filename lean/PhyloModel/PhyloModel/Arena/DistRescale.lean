import PhyloModel.Arena.DistBase
import PhyloModel.Arena.CompressPost
/-! C11, `rescale`: every node-to-node distance is multiplied by the factor (length component; the edge
    count is unchanged).  No invariant is needed: `rescale` touches only the two length records. -/
namespace AR

theorem rescale_size (a : Arena) (k : Int) : (rescale a k).size = a.size := by simp [rescale]

/-- climbing to the root reads only `parent`, `deleted` and the size -/
theorem climbF_congr {a b : Arena} (hsz : b.size = a.size) (hpar : ∀ i, (nd b i).parent = (nd a i).parent)
    (hdel : ∀ i, (nd b i).deleted = (nd a i).deleted) :
    ∀ (f x : Nat) (acc : List Nat), climbF f b x acc = climbF f a x acc := by
  intro f
  induction f with
  | zero => intro x acc; rfl
  | succ f ih =>
    intro x acc
    simp only [climbF, hsz, hpar, hdel]
    split
    · split
      · exact ih _ _
      · rfl
    · rfl

theorem pathFromRoot_congr {a b : Arena} (hsz : b.size = a.size) (hpar : ∀ i, (nd b i).parent = (nd a i).parent)
    (hdel : ∀ i, (nd b i).deleted = (nd a i).deleted) (x : Nat) : pathFromRoot b x = pathFromRoot a x := by
  simp only [pathFromRoot, fuelOf, hsz, climbF_congr hsz hpar hdel]

theorem optSum_scale (k : Int) (l : List (Option Int)) :
    optSum (l.map (fun e => e.map (· * k))) = (optSum l).map (· * k) := by
  induction l with
  | nil => simp [optSum_nil]
  | cons x xs ih =>
    simp only [List.map_cons, optSum_cons, ih]
    cases x <;> cases optSum xs <;> simp [optAdd, Int.add_mul]

def scaleDist (k : Int) (d : Option Int × Nat) : Option Int × Nat := (d.1.map (· * k), d.2)

/-- **`rescale` multiplies every path length**: for all node ids (live or not, equal or not) the answer of
    `get_distance` after `rescale k` is the answer before with the length multiplied by `k`; the edge
    count and every error are unchanged -/
theorem rescale_distance (a : Arena) (k : Int) (x y : Nat) :
    distance (rescale a k) x y = (do let d ← distance a x y; pure (scaleDist k d)) := by
  have hpath : ∀ z, pathFromRoot (rescale a k) z = pathFromRoot a z :=
    pathFromRoot_congr (rescale_size a k) (fun i => by rw [rescale_nd]; rfl) (fun i => by rw [rescale_nd]; rfl)
  unfold distance
  by_cases hxy : x = y
  · simp [hxy, scaleDist]
  · simp only [hxy, ↓reduceIte, hpath]
    cases pathFromRoot a x with
    | err e => rfl
    | panic => rfl
    | ok ps =>
      cases pathFromRoot a y with
      | err e => rfl
      | panic => rfl
      | ok pt =>
        simp only [QR.bind_ok, QR.pure_eq, scaleDist]
        congr 2
        rw [← optSum_scale, List.map_map]
        congr 1
        apply List.map_congr_left
        intro i _
        simp [rescale_nd, scaleNode]

theorem rescale_distance_ok (a : Arena) (k : Int) (x y : Nat) (d : Option Int) (n : Nat)
    (h : distance a x y = .ok (d, n)) : distance (rescale a k) x y = .ok (d.map (· * k), n) := by
  rw [rescale_distance, h]; rfl

theorem rescale_tips (a : Arena) (k : Int) (i : Nat) : IsTip (rescale a k) i ↔ IsTip a i := by
  simp only [IsTip, live, rescale_size, rescale_nd]
  simp [scaleNode]

/-- a concrete instance: a cherry with lengths 3 and 4, rescaled by 5 -/
example : distance (rescale ((addChildNamed (addChildNamed (add #[] none).1 0 (some 3) none).1 0 (some 4) none).1) 5) 1 2
    = .ok (some 35, 2) :=
  rescale_distance_ok _ 5 1 2 (some 7) 2 (distIs_eq (by decide))

end AR
