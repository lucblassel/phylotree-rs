import PhyloModel.Arena.Compress2
/-! `SameButDepth`, the frame of `reset_depth_impl`, and the depth repair that ends an edit: one call below a child
    empties that child's part of the dirty region (`repair_step`); `compress_node` needs one, regrouping two. -/
namespace AR

/-- equal in every structural field but `depth` (the payload `name`, `comment` is not covered); what
    `reset_depth_impl` guarantees without any invariant, see `resetF_same` -/
def SameButDepth (a b : Arena) : Prop :=
  b.size = a.size ∧ ∀ i, (nd b i).parent = (nd a i).parent ∧ (nd b i).children = (nd a i).children ∧
    (nd b i).pedge = (nd a i).pedge ∧ (nd b i).cedges = (nd a i).cedges ∧ (nd b i).deleted = (nd a i).deleted

theorem SameButDepth.rfl' (a : Arena) : SameButDepth a a := ⟨rfl, fun _ => ⟨rfl, rfl, rfl, rfl, rfl⟩⟩
theorem SameButDepth.trans {a b c : Arena} (h1 : SameButDepth a b) (h2 : SameButDepth b c) : SameButDepth a c := by
  refine ⟨by rw [h2.1, h1.1], fun i => ?_⟩
  obtain ⟨p1, p2, p3, p4, p5⟩ := h1.2 i
  obtain ⟨q1, q2, q3, q4, q5⟩ := h2.2 i
  exact ⟨by rw [q1, p1], by rw [q2, p2], by rw [q3, p3], by rw [q4, p4], by rw [q5, p5]⟩

theorem OnlyDepth.same {a b : Arena} (h : OnlyDepth a b) : SameButDepth a b :=
  ⟨h.1, fun i => by obtain ⟨d, e⟩ := h.2 i; rw [e]; exact ⟨rfl, rfl, rfl, rfl, rfl⟩⟩

theorem resetF_same : ∀ (f : Nat) (a a' : Arena) (x d : Nat), resetF f a x d = some a' → SameButDepth a a' :=
  fun _ _ _ _ _ h => (resetF_onlyDepth h).same

theorem resetF_name (f : Nat) (a a' : Arena) (x d : Nat) (h : resetF f a x d = some a') (i : Nat) :
    (nd a' i).name = (nd a i).name :=
  ((resetF_onlyDepth h).fields i).2.2.2.2.1

theorem S.transfer {a b : Arena} {r : Nat → Nat} (h : SameButDepth a b) (s : S a r) : S b r := by
  have hl : ∀ i, live b i ↔ live a i := fun i => by simp only [live, h.1, (h.2 i).2.2.2.2]
  constructor
  · intro i c hli hc
    rw [hl] at hli; rw [(h.2 i).2.1] at hc
    obtain ⟨g1, g2, g3, g4⟩ := s.child_ok i c hli hc
    rw [hl, (h.2 c).1, (h.2 i).2.2.2.1, (h.2 c).2.2.1]; exact ⟨g1, g2, g3, g4⟩
  · intro i p hli hp
    rw [hl] at hli; rw [(h.2 i).1] at hp
    obtain ⟨g1, g2⟩ := s.parent_ok i p hli hp
    rw [hl, (h.2 p).2.1]; exact ⟨g1, g2⟩
  · intro i; rw [(h.2 i).2.1]; exact s.nodup i
  · intro i c hs; rw [(h.2 i).2.2.2.1] at hs; rw [(h.2 i).2.1]; exact s.cedge_dom i c hs

theorem Tomb.transfer {a b : Arena} (h : SameButDepth a b) (t : Tomb a) : Tomb b := by
  intro i hdel
  obtain ⟨p1, p2, _, p4, p5⟩ := h.2 i
  rw [p5] at hdel
  rw [p1, p2, p4]
  exact t i hdel

theorem sameButDepth_eqv {a b : Arena} (h : SameButDepth a b) : Eqv a b :=
  ⟨h.1, fun i => (h.2 i).1, fun i => (h.2 i).2.1, fun i => (h.2 i).2.2.2.2⟩

/-- one repair below a child `c` of `p` that is dirty itself and has nothing dirty below it: `c` leaves the dirty
    region, `p` keeps its depth -/
theorem repair_step {g : Arena} {r : Nat → Nat} (hs : S g r) (P : Nat → Prop) (p c : Nat) (hlp : live g p)
    (hm : c ∈ (nd g p).children) (hd : DOK g (fun v => P v ∨ v = c))
    (D f : Nat) (hrD : ∀ i, live g i → r i ≤ D) (hf : D < f) :
    ∃ b, resetF f g c ((nd g p).depth + 1) = some b ∧ S b r ∧ SameButDepth g b ∧ DOK b P ∧
      (nd b p).depth = (nd g p).depth := by
  have w := hs.toW
  obtain ⟨hl, hp, hr⟩ := w.child_ok p c hlp hm
  obtain ⟨b, hres, ok⟩ := reset_main f D r g c ((nd g p).depth + 1) w hl hrD (by omega)
  have hsame := resetF_same _ _ _ _ _ hres
  exact ⟨b, hres, hs.transfer hsame, hsame,
    reset_clean w c _ P hl (fun q hq => by rw [hp] at hq; cases hq; rfl) (fun h => by rw [hp] at h; cases h)
      (hd.mono fun v h => h.imp_right fun e => ⟨0, by rw [e]; exact BelowK.refl hl⟩) ok,
    ok.outside p (fun k hk => by have := BelowK.rank w hk; omega)⟩

/-- the state after a regrouping: the fresh node `p` lists the two moved children, which alone are dirty -/
theorem repair2 {g : Arena} {r : Nat → Nat} {p c1 c2 : Nat} (m : Mid g r (fun v => v = c1 ∨ v = c2)) (hlp : live g p)
    (hch : (nd g p).children = [c1, c2]) (D f : Nat) (hrD : ∀ i, live g i → r i ≤ D) (hf : D < f) :
    ∃ b1 b2, resetF f g c1 ((nd g p).depth + 1) = some b1 ∧ resetF f b1 c2 ((nd g p).depth + 1) = some b2 ∧
      Inv b2 ∧ SameButDepth g b2 := by
  obtain ⟨b1, r1, s1, same1, d1, hp1⟩ := repair_step m.links _ p c1 hlp (by rw [hch]; simp)
    (m.depths.mono fun _ => Or.symm) D f hrD hf
  have he1 := sameButDepth_eqv same1
  obtain ⟨b2, r2, s2, same2, d2, _⟩ := repair_step s1 (fun _ => False) p c2 ((he1.live_iff p).2 hlp)
    (by rw [he1.children, hch]; simp) (d1.mono fun _ => Or.inr) D f (fun i hl => hrD i ((he1.live_iff i).1 hl)) hf
  rw [hp1] at r2
  exact ⟨b1, b2, r1, r2, inv_of_S_DOK s2 d2, same1.trans same2⟩

/-- `compress_node` (slot updates + depth repair) preserves the arena invariant -/
theorem compressNode_inv (a : Arena) (v p c : Nat) (e : Option Int) (hinv : Inv a) (hlv : live a v)
    (hpar : (nd a v).parent = some p) (hch : (nd a v).children = [c]) (D : Nat)
    (hD : ∀ i, live a i → (nd a i).depth ≤ D) :
    ∃ a', resetF (D + 1) (splice a v p c e) c ((nd (splice a v p c e) p).depth + 1) = some a' ∧ Inv a' := by
  obtain ⟨m, hlive, _⟩ := splice_mid e hinv hlv hpar hch
  obtain ⟨hlp, hlc, hpc, hvc, hvp⟩ := splice_ne hinv hlv hpar hch
  have hlcb : live (splice a v p c e) c := (hlive c).2 ⟨hlc, Ne.symm hvc⟩
  have hcp : (nd (splice a v p c e) c).parent = some p := by
    rw [nd_splice a v p c e hlv.1 hlp.1 hlc.1 hpc, if_neg (Ne.symm hvc), if_neg (Ne.symm hpc), if_pos rfl]
  obtain ⟨hlpb, hcm⟩ := m.links.parent_ok c p hlcb hcp
  obtain ⟨a', hres, s', _, d', _⟩ := repair_step m.links (fun _ => False) p c hlpb hcm
    (m.depths.mono fun _ => Or.inr) D (D + 1)
    (fun i hl => hD i ((hlive i).1 hl).1) (Nat.lt_succ_self D)
  exact ⟨a', hres, inv_of_S_DOK s' d'⟩

end AR
