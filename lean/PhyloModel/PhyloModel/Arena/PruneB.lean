import PhyloModel.Arena.Below
/-! `prune` with the exact frame: what dies is exactly what is below `x`. -/
namespace AR

structure PruneOK2 (a a1 : Arena) (c : Nat) : Prop where
  inv : Inv a1
  tomb : Tomb a1
  size : a1.size = a.size
  gone : ∀ v k, BelowK a c v k → ¬ live a1 v
  kept : ∀ i, live a i → (∀ k, ¬ BelowK a c i k) → live a1 i
  sub : ∀ i, live a1 i → live a i
  same : ∀ i, live a1 i → (nd a c).parent ≠ some i → nd a1 i = nd a i
  par : ∀ p, (nd a c).parent = some p → nd a1 p = removeChild (nd a p) c

theorem BelowK.transfer {a b : Arena} {x v k : Nat} (h : BelowK a x v k)
    (hl : ∀ u j, BelowK a x u j → live b u ∧ (nd b u).parent = (nd a u).parent) : BelowK b x v k := by
  induction h with
  | refl hlx => exact BelowK.refl (hl x 0 (BelowK.refl hlx)).1
  | step hp hlc hpar ih =>
    have := hl _ _ (BelowK.step hp hlc hpar)
    exact BelowK.step ih this.1 (by rw [this.2]; exact hpar)

end AR
