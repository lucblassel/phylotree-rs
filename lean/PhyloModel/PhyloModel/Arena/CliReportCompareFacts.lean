import PhyloModel.Arena.CliReportFacts
import PhyloModel.Props.C07
/-! Facts about the `compare` rows of the command-line model (`Arena/CliReport.lean`), used by `Props/C18Report.lean`. -/
namespace CLIR
open AR SPM

/-- for an arena with a tree, the tool's `get_partitions` is the bipartition list of that tree -/
theorem partsOf_eq {a : Arena} {t : Rose} (h : absRoot a = .ok t) : partsOf a = partitions t := by
  obtain ⟨r, hr, _⟩ := (QR.bind_eq_ok _ _ _).1 h
  cases hg : getRoot a with
  | none => simp [root, hg, QR.ofOpt] at hr
  | some r =>
    simp only [partsOf, partitionsArena, hg, h, QR.bind_ok]
    cases hl : leafIndex t with
    | ok ls => cases hp : partitions t <;> rfl
    | err k => simp [partitions, hl]
    | panic => simp [partitions, hl]

theorem sides_length (ps : List Part) : (sides ps).length = ps.length := by simp [sides]

/-- a report is returned exactly when both bipartition lists carry all lengths and RF and the two weighted distances are
    returned; it is made of their values and the sum of the two bipartition counts -/
theorem compareTopologies_ok_iff {s o : Rose} {ps po : List Part} (hps : partitions s = .ok ps)
    (hpo : partitions o = .ok po) (st : Report) :
    compareTopologies s o = .ok st ↔ ∃ ms mo d w k, withLengths ps = .ok ms ∧ withLengths po = .ok mo ∧
      rf s o = .ok d ∧ wrf s o = .ok w ∧ kf2 s o = .ok k ∧ st = (d, po.length + ps.length, w, k) := by
  simp only [compareTopologies_eq, rfNorm, hps, hpo, QR.bind_ok, QR.bind_eq_ok, QR.pure_eq, QR.ok.injEq]
  constructor
  · rintro ⟨ms, hms, mo, hmo, _, ⟨d, hd, rfl⟩, w, hw, k, hk, rfl⟩
    exact ⟨ms, mo, d, w, k, hms, hmo, hd, hw, hk, rfl⟩
  · rintro ⟨ms, mo, d, w, k, hms, hmo, hd, hw, hk, rfl⟩
    exact ⟨ms, hms, mo, hmo, _, ⟨d, hd, rfl⟩, w, hw, k, hk, rfl⟩

/-- ... and only for two trees with the same leaf index -/
theorem compareTopologies_ok {s o : Rose} {st : Report} {ps po : List Part} (h : compareTopologies s o = .ok st)
    (hps : partitions s = .ok ps) (hpo : partitions o = .ok po) :
    ∃ ls ms mo d w k, leafIndex s = .ok ls ∧ leafIndex o = .ok ls ∧ withLengths ps = .ok ms ∧ withLengths po = .ok mo ∧
      rf s o = .ok d ∧ wrf s o = .ok w ∧ kf2 s o = .ok k ∧ st = (d, po.length + ps.length, w, k) := by
  obtain ⟨ms, mo, d, w, k, hms, hmo, hd, hw, hk, rfl⟩ := (compareTopologies_ok_iff hps hpo st).1 h
  obtain ⟨ls, hls⟩ := leafIndex_ok_of_partitions s ps hps
  exact ⟨ls, ms, mo, d, w, k, hls, leafIndex_eq_of_rfNorm (C06.rf_norm_is_quotient s o ps po d hps hpo hd).1 ▸ hls,
    hms, hmo, hd, hw, hk, rfl⟩

theorem cliCompareRow_eq {ref cmp : Arena} {s o : Rose} {ps po : List Part}
    (hs : absRoot ref = .ok s) (ho : absRoot cmp = .ok o) (hps : partitions s = .ok ps) (hpo : partitions o = .ok po) :
    cliCompareRow ref cmp = (do
      let st ← compareTopologies s o
      pure ((compareColumns ps po).1, (compareColumns ps po).2.1, (compareColumns ps po).2.2, st)) := by
  simp only [cliCompareRow, compareRowWith, partsOf_eq hs, partsOf_eq ho, hps, hpo, hs, ho, QR.bind_ok]

theorem columns_facts (ps po : List Part) (hs : (sides ps).Nodup) (ho : (sides po).Nodup) :
    (compareColumns ps po).1 + (compareColumns ps po).2.1 = ps.length ∧
    (compareColumns ps po).2.2 + (compareColumns ps po).2.1 = po.length ∧
    (compareColumns ps po).1 + (compareColumns ps po).2.2 = C06.delta ps po ∧
    (compareColumns ps po).1 = ((sides ps).filter (fun x => !(sides po).contains x)).length ∧
    (compareColumns ps po).2.2 = ((sides po).filter (fun x => !(sides ps).contains x)).length ∧
    (compareColumns ps po).2.1 = ((sides ps).filter (fun x => (sides po).contains x)).length := by
  have h4 : inter (sides ps) (sides po) + _ = (sides ps).length :=
    length_filter_split (fun x => (sides po).contains x) (sides ps)
  have h5 : inter (sides po) (sides ps) + _ = (sides po).length :=
    length_filter_split (fun x => (sides ps).contains x) (sides po)
  rw [sides_length] at h4 h5
  rw [inter_symm (sides po) (sides ps) ho hs] at h5
  -- both lengths written as `common + rest`, so that every truncated subtraction cancels
  simp only [compareColumns, C06.delta, inter_symm (sides po) (sides ps) ho hs, ← h4, ← h5, Nat.add_sub_cancel_left,
    true_and]
  exact ⟨Nat.add_comm _ _, Nat.add_comm _ _,
    by rw [Nat.add_add_add_comm, ← Nat.two_mul, Nat.add_sub_cancel_left, Nat.add_comm], rfl⟩

theorem columns_swap (ps po : List Part) (hs : (sides ps).Nodup) (ho : (sides po).Nodup) :
    compareColumns po ps = ((compareColumns ps po).2.2, (compareColumns ps po).2.1, (compareColumns ps po).1) := by
  simp only [compareColumns, inter_symm (sides po) (sides ps) ho hs]

theorem compareTopologies_symm {s o : Rose} {st : Report} {ps po : List Part} (h : compareTopologies s o = .ok st)
    (hps : partitions s = .ok ps) (hpo : partitions o = .ok po) : compareTopologies o s = .ok st := by
  obtain ⟨ls, ms, mo, d, w, k, hls, hlo, hms, hmo, hd, hw, hk, rfl⟩ := compareTopologies_ok h hps hpo
  -- each of the parts is symmetric
  exact (compareTopologies_ok_iff hpo hps _).2 ⟨mo, ms, d, w, k, hmo, hms,
    C06.rf_symmetric s o ps po ls ls hps hpo hls hlo ▸ hd, (C07.symmetric s o w).1 hw, (C07.symmetric s o k).2 hk,
    by rw [Nat.add_comm]⟩

theorem cliCompare_eq (ref : Arena) (cmps : List Arena) :
    cliCompare ref cmps = (do
      let _ ← partsOf ref
      let rows ← mapQ (cliCompareRow ref) cmps
      pure ((List.range rows.length).zip rows)) := by
  unfold cliCompare
  cases hpr : partsOf ref with
  | ok pr =>
    have : compareRowWith ref pr = cliCompareRow ref := funext fun c => by simp [cliCompareRow, hpr]
    rw [QR.bind_ok, QR.bind_ok, this]
  | err k => rfl
  | panic => rfl

theorem zip_range_eq {α : Type} (rows : List (Nat × α)) (n : Nat) (h : rows.map (·.1) = List.range n) :
    rows = (List.range (rows.map (·.2)).length).zip (rows.map (·.2)) := by
  have hn : n = rows.length := by simpa using (congrArg List.length h).symm
  subst hn
  exact List.zip_of_prod (by rw [List.length_map]; exact h) rfl

theorem number_append {α : Type} (r1 r2 : List α) :
    (List.range (r1 ++ r2).length).zip (r1 ++ r2) =
      (List.range r1.length).zip r1 ++ ((List.range r2.length).zip r2).map (fun p => (p.1 + r1.length, p.2)) := by
  rw [List.length_append, List.range_add, List.zip_append (by simp), List.zip_map_left]
  congr 1
  apply List.map_congr_left
  intro p _
  simp [Prod.map, Nat.add_comm]

/-! ### `compare` ends with rows or with an error exit -/

theorem np_partsOf (a : Arena) : NP (partsOf a) := np_bind (np_partitionsArena a) fun _ => np_pure _

theorem np_compareRowWith (ref : Arena) (pr : List Part) (cmp : Arena) : NP (compareRowWith ref pr cmp) :=
  np_bind (np_partsOf cmp) fun _ =>
    np_bind (np_bind (np_absRoot ref) fun s => np_bind (np_absRoot cmp) fun o => np_compareTopologies s o) fun _ => np_pure _

theorem np_cliCompareRow (ref cmp : Arena) : NP (cliCompareRow ref cmp) :=
  np_bind (np_partsOf ref) fun pr => np_compareRowWith ref pr cmp

theorem np_cliCompare (ref : Arena) (cmps : List Arena) : NP (cliCompare ref cmps) := by
  rw [cliCompare_eq]
  exact np_bind (np_partsOf ref) fun _ => np_bind (mapQ_np _ (np_cliCompareRow ref) _) fun _ => np_pure _

end CLIR
