import PhyloModel.Arena.FreshArena
import PhyloModel.Arena.MatrixDependsOnTree
import PhyloModel.Arena.QueryRefine
/-! # C04, assembled

One statement for the whole property: the arena `a` reached by any admissible edit history answers every
id-free read-only query — shape statistics, leaf names, name searches, traversals, bipartitions,
node-to-node distances (nodes addressed by pre-order position), both distance matrices — exactly like the
arena `freshArena' (erase ta)` built afresh (root by `add`, all other nodes by `add_child` in pre-order, the
way the Newick parser builds it) from the current tree of `a`.  Tree comparison, common ancestors and
`get_by_name` are not part of the statement: see `comparison_depends_only_on_tree`,
`commonAncestor_depends_only_on_tree`, `getByName_depends_only_on_tree_partial`. -/
namespace AR
open SPM DMF

theorem C04_history_vs_fresh (ops : List Op) (hadm : AdmissibleRun #[] ops) {ta : Rose}
    (hta : absRoot (runOps #[] ops) = .ok ta) :
    let a := runOps #[] ops
    let b := freshArena' (erase ta)
    ∃ tb, absRoot b = .ok tb ∧ erase tb = erase ta ∧
    -- shape statistics
    nLeaves a = nLeaves b ∧ isRooted a = isRooted b ∧ isBinary a = isBinary b ∧
    totalLength a = totalLength b ∧ cherries a = cherries b ∧ colless a = colless b ∧ sackin a = sackin b ∧
    (∀ u, treeHeight a u = treeHeight b u) ∧ (∀ u, diameter a u = diameter b u) ∧
    -- leaf names and name searches
    ((leaves a).map (fun i => (nd a i).name)).Perm ((leaves b).map (fun i => (nd b i).name)) ∧
    (∀ n, (searchName a n).length = (searchName b n).length) ∧
    -- traversals and listings from the root, read as names
    qnames a (subtree a ta.id) = qnames b (subtree b tb.id) ∧
    qnames a (postorder a ta.id) = qnames b (postorder b tb.id) ∧
    qnames a (inorder a ta.id) = qnames b (inorder b tb.id) ∧
    qnames a (levelorderQ a ta.id) = qnames b (levelorderQ b tb.id) ∧
    qnames a (subtreeLeaves a ta.id) = qnames b (subtreeLeaves b tb.id) ∧
    qnames a (descendants a ta.id) = qnames b (descendants b tb.id) ∧
    -- bipartitions
    partitionsArena a = partitionsArena b ∧
    -- distance matrices
    dmRecursive a = dmRecursive b ∧ (∀ u, dmRose a u = dmRose b u) ∧
    -- node-to-node distances, nodes addressed by pre-order position
    (∀ (i j xa ya xb yb : Nat), (idsR ta)[i]? = some xa → (idsR ta)[j]? = some ya → (idsR tb)[i]? = some xb →
      (idsR tb)[j]? = some yb → distance a xa ya = distance b xb yb) := by
  intro a b
  obtain ⟨ga, ha⟩ := runOps_empty hadm
  obtain ⟨gb, hb, _, tb, htb, hetb⟩ := freshArena'_spec (erase ta)
  have he : erase ta = erase tb := hetb.symm
  obtain ⟨s1, s2, s3, s4, s5, s6, s7, s8, s9, s10, s11⟩ := answers_depend_only_on_tree ga gb ha hb hta htb he
  obtain ⟨_, _, t1, t2, t3, t4, t5, t6⟩ := traversals_depend_only_on_tree ga gb ha hb hta htb he
  exact ⟨tb, htb, hetb, s1, s2, s3, s4, s5, s6, s7, s8, s9, s10, s11, t1, t2, t3, t4, t5, t6,
    (partitions_depend_only_on_tree ga gb ha hb hta htb he).2.2,
    dmRecursive_depends_only_on_tree ga gb ha hb hta htb he,
    fun u => dmRose_depends_only_on_tree ga gb ha hb hta htb he u,
    fun i j xa ya xb yb k1 k2 k3 k4 => distances_depend_only_on_tree ga gb ha hb hta htb he i j xa ya xb yb k1 k2 k3 k4⟩

theorem exB_matrix_fresh : dmRecursive exB = dmRecursive (freshArena' (erase exTb)) := by
  have hadm : AdmissibleRun #[] [.add none, .addChild 0 (some 9) (some "z"), .prune 1,
      .addChild 0 (some 3) (some "x"), .addChild 0 (some 4) (some "y")] := by
    simp only [AdmissibleRun, Admissible, and_true]
    exact no_root_empty
  obtain ⟨tb, _, _, rest⟩ := C04_history_vs_fresh _ hadm (ta := exTb) exB_abs
  exact rest.2.2.2.2.2.2.2.2.2.2.2.2.2.2.2.2.2.2.1

/-- non-vacuity: the history with a removal (`exB`) satisfies the hypotheses; e.g. its distance matrix equals
    that of the freshly built cherry -/
example : dmRecursive exB = dmRecursive (freshArena' (erase exTb)) :=
  exB_matrix_fresh

end AR
