import PhyloModel.Arena.PruneB
import PhyloModel.Arena.Compress2
/-! `prune` meets `PruneOK2`, by induction on the fuel -/
namespace AR

theorem prune_main2 : ∀ (f D : Nat) (a : Arena) (c : Nat), Inv a → Tomb a → live a c →
    (∀ i, live a i → (nd a i).depth ≤ D) → D < f + (nd a c).depth →
    ∃ a1, pruneF f a c = some a1 ∧ PruneOK2 a a1 c := by
  intro f
  induction f with
  | zero => intro D a c _ _ hl hD hf; have := hD c hl; omega
  | succ f ihf =>
    intro D a x hia hta hla hD hf
    have wa := hia.toW
    -- while folding over the children of `x`: what is below the children already pruned is gone and nothing else,
    -- `x` has lost those children, every other live slot is as it was
    refine Exists.elim (foldlM_split (fun acc c => pruneF f acc c)
      (fun done cs b => (nd a x).children = done ++ cs ∧ Inv b ∧ Tomb b ∧ live b x ∧ (nd b x).children = cs ∧
        b.size = a.size ∧ (∀ i, live b i → live a i) ∧
        (∀ c0 v k, c0 ∈ done → BelowK a c0 v k → ¬ live b v) ∧
        (∀ i, live a i → (∀ c0 k, c0 ∈ done → ¬ BelowK a c0 i k) → live b i) ∧
        (∀ i, live b i → i ≠ x → nd b i = nd a i) ∧
        (nd b x).parent = (nd a x).parent ∧ (nd b x).depth = (nd a x).depth)
      ?_ (nd a x).children [] a ?_) ?_
    · rintro done c cs b ⟨hch, hib, htb, hlb, hcb, hsz, hsub, hgone, hkept, hsame, hpar, hdep⟩
      have wb := hib.toW
      have hcmem_a : c ∈ (nd a x).children := by rw [hch]; simp
      have hcmem_b : c ∈ (nd b x).children := by rw [hcb]; simp
      obtain ⟨hlc_a, hcp_a, hcd_a, _⟩ := hia.child_ok x c hla hcmem_a
      obtain ⟨hlc, hcp, hcd, _⟩ := hib.child_ok x c hlb hcmem_b
      have hDb : ∀ i, live b i → (nd b i).depth ≤ D := fun i hli => by
        by_cases hix : i = x
        · rw [hix, hdep]; exact hD x hla
        · rw [hsame i hli hix]; exact hD i (hsub i hli)
      obtain ⟨b1, hb1, ok⟩ := ihf D b c hib htb hlc hDb (by omega)
      have hnodup_a := hia.nodup x
      rw [hch] at hnodup_a
      have hcnd : c ∉ done := fun hm => (List.nodup_append.1 hnodup_a).2.2 c hm c (by simp) rfl
      -- below c: identical in a and b
      have hbelow_ab : ∀ u j, BelowK a c u j → live b u ∧ (nd b u).parent = (nd a u).parent := by
        intro u j hb
        have hlu := hb.is_live
        have hux : u ≠ x := by
          intro h; subst h
          have := BelowK.rank wa hb; omega
        have hlb_u : live b u := hkept u hlu (fun c0 k hc0 hb0 =>
          BelowK.disjoint wa hla (by rw [hch]; simp [hc0]) hcmem_a (fun h => hcnd (h ▸ hc0)) hb0 hb)
        exact ⟨hlb_u, by rw [hsame u hlb_u hux]⟩
      have hbelow_ba : ∀ u j, BelowK b c u j → live a u ∧ (nd a u).parent = (nd b u).parent := by
        intro u j hb
        have hlu := hb.is_live
        have hux : u ≠ x := by
          intro h; subst h
          have := BelowK.rank wb hb; omega
        exact ⟨hsub u hlu, by rw [hsame u hlu hux]⟩
      have hx_notbelow : ∀ k, ¬ BelowK b c x k := fun k hb => by
        have := BelowK.rank wb hb; omega
      have hxb1 : live b1 x := ok.kept x hlb hx_notbelow
      have hb1x : nd b1 x = removeChild (nd b x) c := ok.par x hcp
      have hb1same : ∀ i, live b1 i → i ≠ x → nd b1 i = nd b i := fun i hli hne =>
        ok.same i hli (by rw [hcp]; intro h; exact hne (Option.some.inj h).symm)
      refine ⟨b1, hb1, by rw [hch, List.append_assoc]; rfl, ok.inv, ok.tomb, hxb1,
        by rw [hb1x]; simp only [removeChild, hcb]; simp, by rw [ok.size, hsz],
        fun i hli => hsub i (ok.sub i hli), ?_, ?_,
        fun i hli hne => by rw [hb1same i hli hne]; exact hsame i (ok.sub i hli) hne,
        by rw [hb1x]; exact hpar, by rw [hb1x]; exact hdep⟩
      · intro c0 v k hc0 hb
        simp only [List.mem_append, List.mem_singleton] at hc0
        rcases hc0 with hc0 | rfl
        · exact fun hl1 => hgone c0 v k hc0 hb (ok.sub v hl1)
        · exact ok.gone v k (hb.transfer hbelow_ab)
      · intro i hlai hnb
        apply ok.kept i (hkept i hlai (fun c0 k hc0 => hnb c0 k (by simp [hc0])))
        intro k hb
        exact hnb c k (by simp) (hb.transfer hbelow_ba)
    · exact ⟨rfl, hia, hta, hla, rfl, rfl, fun _ h => h, fun c0 v k hc0 => (by cases hc0), fun i h _ => h,
        fun _ _ _ => rfl, rfl, rfl⟩
    · rintro b' ⟨hfold, _, hib', htb', hlb', hch', hsz', hsub', hgone', hkept', hsame', hpar', hdep'⟩
      simp only [List.nil_append] at hgone' hkept'
      have hfin := finish_inv b' x hib' htb' hlb' hch'
      have hnd := fun i => finish_nd b' x i hlb'.1
      have hlive := fun i => live_finish b' x i hlb'.1
      refine ⟨finish b' x, ?_, ?_⟩
      · have h1 : x < a.size ∧ (nd a x).deleted = false := hla
        have h2 : x < b'.size ∧ (nd b' x).deleted = false := hlb'
        simp only [pruneF, h1, and_self, ↓reduceIte, hfold, h2]
      · constructor
        · exact hfin.1
        · exact hfin.2.1
        · rw [hfin.2.2, hsz']
        · intro v k hb hl
          obtain ⟨hlv, hvc⟩ := (hlive v).1 hl
          cases k with
          | zero => cases hb with | refl _ => exact hvc rfl
          | succ k =>
            obtain ⟨c0, hc0, hb0⟩ := BelowK.top wa hb
            exact hgone' c0 v k hc0 hb0 hlv
        · intro i hlai hnb
          have hic : i ≠ x := by intro h; subst h; exact hnb 0 (BelowK.refl hlai)
          exact (hlive i).2 ⟨hkept' i hlai (fun c0 k hc0 hb0 =>
            hnb (k + 1) (BelowK.under_child wa hla hc0 hb0)), hic⟩
        · intro i h; exact hsub' i ((hlive i).1 h).1
        · intro i hl hne
          obtain ⟨hbi, hic⟩ := (hlive i).1 hl
          rw [hnd, if_neg hic, hpar', if_neg hne]
          exact hsame' i hbi hic
        · intro p hp
          obtain ⟨hlp, hmem⟩ := hia.parent_ok x p hla hp
          have hdc := (hia.child_ok p x hlp hmem).2.2.1
          have hpc : p ≠ x := by intro h; subst h; omega
          have hp_notbelow : ∀ c0 k, c0 ∈ (nd a x).children → ¬ BelowK a c0 p k := by
            intro c0 k hc0 hb
            have h1 := BelowK.rank wa hb
            have h2 := (hia.child_ok x c0 hla hc0).2.2.1
            omega
          have hbp : live b' p := hkept' p hlp hp_notbelow
          rw [hnd, if_neg hpc, hpar', if_pos hp, hsame' p hbp hpc]

end AR
