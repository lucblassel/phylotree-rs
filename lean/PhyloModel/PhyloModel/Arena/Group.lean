import PhyloModel.Arena.Compress3
/-! Grouping two children under a fresh node — the common core of `merge_children`
    (with the depth repair) and of one round of `resolve` -/
namespace AR

def wNode (a : Arena) (q c1 c2 : Nat) (pe e1 e2 : Option Int) : Node :=
  setCedge (setCedge { parent := some q, children := [c1, c2], pedge := pe, depth := (nd a q).depth + 1 } c1 e1) c2 e2

def qNode (a : Arena) (q c1 c2 : Nat) (pe : Option Int) : Node :=
  let qn1 := removeChild (removeChild (nd a q) c1) c2
  setCedge { qn1 with children := qn1.children ++ [a.size] } a.size pe

/-- slot updates: fresh node `w = a.size` under `q` with children `[c1, c2]` taken away from `q` -/
def group (a : Arena) (q c1 c2 : Nat) (pe e1 e2 : Option Int) : Arena :=
  let a1 := a.setIfInBounds q (qNode a q c1 c2 pe)
  let a2 := a1.setIfInBounds c1 { nd a1 c1 with parent := some a.size, pedge := e1 }
  let a3 := a2.setIfInBounds c2 { nd a2 c2 with parent := some a.size, pedge := e2 }
  a3.push (wNode a q c1 c2 pe e1 e2)

theorem nd_group (a : Arena) (q c1 c2 : Nat) (pe e1 e2 : Option Int) (hq : q < a.size) (h1 : c1 < a.size)
    (h2 : c2 < a.size) (hq1 : q ≠ c1) (hq2 : q ≠ c2) (h12 : c1 ≠ c2) (i : Nat) :
    nd (group a q c1 c2 pe e1 e2) i =
      if i = a.size then wNode a q c1 c2 pe e1 e2
      else if i = q then qNode a q c1 c2 pe
      else if i = c1 then { nd a c1 with parent := some a.size, pedge := e1 }
      else if i = c2 then { nd a c2 with parent := some a.size, pedge := e2 }
      else nd a i := by
  -- three writes and a push, read back through `nd_set`, `nd_push`; `q`, `c1`, `c2` are distinct and below `a.size`
  simp only [group, nd_push, nd_set, Array.size_setIfInBounds]
  grind

theorem group_ne {a : Arena} {q c1 c2 : Nat} (hinv : Inv a) (hlq : live a q) (hm1 : c1 ∈ (nd a q).children)
    (hm2 : c2 ∈ (nd a q).children) : live a c1 ∧ live a c2 ∧ q ≠ c1 ∧ q ≠ c2 := by
  obtain ⟨hl1, _, hd1, _⟩ := hinv.child_ok q c1 hlq hm1
  obtain ⟨hl2, _, hd2, _⟩ := hinv.child_ok q c2 hlq hm2
  exact ⟨hl1, hl2, by intro h; subst h; omega, by intro h; subst h; omega⟩

theorem group_eq {a : Arena} {q c1 c2 : Nat} (pe e1 e2 : Option Int) (hq : q < a.size) (h1 : c1 < a.size)
    (h2 : c2 < a.size) (hq1 : q ≠ c1) (hq2 : q ≠ c2) (h12 : c1 ≠ c2) :
    group a q c1 c2 pe e1 e2 =
      link (link (link ((unlink (unlink a q c1) q c2).push { depth := (nd a q).depth + 1 }) q a.size pe)
        a.size c1 e1) a.size c2 e2 := by
  have hqw : q ≠ a.size := Nat.ne_of_lt hq
  have h1w : c1 ≠ a.size := Nat.ne_of_lt h1
  have h2w : c2 ≠ a.size := Nat.ne_of_lt h2
  apply arena_ext (by simp [group, link, unlink])
  intro i
  -- slot by slot: the right side is unfolded to its writes, the hypotheses decide every comparison of indices, and
  -- one case per slot of `nd_group` is left
  rw [nd_group a q c1 c2 pe e1 e2 hq h1 h2 hq1 hq2 h12]
  simp only [link, unlink, nd_set, nd_push, Array.size_setIfInBounds, Array.size_push, hq, h1, h2, hqw, h1w, h2w, hq1, hq2, h12,
    Ne.symm h1w, Ne.symm hq1, Ne.symm hq2, Ne.symm h12, Nat.lt_succ_self, Nat.lt_succ_of_lt, and_true, ↓reduceIte]
  by_cases g0 : i = a.size
  · simp only [g0, Ne.symm h2w, ↓reduceIte, wNode]
    cases e1 <;> rfl
  · by_cases g1 : i = q
    · simp only [g1, hq1, hq2, hqw, ↓reduceIte, qNode]
    · by_cases g2 : i = c1
      · simp only [g2, h1w, h12, Ne.symm hq1, ↓reduceIte]
      · by_cases g3 : i = c2
        · simp only [g3, h2w, Ne.symm hq2, Ne.symm h12, ↓reduceIte]
        · simp only [g0, g1, g2, g3, ↓reduceIte]

/-- after the slot updates only the two moved children carry stale depths; the ghost rank doubles the old depths
    to make room for the fresh node between `q` and its former children -/
theorem group_mid {a : Arena} {q c1 c2 : Nat} (pe e1 e2 : Option Int) (hinv : Inv a) (hlq : live a q)
    (hm1 : c1 ∈ (nd a q).children) (hm2 : c2 ∈ (nd a q).children) (h12 : c1 ≠ c2) :
    Mid (group a q c1 c2 pe e1 e2) (fun i => if i = a.size then 2 * (nd a q).depth + 1 else 2 * (nd a i).depth)
      (fun x => x = c1 ∨ x = c2) ∧ (∀ i, live (group a q c1 c2 pe e1 e2) i ↔ live a i ∨ i = a.size) ∧
      (Tomb a → Tomb (group a q c1 c2 pe e1 e2)) := by
  obtain ⟨hl1, hl2, hq1, hq2⟩ := group_ne hinv hlq hm1 hm2
  have hd1 := (hinv.child_ok q c1 hlq hm1).2.2.1
  have hd2 := (hinv.child_ok q c2 hlq hm2).2.2.1
  have hqw : q ≠ a.size := Nat.ne_of_lt hlq.1
  have h1w : c1 ≠ a.size := Nat.ne_of_lt hl1.1
  have h2w : c2 ≠ a.size := Nat.ne_of_lt hl2.1
  rw [group_eq pe e1 e2 hlq.1 hl1.1 hl2.1 hq1 hq2 h12]
  -- the slots the side conditions of the six steps read
  have hs : nd (unlink a q c1) q = removeChild (nd a q) c1 ∧
      nd ((unlink (unlink a q c1) q c2).push { depth := (nd a q).depth + 1 }) q
        = removeChild (removeChild (nd a q) c1) c2 ∧
      nd (link ((unlink (unlink a q c1) q c2).push { depth := (nd a q).depth + 1 }) q a.size pe) c1
        = { nd a c1 with parent := none } ∧
      nd (link (link ((unlink (unlink a q c1) q c2).push { depth := (nd a q).depth + 1 }) q a.size pe) a.size c1 e1) c2
        = { nd a c2 with parent := none } := by
    simp only [link, unlink, nd_set, nd_push, Array.size_setIfInBounds, Array.size_push, hlq.1, hl1.1, hl2.1, hqw, h1w, h2w,
      hq1, hq2, h12, Ne.symm hq1, Ne.symm hq2, Ne.symm h12, Nat.lt_succ_self, Nat.lt_succ_of_lt, and_true, ↓reduceIte,
      and_self]
  obtain ⟨s1, s2, s3, s4⟩ := hs
  have hsz : (unlink (unlink a q c1) q c2).size = a.size := by rw [size_unlink, size_unlink]
  have hw : nd ((unlink (unlink a q c1) q c2).push { depth := (nd a q).depth + 1 }) a.size
      = { depth := (nd a q).depth + 1 } := by rw [nd_push, hsz, if_pos rfl]
  have hlive : ∀ i, live (link (link (link ((unlink (unlink a q c1) q c2).push { depth := (nd a q).depth + 1 })
      q a.size pe) a.size c1 e1) a.size c2 e2) i ↔ live a i ∨ i = a.size := fun i => by
    simp only [live_link, live_push, live_unlink, hsz, and_true]
  have m := (((Mid.ofInv hinv).rerank
      (r' := fun i => if i = a.size then 2 * (nd a q).depth + 1 else 2 * (nd a i).depth)
      (fun i c hi hc h => by
        rw [if_neg (Nat.ne_of_lt hi.1), if_neg (Nat.ne_of_lt hc.1)]
        exact Nat.mul_lt_mul_of_pos_left h (by decide))).unlink hlq hm1).unlink ((live_unlink ..).2 hlq)
      (by rw [s1]; exact (mem_removeChild (hinv.nodup q) c1 c2).2 ⟨hm2, Ne.symm h12⟩)
  have m3 := (m.mono (Q := fun x => (x = c1 ∨ x = c2) ∨ x = a.size)
      (fun x h => Or.inl (h.imp_left fun k => k.resolve_left id))).push
      (n := { depth := (nd a q).depth + 1 }) rfl rfl rfl (Or.inr (Or.inr hsz))
  have hlq3 : live ((unlink (unlink a q c1) q c2).push { depth := (nd a q).depth + 1 }) q := by
    simp only [live_push, live_unlink]; exact Or.inl hlq
  have hlw3 : live ((unlink (unlink a q c1) q c2).push { depth := (nd a q).depth + 1 }) a.size := by
    exact (live_push _ _ _).2 (Or.inr ⟨hsz.symm, rfl⟩)
  have m4 := m3.link pe (Q := fun x => x = c1 ∨ x = c2) hlq3 hlw3 (by rw [hw]) (by simp only [hqw, ↓reduceIte]; omega)
    (fun x hx h => h.resolve_right hx) (fun _ => by rw [hw, s2]; exact ⟨rfl, rfl⟩)
  have m5 := m4.link e1 (Q := fun x => x = c1 ∨ x = c2) ((live_link ..).2 hlw3)
    (by simp only [live_link, live_push, live_unlink]; exact Or.inl hl1) (by rw [s3])
    (by simp only [h1w, ↓reduceIte]; omega) (fun x _ h => h) (fun h => absurd (Or.inl rfl) h)
  exact ⟨m5.link e2 ((live_link ..).2 ((live_link ..).2 hlw3))
    (by simp only [live_link, live_push, live_unlink]; exact Or.inl hl2) (by rw [s4])
    (by simp only [h2w, ↓reduceIte]; omega) (fun x _ h => h) (fun h => absurd (Or.inr rfl) h), hlive, fun t =>
    ((((t.unlink q c1).unlink q c2).push (n := { depth := (nd a q).depth + 1 }) fun h => by cases h).link pe hlq3.2
      hlw3.2 |>.link e1 ((live_link ..).2 hlw3).2 (by rw [s3]; exact hl1.2)).link e2
      ((live_link ..).2 ((live_link ..).2 hlw3)).2 (by rw [s4]; exact hl2.2)⟩

theorem group_S (a : Arena) (q c1 c2 : Nat) (pe e1 e2 : Option Int) (hinv : Inv a) (hlq : live a q)
    (hm1 : c1 ∈ (nd a q).children) (hm2 : c2 ∈ (nd a q).children) (h12 : c1 ≠ c2) :
    let g := group a q c1 c2 pe e1 e2
    let r : Nat → Nat := fun i => if i = a.size then 2 * (nd a q).depth + 1 else 2 * (nd a i).depth
    S g r ∧ g.size = a.size + 1 ∧ (∀ i, live g i ↔ (i = a.size ∨ live a i)) ∧
    (∀ i, (nd g i).depth = if i = a.size then (nd a q).depth + 1 else (nd a i).depth) := by
  intro g r
  obtain ⟨m, hlive, _⟩ := group_mid pe e1 e2 hinv hlq hm1 hm2 h12
  obtain ⟨hl1, hl2, hq1, hq2⟩ := group_ne hinv hlq hm1 hm2
  refine ⟨m.links, by simp [g, group], fun i => (hlive i).trans or_comm, fun i => ?_⟩
  show (nd (group a q c1 c2 pe e1 e2) i).depth = _
  rw [nd_group a q c1 c2 pe e1 e2 hlq.1 hl1.1 hl2.1 hq1 hq2 h12]
  by_cases g0 : i = a.size
  · rw [if_pos g0, if_pos g0, wNode, setCedge_depth, setCedge_depth]
  · rw [if_neg g0, if_neg g0]
    by_cases g1 : i = q
    · rw [if_pos g1, g1, qNode]; exact setCedge_depth ..
    · rw [if_neg g1]
      by_cases g2 : i = c1
      · rw [if_pos g2, g2]
      · rw [if_neg g2]
        by_cases g3 : i = c2
        · rw [if_pos g3, g3]
        · rw [if_neg g3]

/-- grouping two children under a fresh node, followed by the depth repair on both moved subtrees,
    preserves the arena invariant (core of `merge_children` and of one round of `resolve`) -/
theorem group_inv (a : Arena) (q c1 c2 : Nat) (pe e1 e2 : Option Int) (hinv : Inv a) (hlq : live a q)
    (hm1 : c1 ∈ (nd a q).children) (hm2 : c2 ∈ (nd a q).children) (h12 : c1 ≠ c2) (D : Nat)
    (hD : ∀ i, live a i → (nd a i).depth ≤ D) :
    ∃ b1 b2, resetF (2 * D + 3) (group a q c1 c2 pe e1 e2) c1 ((nd a q).depth + 2) = some b1 ∧
      resetF (2 * D + 3) b1 c2 ((nd a q).depth + 2) = some b2 ∧ Inv b2 := by
  obtain ⟨m, hlive, _⟩ := group_mid pe e1 e2 hinv hlq hm1 hm2 h12
  obtain ⟨hl1, hl2, hq1, hq2⟩ := group_ne hinv hlq hm1 hm2
  have hwch : (nd (group a q c1 c2 pe e1 e2) a.size).children = [c1, c2] := by
    rw [nd_group a q c1 c2 pe e1 e2 hlq.1 hl1.1 hl2.1 hq1 hq2 h12, if_pos rfl, wNode, setCedge_children,
      setCedge_children]
  obtain ⟨b1, b2, r1, r2, hi, _⟩ := repair2 m ((hlive _).2 (Or.inr rfl)) hwch (2 * D + 1) (2 * D + 3)
    (fun i hl => by
      have hq := hD q hlq
      rcases (hlive i).1 hl with hl' | rfl
      · have := hD i hl'; split <;> omega
      · simp only [↓reduceIte]; omega)
    (by omega)
  rw [(group_S a q c1 c2 pe e1 e2 hinv hlq hm1 hm2 h12).2.2.2 a.size, if_pos rfl] at r1 r2
  exact ⟨b1, b2, r1, r2, hi⟩

end AR
