import PhyloModel.Arena.AnswersDependOnTree
import PhyloModel.Arena.BlankNames
/-! # Every tree has a fresh arena

`freshArena T` builds the tree `T` the way the Newick parser does: the root with `add`, then every other node
with `add_child` in pre-order — no removed slot, ids in pre-order.  It is well formed, has one root, and its
abstract tree erases to `T`.  Hence the hypotheses of `answers_depend_only_on_tree` are satisfiable for every
tree (whose root carries no branch length: the model's operations cannot give the root one; `freshArena'` sets
it by a direct slot update and covers every tree), and "the answers on the arena reached by an edit history
equal the answers on a freshly built arena of the current tree" is an instance of that theorem. -/
namespace AR

def fresh1 (a : Arena) (p : Nat) (l : Option Int) (n : Option String) : Arena := (addChildNamed a p l n).1

mutual
/-- add the tree `T` below the live slot `p`, pre-order -/
def freshBelow (a : Arena) (p : Nat) : RoseNL → Arena
  | .node n l ks => freshKids (fresh1 a p l n) a.size ks
def freshKids (a : Arena) (p : Nat) : List RoseNL → Arena
  | [] => a
  | k :: ks => freshKids (freshBelow a p k) p ks
end

def freshArena : RoseNL → Arena
  | .node n _ ks => freshKids (add #[] n).1 0 ks

mutual
def sizeNL : RoseNL → Nat | .node _ _ ks => 1 + sizeNLL ks
def sizeNLL : List RoseNL → Nat | [] => 0 | k :: ks => sizeNL k + sizeNLL ks
end

theorem fresh1_spec {a : Arena} {p : Nat} (hp : live a p) (l : Option Int) (n : Option String) :
    (fresh1 a p l n).size = a.size + 1 ∧
    (∀ j, j ≠ a.size → j ≠ p → nd (fresh1 a p l n) j = nd a j) ∧
    nd (fresh1 a p l n) a.size = { parent := some p, pedge := l, depth := (nd a p).depth + 1, name := n } ∧
    nd (fresh1 a p l n) p = setCedge { nd a p with children := (nd a p).children ++ [a.size] } a.size l := by
  obtain ⟨a', h, hsz, hb⟩ := addChildNamed_ok hp l n
  have hne : p ≠ a.size := Nat.ne_of_lt hp.1
  rw [fresh1, h]
  exact ⟨hsz, fun j h1 h2 => by rw [hb, if_neg h1, if_neg h2], by rw [hb, if_pos rfl],
    by rw [hb, if_neg hne, if_pos rfl]⟩

theorem mem_pre_kid {t k : RTI} (hm : k ∈ t.kids) {x : Nat} (hx : x ∈ pre k) : x ∈ pre t := by
  rw [pre_eq, preL_eq]; exact List.mem_cons_of_mem _ (List.mem_flatMap.2 ⟨k, hm, hx⟩)

/-- `Rep` reads only liveness and child lists -/
theorem rep_stable {a a' : Arena} (hsz : a.size ≤ a'.size) : ∀ (t : RTI) (i : Nat),
    (∀ j ∈ pre t, (nd a' j).deleted = (nd a j).deleted ∧ (nd a' j).children = (nd a j).children) →
    Rep a i t → Rep a' i t := by
  intro t
  induction t using RTI.ind with
  | _ j ks ih =>
    intro i hfr h
    obtain ⟨rfl, hl, hc, hk⟩ := rep_iff.1 h
    have hi := hfr i (by rw [pre]; exact List.mem_cons_self)
    exact rep_iff.2 ⟨rfl, ⟨by have := hl.1; omega, hi.1 ▸ hl.2⟩, hi.2 ▸ hc, fun k hm =>
      ih k hm k.id (fun x hx => hfr x (mem_pre_kid (t := .node i ks) hm hx)) (hk k hm)⟩

theorem decN_stable {a a' : Arena} : ∀ (t : RTI), (∀ j ∈ pre t, nd a' j = nd a j) →
    erase (decorate a' t) = erase (decorate a t) := by
  intro t
  induction t using RTI.ind with
  | _ j ks ih =>
    intro hfr
    rw [decorate, decorate, erase, erase, hfr j (by rw [pre]; exact List.mem_cons_self), decorateL_eq_map,
      decorateL_eq_map, eraseL_eq_map, eraseL_eq_map, List.map_map, List.map_map]
    congr 1
    exact List.map_congr_left fun k hm => ih k hm fun x hx => hfr x (mem_pre_kid (t := .node j ks) hm hx)

theorem decNL_stable {a a' : Arena} (ts : List RTI) (hfr : ∀ j ∈ preL ts, nd a' j = nd a j) :
    eraseL (decorateL a' ts) = eraseL (decorateL a ts) := by
  rw [decorateL_eq_map, decorateL_eq_map, eraseL_eq_map, eraseL_eq_map, List.map_map, List.map_map]
  exact List.map_congr_left fun k hm => decN_stable k fun x hx =>
    hfr x (by rw [preL_eq]; exact List.mem_flatMap.2 ⟨k, hm, hx⟩)

theorem rep_pre_live {a : Arena} {i : Nat} {t : RTI} (h : Rep a i t) : ∀ j ∈ pre t, live a j := by
  intro j hj
  rw [← subs_ids, List.mem_map] at hj
  obtain ⟨s, hs, rfl⟩ := hj
  exact (subs_rep t i h s hs).is_live

/-- nothing below `a.size` changes except that `p` gains the children `newKids` -/
structure FFrame (a r : Arena) (p : Nat) (newKids : List Nat) (grow : Nat) : Prop where
  size : r.size = a.size + grow
  other : ∀ j, j < a.size → j ≠ p → nd r j = nd a j
  kids : (nd r p).children = (nd a p).children ++ newKids
  keep : (nd r p).deleted = (nd a p).deleted ∧ (nd r p).name = (nd a p).name ∧ (nd r p).pedge = (nd a p).pedge
  par : (nd r p).parent = (nd a p).parent

mutual
theorem freshBelow_spec : ∀ (T : RoseNL) (a : Arena) (p : Nat), live a p →
    FFrame a (freshBelow a p T) p [a.size] (sizeNL T) ∧
    ∃ t0, Rep (freshBelow a p T) a.size t0 ∧ erase (decorate (freshBelow a p T) t0) = T ∧
      ∀ j ∈ pre t0, a.size ≤ j
  | .node n l ks, a, p, hp => by
    obtain ⟨s1, o1, new1, par1⟩ := fresh1_spec hp l n
    have hne : p ≠ a.size := Nat.ne_of_lt hp.1
    have hlnew : live (fresh1 a p l n) a.size := ⟨by rw [s1]; exact Nat.lt_succ_self _, by rw [new1]⟩
    obtain ⟨nk, F, ts0, hrep, hdec, hge⟩ := freshKids_spec ks (fresh1 a p l n) a.size hlnew
    simp only [freshBelow]
    rw [s1] at hge
    have hFs := F.size
    rw [s1] at hFs
    have hFo : ∀ j, j < a.size + 1 → j ≠ a.size → nd (freshKids (fresh1 a p l n) a.size ks) j
        = nd (fresh1 a p l n) j := fun j hj hn => F.other j (by rw [s1]; exact hj) hn
    have hFp := hFo p (Nat.lt_succ_of_lt hp.1) hne
    constructor
    · refine ⟨by rw [hFs, sizeNL]; omega, ?_, ?_, ?_, ?_⟩
      · intro j hj hjp
        rw [hFo j (Nat.lt_succ_of_lt hj) (Nat.ne_of_lt hj), o1 j (Nat.ne_of_lt hj) hjp]
      · rw [hFp, par1]; simp
      · rw [hFp, par1]; simp
      · rw [hFp, par1]; simp
    · refine ⟨.node a.size ts0, ?_, ?_, ?_⟩
      · simp only [Rep, true_and]
        refine ⟨⟨by rw [hFs]; exact Nat.lt_add_right _ (Nat.lt_succ_self _), by rw [F.keep.1, new1]⟩, ?_⟩
        rw [F.kids, new1]
        exact hrep
      · simp only [decorate, erase, F.keep.2.1, F.keep.2.2, new1, hdec]
      · intro j hj
        simp only [pre, List.mem_cons] at hj
        rcases hj with rfl | hj
        · exact Nat.le_refl _
        · exact Nat.le_of_succ_le (hge j hj)
theorem freshKids_spec : ∀ (ks : List RoseNL) (a : Arena) (p : Nat), live a p →
    ∃ newKids, FFrame a (freshKids a p ks) p newKids (sizeNLL ks) ∧
    ∃ ts0, RepL (freshKids a p ks) newKids ts0 ∧ eraseL (decorateL (freshKids a p ks) ts0) = ks ∧
      ∀ j ∈ preL ts0, a.size ≤ j
  | [], a, p, _ => by
    refine ⟨[], ⟨by simp [freshKids, sizeNLL], fun _ _ _ => rfl, by simp [freshKids], ⟨rfl, rfl, rfl⟩, rfl⟩, [], ?_⟩
    simp [RepL, decorateL, eraseL, preL]
  | k :: ks, a, p, hp => by
    obtain ⟨F1, t0, hrep1, hdec1, hge1⟩ := freshBelow_spec k a p hp
    have hp1 : live (freshBelow a p k) p :=
      ⟨by rw [F1.size]; exact Nat.lt_add_right _ hp.1, by rw [F1.keep.1]; exact hp.2⟩
    obtain ⟨nk, F2, ts0, hrep2, hdec2, hge2⟩ := freshKids_spec ks (freshBelow a p k) p hp1
    simp only [freshKids]
    have hs2 := F2.size
    rw [F1.size] at hs2 hge2
    -- the first kid's tree is untouched by the later additions
    have hpnot : ∀ j ∈ pre t0, j ≠ p := by
      intro j hj; exact Nat.ne_of_gt (Nat.lt_of_lt_of_le hp.1 (hge1 j hj))
    have hlt : ∀ j ∈ pre t0, j < (freshBelow a p k).size := by
      intro j hj
      exact (rep_pre_live hrep1 j hj).1
    have hst : ∀ j ∈ pre t0, nd (freshKids (freshBelow a p k) p ks) j = nd (freshBelow a p k) j :=
      fun j hj => F2.other j (hlt j hj) (hpnot j hj)
    refine ⟨a.size :: nk, ⟨by rw [hs2, sizeNLL]; omega, ?_, ?_, ?_, ?_⟩, t0 :: ts0, ?_, ?_, ?_⟩
    · intro j hj hjp
      rw [F2.other j (by rw [F1.size]; exact Nat.lt_add_right _ hj) hjp, F1.other j hj hjp]
    · rw [F2.kids, F1.kids]; simp
    · exact ⟨by rw [F2.keep.1, F1.keep.1], by rw [F2.keep.2.1, F1.keep.2.1], by rw [F2.keep.2.2, F1.keep.2.2]⟩
    · rw [F2.par, F1.par]
    · simp only [RepL]
      exact ⟨rep_stable (by rw [F2.size]; omega) t0 a.size (fun j hj => by rw [hst j hj]; exact ⟨rfl, rfl⟩) hrep1, hrep2⟩
    · simp only [decorateL, eraseL, decN_stable t0 hst, hdec1, hdec2]
    · intro j hj
      simp only [preL, List.mem_append] at hj
      rcases hj with hj | hj
      · exact hge1 j hj
      · exact Nat.le_trans (Nat.le_add_right _ _) (hge2 j hj)
end

mutual
theorem freshBelow_good : ∀ (T : RoseNL) (a : Arena) (p : Nat), Good a →
    Good (freshBelow a p T) ∧ RootsSub a (freshBelow a p T) ∧ (BlankNames a → BlankNames (freshBelow a p T))
  | .node n l ks, a, p, g => by
    obtain ⟨g2, r2, b2⟩ := freshKids_good ks (fresh1 a p l n) a.size (addChildNamed_good p l n g)
    simp only [freshBelow]
    exact ⟨g2, (addChildNamed_roots p l n).trans r2, fun hb => b2 (addChildNamed_blank p l n hb)⟩
theorem freshKids_good : ∀ (ks : List RoseNL) (a : Arena) (p : Nat), Good a →
    Good (freshKids a p ks) ∧ RootsSub a (freshKids a p ks) ∧ (BlankNames a → BlankNames (freshKids a p ks))
  | [], a, _, g => ⟨g, RootsSub.refl a, fun hb => hb⟩
  | k :: ks, a, p, g => by
    obtain ⟨g1, r1, b1⟩ := freshBelow_good k a p g
    obtain ⟨g2, r2, b2⟩ := freshKids_good ks (freshBelow a p k) p g1
    simp only [freshKids]
    exact ⟨g2, r1.trans r2, fun hb => b2 (b1 hb)⟩
end

theorem freshArena_rep (n : Option String) (ks : List RoseNL) :
    Good (freshArena (.node n none ks)) ∧ AtMostOneRoot (freshArena (.node n none ks)) ∧
    BlankNames (freshArena (.node n none ks)) ∧ isRoot (freshArena (.node n none ks)) 0 ∧
    (nd (freshArena (.node n none ks)) 0).name = n ∧ (nd (freshArena (.node n none ks)) 0).pedge = none ∧
    ∃ ts0, Rep (freshArena (.node n none ks)) 0 (.node 0 ts0) ∧
      eraseL (decorateL (freshArena (.node n none ks)) ts0) = ks ∧ ∀ j ∈ preL ts0, 1 ≤ j := by
  have hnd0 : nd (add #[] n).1 0 = { name := n } := by simp [add, nd]
  have hl0 : live (add #[] n).1 0 := ⟨by simp [add], by rw [hnd0]⟩
  obtain ⟨g, rs, bk⟩ := freshKids_good ks (add #[] n).1 0 (add_good n empty_good)
  obtain ⟨nk, F, ts0, hrep, hdec, hge⟩ := freshKids_spec ks (add #[] n).1 0 hl0
  have hlive : live (freshArena (.node n none ks)) 0 :=
    ⟨by simp only [freshArena]; rw [F.size]; simp [add]; omega, by simp only [freshArena]; rw [F.keep.1, hnd0]⟩
  refine ⟨g, rs.atMostOne (add_oneRoot n no_root_empty), bk (add_blank n blank_empty),
    ⟨hlive, by simp only [freshArena]; rw [F.par, hnd0]⟩, by simp only [freshArena]; rw [F.keep.2.1, hnd0],
    by simp only [freshArena]; rw [F.keep.2.2, hnd0], ts0, ?_, hdec, by simpa [add] using hge⟩
  simp only [Rep, true_and]
  refine ⟨hlive, ?_⟩
  simp only [freshArena]
  rw [F.kids, hnd0]
  exact hrep

/-- a well-formed one-rooted arena whose tree `T` has no root branch length answers every id-free query exactly
    like `freshArena T`; `same_answers_as_fresh_arena'` below has no restriction on the root -/
theorem same_answers_as_fresh_arena {a : Arena} (ga : Good a) (ha : AtMostOneRoot a) {ta : Rose}
    (hta : absRoot a = .ok ta) (n : Option String) (ks : List RoseNL) (he : erase ta = .node n none ks) :
    let b := freshArena (.node n none ks)
    nLeaves a = nLeaves b ∧ isRooted a = isRooted b ∧ isBinary a = isBinary b ∧
    totalLength a = totalLength b ∧ cherries a = cherries b ∧ colless a = colless b ∧ sackin a = sackin b ∧
    (∀ u, treeHeight a u = treeHeight b u) ∧ (∀ u, diameter a u = diameter b u) ∧
    ((leaves a).map (fun i => (nd a i).name)).Perm ((leaves b).map (fun i => (nd b i).name)) ∧
    (∀ n, (searchName a n).length = (searchName b n).length) := by
  obtain ⟨gb, hb, _, hroot, hname, hpe, ts0, hrep, hdec, _⟩ := freshArena_rep n ks
  exact answers_depend_only_on_tree ga gb ha hb hta (absRoot_of_rep gb.1 hb hroot hrep)
    (he.trans (by simp only [decorate, erase, hname, hpe, hdec]))

/-- the erased tree of an arena whose root has no branch length (a root created by `add` has none, and no `Op`
    gives it one) has the shape `same_answers_as_fresh_arena` needs -/
theorem erase_root_shape {a : Arena} (g : Good a) (h1 : AtMostOneRoot a) {t : Rose} (h : absRoot a = .ok t)
    (hp : ∀ r, getRoot a = some r → (nd a r).pedge = none) :
    ∃ n ks, erase t = .node n none ks := by
  obtain ⟨r, t0, c⟩ := absRoot_ctx g.1 h1 h
  have := hp r c.root_eq
  rw [c.dec]
  cases t0 with
  | node j ks =>
    have hj : j = r := by have := c.rep.id_eq; simpa [RTI.id] using this
    subst hj
    refine ⟨(nd a j).name, eraseL (decorateL a ks), ?_⟩
    simp only [decorate, erase, this]

/-! ### a root branch length

The Newick text may give the root a branch length (`(...)R:0.5;`), which the parser stores in the root's
`parent_edge`; no operation of the model's `Op` does that, so it is set by a direct slot update here.  The
invariant does not constrain the root's `pedge`. -/

def setRootEdge (a : Arena) (l : Option Int) : Arena := a.setIfInBounds 0 { nd a 0 with pedge := l }

theorem nd_setRootEdge (a : Arena) (l : Option Int) (hs : 0 < a.size) (j : Nat) :
    nd (setRootEdge a l) j = if j = 0 then { nd a 0 with pedge := l } else nd a j := by
  simp only [setRootEdge, nd_set, hs, and_true]

theorem setRootEdge_good {a : Arena} (l : Option Int) (g : Good a) (hl : live a 0) (hp : (nd a 0).parent = none) :
    Good (setRootEdge a l) ∧ RootsSub a (setRootEdge a l) ∧ (BlankNames a → BlankNames (setRootEdge a l)) := by
  have hnd := nd_setRootEdge a l hl.1
  have hsz : (setRootEdge a l).size = a.size := by simp [setRootEdge]
  -- every field of every slot is kept, but the branch length of slot 0
  have hrel : ∀ i, (nd (setRootEdge a l) i).parent = (nd a i).parent ∧
      (nd (setRootEdge a l) i).deleted = (nd a i).deleted ∧ (nd (setRootEdge a l) i).depth = (nd a i).depth ∧
      (nd (setRootEdge a l) i).children.Perm (nd a i).children := by
    intro i
    rw [hnd i]
    split
    next h => subst h; exact ⟨rfl, rfl, rfl, List.Perm.refl _⟩
    next => exact ⟨rfl, rfl, rfl, List.Perm.refl _⟩
  have hce : ∀ i, (nd (setRootEdge a l) i).cedges = (nd a i).cedges := by
    intro i
    rw [hnd i]
    split
    next h => subst h; rfl
    next => rfl
  refine ⟨g.relink hsz hrel ?_ (fun i c hs => g.1.cedge_dom i c (by rw [← hce i]; exact hs))
      (fun i _ h0 => by rw [hce i]; exact h0), ?_,
    fun hb => Kept.modify (Q := blankQ) hb 0 _ (by dsimp only) (by dsimp only) (by dsimp only)⟩
  · -- slot 0 has no parent, so it is nobody's child: no edge reads its branch length
    intro i c hli hc
    obtain ⟨_, k2, _, k4⟩ := g.1.child_ok i c hli hc
    have hc0 : c ≠ 0 := fun e => by rw [e, hp] at k2; cases k2
    rw [hce i, hnd c, if_neg hc0]; exact k4
  · intro i hi
    exact ⟨⟨by rw [← hsz]; exact hi.1.1, by rw [← (hrel i).2.1]; exact hi.1.2⟩, by rw [← (hrel i).1]; exact hi.2⟩

/-- the arena the parser builds for an arbitrary tree -/
def freshArena' : RoseNL → Arena
  | .node n l ks => setRootEdge (freshArena (.node n none ks)) l

/-- **every tree has a fresh arena** (no restriction on the root) -/
theorem freshArena'_spec (T : RoseNL) :
    Good (freshArena' T) ∧ AtMostOneRoot (freshArena' T) ∧ BlankNames (freshArena' T) ∧
    ∃ t, absRoot (freshArena' T) = .ok t ∧ erase t = T := by
  obtain ⟨n, l, ks⟩ := T
  obtain ⟨g1, r1, b1, hroot, hname, _, ts0, hrep, hdec, hge⟩ := freshArena_rep n ks
  obtain ⟨g, rs, bk⟩ := setRootEdge_good l g1 hroot.1 hroot.2
  have hsnd := nd_setRootEdge (freshArena (.node n none ks)) l hroot.1.1
  -- the update touches one field of slot 0: the represented id tree stays, the kids' decorations stay
  have hrep' : Rep (setRootEdge (freshArena (.node n none ks)) l) 0 (.node 0 ts0) :=
    rep_stable (by simp [setRootEdge]) _ 0 (fun j _ => by rw [hsnd j]; split <;> simp_all) hrep
  have hst : ∀ j ∈ preL ts0,
      nd (setRootEdge (freshArena (.node n none ks)) l) j = nd (freshArena (.node n none ks)) j := by
    intro j hj
    have : j ≠ 0 := by have := hge j hj; omega
    rw [hsnd j, if_neg this]
  have hroot' : isRoot (setRootEdge (freshArena (.node n none ks)) l) 0 :=
    ⟨hrep'.is_live, by rw [hsnd 0]; simpa using hroot.2⟩
  refine ⟨g, rs.atMostOne r1, bk b1, _, absRoot_of_rep g.1 (rs.atMostOne r1) hroot' hrep', ?_⟩
  rw [decorate, erase, decNL_stable ts0 hst, hdec, hsnd 0]
  simp [hname]

/-- **C04, closing statement**: a well-formed one-rooted arena — in particular the one reached by any
    admissible edit history — answers every id-free query exactly like the arena freshly built (root by `add`,
    every other node by `add_child` in pre-order, as the Newick parser does) from its current tree -/
theorem same_answers_as_fresh_arena' {a : Arena} (ga : Good a) (ha : AtMostOneRoot a) {ta : Rose}
    (hta : absRoot a = .ok ta) :
    let b := freshArena' (erase ta)
    nLeaves a = nLeaves b ∧ isRooted a = isRooted b ∧ isBinary a = isBinary b ∧
    totalLength a = totalLength b ∧ cherries a = cherries b ∧ colless a = colless b ∧ sackin a = sackin b ∧
    (∀ u, treeHeight a u = treeHeight b u) ∧ (∀ u, diameter a u = diameter b u) ∧
    ((leaves a).map (fun i => (nd a i).name)).Perm ((leaves b).map (fun i => (nd b i).name)) ∧
    (∀ n, (searchName a n).length = (searchName b n).length) := by
  obtain ⟨gb, hb, _, tb, htb, hetb⟩ := freshArena'_spec (erase ta)
  exact answers_depend_only_on_tree ga gb ha hb hta htb hetb.symm

end AR
