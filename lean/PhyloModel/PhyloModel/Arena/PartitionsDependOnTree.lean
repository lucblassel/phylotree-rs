import PhyloModel.Arena.AnswersDependOnTree
import PhyloModel.Split.Model
/-! # C04 corollary for the bipartition machinery

`SPM.partitionsArena` (leaf index + `get_partitions`) reads, besides names, branch lengths and topology, the
CACHED depths of the abstract tree.  Under the invariant these are the levels of the nodes in the tree, hence
determined by the erased tree; ids are never read.  So two arenas with the same erased tree have the same
leaf index and the same partition map. -/
namespace AR

mutual
/-- the cached depths of a `Rose` are its levels, counted from `d` at the root -/
def LevelsFrom : Nat → Rose → Prop
  | d, .node _ _ _ d' ks => d' = d ∧ LevelsFromL (d + 1) ks
def LevelsFromL : Nat → List Rose → Prop
  | _, [] => True
  | d, k :: ks => LevelsFrom d k ∧ LevelsFromL d ks
end

mutual
theorem decorate_levels {a : Arena} (hinv : Inv a) : ∀ (t : RTI) (i : Nat), Rep a i t →
    LevelsFrom (nd a i).depth (decorate a t)
  | .node j ks, i, h => by
    simp only [Rep] at h
    obtain ⟨rfl, hl, hk⟩ := h
    simp only [decorate, LevelsFrom, true_and]
    exact decorateL_levels hinv ks _ i hl (fun c hc => hc) hk
theorem decorateL_levels {a : Arena} (hinv : Inv a) : ∀ (ts : List RTI) (cs : List Nat) (i : Nat), live a i →
    (∀ c ∈ cs, c ∈ (nd a i).children) → RepL a cs ts → LevelsFromL ((nd a i).depth + 1) (decorateL a ts)
  | [], _, _, _, _, _ => by simp [decorateL, LevelsFromL]
  | t :: ts, cs, i, hl, hsub, h => by
    obtain ⟨c, cs, rfl, h⟩ := h.cons_inv
    have hd := (hinv.child_ok i c hl (hsub c (by simp))).2.2.1
    simp only [decorateL, LevelsFromL]
    refine ⟨?_, decorateL_levels hinv ts cs i hl (fun c' hc' => hsub c' (by simp [hc'])) h.2⟩
    rw [← hd]
    exact decorate_levels hinv t c h.1
end

theorem absRoot_levels {a : Arena} (g : Good a) (h1 : AtMostOneRoot a) {t : Rose} (h : absRoot a = .ok t) :
    LevelsFrom 0 t := by
  obtain ⟨r, t0, c⟩ := absRoot_ctx g.1 h1 h
  have := decorate_levels g.1 t0 r c.rep
  rw [g.1.root_depth r c.is_root.1 c.is_root.2] at this
  rw [c.dec]; exact this

mutual
/-- forget the arena ids only -/
def eraseId : Rose → Rose
  | .node _ n l d ks => .node 0 n l d (eraseIdL ks)
def eraseIdL : List Rose → List Rose
  | [] => []
  | k :: ks => eraseId k :: eraseIdL ks
end

mutual
/-- with level-consistent depths, the Newick content of a tree determines it up to ids -/
theorem eraseId_eq_of_erase_eq : ∀ (t t' : Rose) (d : Nat), LevelsFrom d t → LevelsFrom d t' →
    erase t = erase t' → eraseId t = eraseId t'
  | .node i n l d0 ks, .node i' n' l' d0' ks', d, h, h', he => by
    simp only [LevelsFrom] at h h'
    simp only [erase, RoseNL.node.injEq] at he
    obtain ⟨rfl, rfl, hk⟩ := he
    obtain ⟨rfl, hl⟩ := h
    obtain ⟨rfl, hl'⟩ := h'
    simp only [eraseId]
    rw [eraseIdL_eq_of_eraseL_eq ks ks' _ hl hl' hk]
theorem eraseIdL_eq_of_eraseL_eq : ∀ (ts ts' : List Rose) (d : Nat), LevelsFromL d ts → LevelsFromL d ts' →
    eraseL ts = eraseL ts' → eraseIdL ts = eraseIdL ts'
  | [], [], _, _, _, _ => rfl
  | [], _ :: _, _, _, _, he => by simp [eraseL] at he
  | _ :: _, [], _, _, _, he => by simp [eraseL] at he
  | t :: ts, t' :: ts', d, h, h', he => by
    simp only [LevelsFromL] at h h'
    simp only [eraseL, List.cons.injEq] at he
    simp only [eraseIdL]
    rw [eraseId_eq_of_erase_eq t t' d h.1 h'.1 he.1, eraseIdL_eq_of_eraseL_eq ts ts' d h.2 h'.2 he.2]
end

open SPM

mutual
theorem tipNames_eraseId : ∀ t : Rose, tipNames (eraseId t) = tipNames t
  | .node _ n _ _ [] => by simp [eraseId, eraseIdL, tipNames]
  | .node _ _ _ _ (k :: ks) => by
    have := tipNamesL_eraseId (k :: ks)
    simp only [eraseId, eraseIdL, tipNames] at this ⊢
    exact this
theorem tipNamesL_eraseId : ∀ ts : List Rose, tipNamesL (eraseIdL ts) = tipNamesL ts
  | [] => by simp [eraseIdL, tipNamesL]
  | k :: ks => by simp only [eraseIdL, tipNamesL, tipNames_eraseId k, tipNamesL_eraseId ks]
end

theorem sideOf_eraseId (all : List String) (t : Rose) : sideOf all (eraseId t) = sideOf all t := by
  simp only [sideOf, tipNames_eraseId]

mutual
theorem branches_eraseId (all : List String) : ∀ t : Rose, branches all (eraseId t) = branches all t
  | .node _ _ _ _ ks => by simp only [eraseId, branches, branchesL_eraseId all ks]
theorem branchesL_eraseId (all : List String) : ∀ ts : List Rose, branchesL all (eraseIdL ts) = branchesL all ts
  | [] => by simp [eraseIdL, branchesL]
  | .node i n l d [] :: ks => by
    have h1 := branches_eraseId all (.node i n l d [])
    have h2 := branchesL_eraseId all ks
    simp only [eraseId, eraseIdL] at h1
    simp only [eraseIdL, eraseId, branchesL, h1, h2]
  | .node i n l d (k :: ks') :: ks => by
    have h1 := branches_eraseId all (.node i n l d (k :: ks'))
    have h2 := branchesL_eraseId all ks
    have h3 := sideOf_eraseId all (.node i n l d (k :: ks'))
    simp only [eraseId, eraseIdL] at h1 h3
    simp only [eraseIdL, eraseId, branchesL, h1, h2, h3]
end

theorem leafIndex_eraseId (t : Rose) : leafIndex (eraseId t) = leafIndex t := by
  simp only [leafIndex, tipNames_eraseId]

theorem partitions_eraseId (t : Rose) : partitions (eraseId t) = partitions t := by
  simp only [partitions, leafIndex_eraseId, branches_eraseId]

/-- **bipartitions depend only on the tree**: two well-formed arenas with the same erased tree have the same
    leaf index and the same partition map (sides, depths, accumulated lengths) -/
theorem partitions_depend_only_on_tree {a b : Arena} (ga : Good a) (gb : Good b) (ha : AtMostOneRoot a)
    (hb : AtMostOneRoot b) {ta tb : Rose} (hta : absRoot a = .ok ta) (htb : absRoot b = .ok tb)
    (he : erase ta = erase tb) :
    leafIndex ta = leafIndex tb ∧ partitions ta = partitions tb ∧ partitionsArena a = partitionsArena b := by
  have hid : eraseId ta = eraseId tb :=
    eraseId_eq_of_erase_eq ta tb 0 (absRoot_levels ga ha hta) (absRoot_levels gb hb htb) he
  have e1 : leafIndex ta = leafIndex tb := by rw [← leafIndex_eraseId ta, hid, leafIndex_eraseId]
  have e2 : partitions ta = partitions tb := by rw [← partitions_eraseId ta, hid, partitions_eraseId]
  refine ⟨e1, e2, ?_⟩
  obtain ⟨ra, _, ca⟩ := absRoot_ctx ga.1 ha hta
  obtain ⟨rb, _, cb⟩ := absRoot_ctx gb.1 hb htb
  simp only [partitionsArena, ca.root_eq, cb.root_eq, hta, htb, QR.bind_ok, e1, e2]

/-! ### tree comparison (Robinson–Foulds and friends) never reads ids either -/

theorem eraseIdL_eq_map : ∀ ks : List Rose, eraseIdL ks = ks.map eraseId
  | [] => rfl
  | k :: ks => by rw [eraseIdL, eraseIdL_eq_map ks]; rfl

theorem eraseId_kids (t : Rose) : (eraseId t).kids = t.kids.map eraseId := by
  cases t; simp [eraseId, Rose.kids, eraseIdL_eq_map]

theorem rootSides_eraseId (all : List String) (t : Rose) : rootSides all (eraseId t) = rootSides all t := by
  simp only [rootSides, eraseId_kids, List.map_map]
  congr 1
  apply List.map_congr_left
  intro k _
  exact sideOf_eraseId all k

theorem isRootedR_eraseId (t : Rose) : SPM.isRootedR (eraseId t) = SPM.isRootedR t := by
  simp [SPM.isRootedR, eraseId_kids]

mutual
theorem tipBranches_eraseId : ∀ t : Rose, tipBranches (eraseId t) = tipBranches t
  | .node _ n _ _ [] => by simp [eraseId, eraseIdL, tipBranches]
  | .node _ _ _ _ (k :: ks) => by
    have := tipBranchesL_eraseId (k :: ks)
    simp only [eraseId, eraseIdL, tipBranches] at this ⊢
    exact this
theorem tipBranchesL_eraseId : ∀ ts : List Rose, tipBranchesL (eraseIdL ts) = tipBranchesL ts
  | [] => by simp [eraseIdL, tipBranchesL]
  | k :: ks => by simp only [eraseIdL, tipBranchesL, tipBranches_eraseId k, tipBranchesL_eraseId ks]
end

theorem rf_eraseId (s o : Rose) : rf (eraseId s) (eraseId o) = rf s o := by
  simp only [rf, partitions_eraseId, leafIndex_eraseId, rootSides_eraseId, isRootedR_eraseId]

theorem compareTopologies_eraseId (s o : Rose) :
    compareTopologies (eraseId s) (eraseId o) = compareTopologies s o := by
  simp only [compareTopologies, partitions_eraseId, leafIndex_eraseId, rootSides_eraseId, isRootedR_eraseId]

theorem compareBranches_eraseId (s o : Rose) (tips : Bool) :
    compareBranches (eraseId s) (eraseId o) tips = compareBranches s o tips := by
  simp only [compareBranches, partitions_eraseId, leafIndex_eraseId, tipBranches_eraseId]

/-- **tree comparison depends only on the trees**: replacing either arena by another one holding the same
    erased tree changes neither the Robinson–Foulds distance, nor `compare_topologies` (RF, total, weighted RF,
    squared branch score), nor `compare_branch_lengths` -/
theorem comparison_depends_only_on_tree {a b : Arena} (ga : Good a) (gb : Good b) (ha : AtMostOneRoot a)
    (hb : AtMostOneRoot b) {ta tb : Rose} (hta : absRoot a = .ok ta) (htb : absRoot b = .ok tb)
    (he : erase ta = erase tb) (o : Rose) :
    rf ta o = rf tb o ∧ rf o ta = rf o tb ∧
    compareTopologies ta o = compareTopologies tb o ∧ compareTopologies o ta = compareTopologies o tb ∧
    (∀ tips, compareBranches ta o tips = compareBranches tb o tips) ∧
    (∀ tips, compareBranches o ta tips = compareBranches o tb tips) := by
  have hid : eraseId ta = eraseId tb :=
    eraseId_eq_of_erase_eq ta tb 0 (absRoot_levels ga ha hta) (absRoot_levels gb hb htb) he
  refine ⟨?_, ?_, ?_, ?_, fun tips => ?_, fun tips => ?_⟩
  · rw [← rf_eraseId ta, hid, rf_eraseId]
  · rw [← rf_eraseId o, hid, rf_eraseId]
  · rw [← compareTopologies_eraseId ta, hid, compareTopologies_eraseId]
  · rw [← compareTopologies_eraseId o, hid, compareTopologies_eraseId]
  · rw [← compareBranches_eraseId ta, hid, compareBranches_eraseId]
  · rw [← compareBranches_eraseId o, hid, compareBranches_eraseId]

/-- non-vacuity on the two layouts of the cherry -/
example : partitionsArena exA = partitionsArena exB :=
  (partitions_depend_only_on_tree exA_ok.1 exB_ok.1 exA_ok.2 exB_ok.2 exA_abs exB_abs ex_erase).2.2

end AR
