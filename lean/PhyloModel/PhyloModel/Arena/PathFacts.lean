import PhyloModel.Arena.Lca
import PhyloModel.Arena.Query
import PhyloModel.Arena.QRLemmas
/-! Root paths are duplicate-free lists of live slots, hence no longer than the arena: the executable
    model's fuel (`fuelOf`, `2 * size + 3`) always suffices for `get_path_from_root`. -/
namespace AR

theorem pigeon (l : List Nat) (n : Nat) (hd : l.Nodup) (hb : ∀ x ∈ l, x < n) : l.length ≤ n := by
  simpa using hd.length_le_of_subset (l₂ := List.range n) fun x hx => List.mem_range.mpr (hb x hx)

theorem Path.ranks {a : Arena} {r : Nat → Nat} (w : W a r) {l : List Nat} {x : Nat} (h : Path a l x) :
    l.Pairwise (fun u v => r u < r v) ∧ (∀ y ∈ l, live a y ∧ r y ≤ r x) := by
  induction h with
  | root hl hp => exact ⟨by simp, by intro y hy; simp at hy; subst hy; exact ⟨hl, Nat.le_refl _⟩⟩
  | @step l p c hpath hl hp ih =>
    obtain ⟨hpw, hall⟩ := ih
    have hlt := w.parent_lt hl hp
    constructor
    · rw [List.pairwise_append]
      refine ⟨hpw, by simp, ?_⟩
      intro u hu v hv
      simp at hv; subst hv
      have := (hall u hu).2; omega
    · intro y hy
      rcases List.mem_append.mp hy with hy | hy
      · have := (hall y hy); exact ⟨this.1, by omega⟩
      · simp at hy; subst hy; exact ⟨hl, Nat.le_refl _⟩

theorem Path.length_le {a : Arena} {r : Nat → Nat} (w : W a r) {l : List Nat} {x : Nat} (h : Path a l x) :
    l.length ≤ a.size := by
  obtain ⟨hpw, hall⟩ := h.ranks w
  apply pigeon l a.size
  · exact hpw.imp (fun {u v} h => by intro he; subst he; omega)
  · intro y hy; exact (hall y hy).1.1

theorem pathFromRoot_eq {a : Arena} {r : Nat → Nat} (w : W a r) {l : List Nat} {x : Nat} (h : Path a l x) :
    pathFromRoot a x = .ok l := by
  have hlen := h.length_le w
  have := climb_path h (fuelOf a) [] (by unfold fuelOf; omega)
  simp [pathFromRoot, this, QR.ofOpt]

theorem pathFromRoot_dead (a : Arena) (x : Nat) (h : ¬ live a x) : pathFromRoot a x = .err "NodeNotFound" := by
  unfold pathFromRoot fuelOf
  rw [climbF]
  have : ¬ (x < a.size ∧ (nd a x).deleted = false) := h
  simp [this, QR.ofOpt]

/-- what `get_common_ancestor` and `get_distance` do first: read the two root paths; a node that is not in the tree
    makes that fail, and `NodeNotFound` is the only way reading a root path fails -/
theorem paths_bind_dead {β : Type} (a : Arena) (s t : Nat) (f : List Nat → List Nat → QR β)
    (h : ¬ live a s ∨ ¬ live a t) :
    (pathFromRoot a s >>= fun ps => pathFromRoot a t >>= fun pt => f ps pt) = .err "NodeNotFound" := by
  rcases h with h | h
  · rw [pathFromRoot_dead a s h]; rfl
  · rw [pathFromRoot_dead a t h, pathFromRoot]
    cases climbF (fuelOf a) a s [] <;> rfl

theorem distance_dead (a : Arena) (s t : Nat) (hne : s ≠ t) (h : ¬ live a s ∨ ¬ live a t) :
    distance a s t = .err "NodeNotFound" := by
  rw [distance, if_neg hne]; exact paths_bind_dead a s t _ h

theorem commonAncestor_dead (a : Arena) (s t : Nat) (hne : s ≠ t) (h : ¬ live a s ∨ ¬ live a t) :
    commonAncestor a s t = .err "NodeNotFound" := by
  rw [commonAncestor, if_neg hne]; exact paths_bind_dead a s t _ h

/-- the public entry points refuse, with `NodeNotFound`, every pair one of whose members is not a node of the tree -/
theorem pub_dead (a : Arena) (s t : Nat) (h : ¬ live a s ∨ ¬ live a t) :
    commonAncestorPub a s t = .err "NodeNotFound" ∧ distancePub a s t = .err "NodeNotFound" := by
  by_cases hst : s = t
  · subst hst
    have : isLive a s = false := isLive_eq_false (h.elim id id)
    simp [commonAncestorPub, distancePub, this]
  · rw [commonAncestorPub, distancePub, if_neg hst, if_neg hst]
    exact ⟨commonAncestor_dead a s t hst h, distance_dead a s t hst h⟩

end AR
