import PhyloModel.Arena.DistInsert
import PhyloModel.Arena.ResolvePost
/-! C11, `resolve`: one round moves two children `x1`, `x2` of `q` under a fresh node `w` hanging from `q`
    by a zero-length branch (`Inserted`, `Arena/DistInsert`): the length of the connecting path between any two
    old live nodes is unchanged, the edge count can only grow.  Lifted to `resolve picks` for every oracle
    `picks`. -/
namespace AR

theorem resolveRound_inserted {a a' : Arena} {q x y : Nat} (g : Good a) (h : resolveRound a q x y = some a') :
    Inserted a a' q a.size x y := by
  obtain ⟨hlq, hxy, hmx, hmy, _, s⟩ := resolveRound_ok g h
  have hold : ∀ i, live a i → i ≠ a.size := fun i hl => Nat.ne_of_lt hl.1
  have hkid : ∀ u, u = x ∨ u = y → live a u ∧ (nd a u).parent = some q := by
    rintro u (rfl | rfl)
    · exact ⟨(g.1.child_ok q u hlq hmx).1, (g.1.child_ok q u hlq hmx).2.1⟩
    · exact ⟨(g.1.child_ok q u hlq hmy).1, (g.1.child_ok q u hlq hmy).2.1⟩
  have pew : (nd a' a.size).pedge = some 0 := by rw [s.pedge, if_pos rfl]
  refine ⟨fun i hl => ⟨(s.live_iff i).2 (.inl hl), hold i hl⟩, (s.live_iff _).2 (.inr rfl), by rw [s.parent, if_pos rfl],
    fun u hu => ⟨(hkid u hu).2, by rw [s.parent, if_neg (hold u (hkid u hu).1), if_pos hu]⟩,
    fun i hl hm => by rw [s.parent, if_neg (hold i hl), if_neg hm], ?_,
    fun i h0 hm => by rw [s.pedge, if_neg h0, if_neg (fun e => hm (.inl e)), if_neg (fun e => hm (.inr e))], fun _ => pew⟩
  intro u hu
  rw [pew, optAdd_zero_left, s.pedge, if_neg (hold u (hkid u hu).1)]
  rcases hu with rfl | rfl
  · rw [if_pos rfl]
  · rw [if_neg (Ne.symm hxy), if_pos rfl]

theorem resolveRound_sameLen {a a' : Arena} {q x1 x2 : Nat} (g : Good a) (h : resolveRound a q x1 x2 = some a')
    {x y : Nat} (hlx : live a x) (hly : live a y) (hxy : x ≠ y) : SameLen (· ≤ ·) a a' x y :=
  (resolveRound_inserted g h).sameLen g (resolveRound_good q x1 x2 g h).1.toW hlx hly hxy

/-- **`resolve` keeps every path length, for every outcome of its random choices**: any two distinct
    live nodes of the old arena are answered by `get_distance` before and after with the same length (sum of
    branch lengths, or "a length is missing"); the edge count does not drop -/
theorem resolve_sameLen {a a' : Arena} (picks : List (Nat × Nat)) (g : Good a) (h : resolve a picks = some a')
    {x y : Nat} (hlx : live a x) (hly : live a y) (hxy : x ≠ y) : SameLen (· ≤ ·) a a' x y := by
  -- every round keeps the invariant and the lengths between the nodes it starts with; so does the whole run
  have lift := resolve_lift (I := fun _ => True)
    (R := fun a b => Good a → Good b ∧ ∀ x y, live a x → live a y → x ≠ y → SameLen (· ≤ ·) a b x y)
    (fun a g => ⟨g, fun x y hlx hly hxy => SameLen.refl (R := (· ≤ ·)) Nat.le_refl g hlx hly hxy⟩)
    (fun a b c h1 h2 g =>
      have ⟨gb, s1⟩ := h1 g
      have ⟨gc, s2⟩ := h2 gb
      ⟨gc, fun x y hlx hly hxy => SameLen.trans (R := (· ≤ ·)) Nat.le_trans hxy (s1 x y hlx hly hxy)
        fun l1 l2 => s2 x y l1 l2 hxy⟩)
    (fun a a' q x1 x2 _ hr => ⟨trivial, fun g =>
      ⟨resolveRound_good q x1 x2 g hr, fun x y hlx hly hxy => resolveRound_sameLen g hr hlx hly hxy⟩⟩)
    picks trivial h
  exact (lift.2 g).2 x y hlx hly hxy

/-- **leaf-to-leaf path lengths are unchanged by `resolve`**: the tips after are the tips before, and for
    any two distinct tips `get_distance` answers before and after with the same length -/
theorem resolve_tip_distances {a a' : Arena} (picks : List (Nat × Nat)) (g : Good a)
    (h : resolve a picks = some a') :
    (∀ i, IsTip a' i ↔ IsTip a i) ∧
    ∀ x y, IsTip a x → IsTip a y → x ≠ y →
      ∃ d n n', distance a x y = .ok (d, n) ∧ distance a' x y = .ok (d, n') ∧ n ≤ n' :=
  ⟨(resolve_post picks g h).2, fun _ _ hx hy hxy => resolve_sameLen picks g h hx.1 hy.1 hxy⟩

/-! ### non-vacuity: root 0 with four tips 1..4 (lengths 1, 2, 3, 4), resolved by the picks (1,2), (3,5) -/

def exR : Arena := runOps #[] [.add none, .addChild 0 (some 1) none, .addChild 0 (some 2) none,
  .addChild 0 (some 3) none, .addChild 0 (some 4) none]

theorem exR_good : Good exR := runOps_good _ empty_good

theorem exR_resolve : resolve exR [(1, 2), (3, 5)] = some ((resolve exR [(1, 2), (3, 5)]).getD #[]) := by
  obtain ⟨v, h⟩ := Option.isSome_iff_exists.1 (show (resolve exR [(1, 2), (3, 5)]).isSome = true by decide)
  rw [h]; rfl

theorem exR_tips : IsTip exR 1 ∧ IsTip exR 3 := by
  unfold IsTip live; decide

example : distance exR 1 3 = .ok (some 4, 2) ∧
    distance ((resolve exR [(1, 2), (3, 5)]).getD #[]) 1 3 = .ok (some 4, 3) :=
  ⟨distIs_eq (by decide), distIs_eq (by decide)⟩

example : ∃ d n n', distance exR 1 3 = .ok (d, n) ∧
    distance ((resolve exR [(1, 2), (3, 5)]).getD #[]) 1 3 = .ok (d, n') ∧ n ≤ n' :=
  (resolve_tip_distances _ exR_good exR_resolve).2 1 3 exR_tips.1 exR_tips.2 (by decide)

end AR
