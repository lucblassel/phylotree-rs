import PhyloModel.Arena.PathFacts
import PhyloModel.Arena.OpsInv
/-! Shared tools for the path-length preservation theorems of C11 (`DistPrune`, `DistRescale`,
    `DistLadder`, `DistCompress`, `DistResolve`): the executable `distance` written through the two root paths,
    algebra of `optSum`, arithmetic of `cursor`, distances in a sub-arena, and the relation "same path length
    in both arenas". -/
namespace AR

theorem optAdd_none_left (x : Option Int) : optAdd none x = none := by cases x <;> rfl
theorem optAdd_none_right (x : Option Int) : optAdd x none = none := by cases x <;> rfl

theorem optAdd_comm (x y : Option Int) : optAdd x y = optAdd y x := by
  cases x <;> cases y <;> simp [optAdd, Int.add_comm]

theorem optAdd_assoc (x y z : Option Int) : optAdd (optAdd x y) z = optAdd x (optAdd y z) := by
  cases x <;> cases y <;> cases z <;> simp [optAdd, Int.add_assoc]

theorem optAdd_zero_left (x : Option Int) : optAdd (some 0) x = x := by cases x <;> simp [optAdd]
theorem optAdd_zero_right (x : Option Int) : optAdd x (some 0) = x := by cases x <;> simp [optAdd]

theorem foldl_optAdd (l : List (Option Int)) (s : Option Int) :
    l.foldl optAdd s = optAdd s (l.foldl optAdd (some 0)) := by
  induction l generalizing s with
  | nil => simp [optAdd_zero_right]
  | cons x xs ih =>
    simp only [List.foldl_cons]
    rw [ih (optAdd s x), ih (optAdd (some 0) x), optAdd_zero_left, optAdd_assoc]

theorem optSum_nil : optSum [] = some 0 := rfl

theorem optSum_cons (x : Option Int) (l : List (Option Int)) : optSum (x :: l) = optAdd x (optSum l) := by
  unfold optSum
  rw [List.foldl_cons, foldl_optAdd, optAdd_zero_left]

theorem optSum_append (l1 l2 : List (Option Int)) : optSum (l1 ++ l2) = optAdd (optSum l1) (optSum l2) := by
  induction l1 with
  | nil => simp [optSum_nil, optAdd_zero_left]
  | cons x xs ih => simp only [List.cons_append, optSum_cons, ih, optAdd_assoc]

theorem optSum_append_comm (l1 l2 : List (Option Int)) : optSum (l1 ++ l2) = optSum (l2 ++ l1) := by
  rw [optSum_append, optSum_append, optAdd_comm]

theorem cursor_nil_right (p : List Nat) : cursor p [] = 0 := by cases p <;> rfl
theorem cursor_nil_left (q : List Nat) : cursor [] q = 0 := rfl

theorem cursor_append (c p q : List Nat) : cursor (c ++ p) (c ++ q) = c.length + cursor p q := by
  induction c with
  | nil => simp
  | cons x c ih => simp only [List.cons_append, cursor, ↓reduceIte, ih, List.length_cons]; omega

theorem cursor_heads {p q : List Nat} (h : ∀ x y, p.head? = some x → q.head? = some y → x ≠ y) :
    cursor p q = 0 := by
  cases p with
  | nil => rfl
  | cons x xs =>
    cases q with
    | nil => rfl
    | cons y ys =>
      have := h x y rfl rfl
      simp [cursor, this]

/-- what `get_distance` computes from the two root paths -/
def distOf (a : Arena) (p q : List Nat) : Option Int × Nat :=
  ((optSum (((p.drop (cursor p q)) ++ (q.drop (cursor p q))).map (fun i => (nd a i).pedge))),
   ((p.drop (cursor p q)) ++ (q.drop (cursor p q))).length)

theorem distance_of_paths {a : Arena} {r : Nat → Nat} (w : W a r) {p q : List Nat} {s t : Nat}
    (hp : Path a p s) (hq : Path a q t) (hne : s ≠ t) : distance a s t = .ok (distOf a p q) := by
  have hps := pathFromRoot_eq w hp
  have hqs := pathFromRoot_eq w hq
  simp only [distance, hne, ↓reduceIte, hps, hqs, QR.bind_ok, QR.pure_eq, distOf]

theorem distOf_prefix (a : Arena) (c p q : List Nat) : distOf a (c ++ p) (c ++ q) = distOf a p q := by
  simp only [distOf, cursor_append, ← List.drop_drop, List.drop_left]

theorem distOf_heads (a : Arena) {p q : List Nat} (hd : ∀ x y, p.head? = some x → q.head? = some y → x ≠ y) :
    distOf a p q = (optSum ((p ++ q).map (fun i => (nd a i).pedge)), (p ++ q).length) := by
  simp only [distOf, cursor_heads hd, List.drop_zero]

theorem distOf_split (a : Arena) (c p2 q2 : List Nat)
    (hd : ∀ x y, p2.head? = some x → q2.head? = some y → x ≠ y) :
    distOf a (c ++ p2) (c ++ q2) = (optSum ((p2 ++ q2).map (fun i => (nd a i).pedge)), (p2 ++ q2).length) := by
  rw [distOf_prefix, distOf_heads a hd]

theorem path_total {a : Arena} (g : Good a) (x : Nat) (hl : live a x) : ∃ l, Path a l x :=
  Path.exists g.1.toW ((nd a x).depth) x hl (Nat.le_refl _)

theorem distance_ok_live {a : Arena} {s t : Nat} {d : Option Int × Nat} (hne : s ≠ t)
    (h : distance a s t = .ok d) : live a s ∧ live a t := by
  unfold distance at h
  rw [if_neg hne] at h
  cases hs : pathFromRoot a s with
  | ok ps =>
    cases ht : pathFromRoot a t with
    | ok pt =>
      refine ⟨Classical.byContradiction fun hl => ?_, Classical.byContradiction fun hl => ?_⟩
      · rw [pathFromRoot_dead a s hl] at hs; cases hs
      · rw [pathFromRoot_dead a t hl] at ht; cases ht
    | err k => rw [hs, ht] at h; cases h
    | panic => rw [hs, ht] at h; cases h
  | err k => rw [hs] at h; cases h
  | panic => rw [hs] at h; cases h

/-! ### an arena whose live nodes are live nodes of `a` with the same parent and branch length -/

theorem Path.of_sub {a b : Arena} (sub : ∀ i, live b i → live a i)
    (par : ∀ i, live b i → (nd b i).parent = (nd a i).parent) {l : List Nat} {x : Nat} (h : Path b l x) : Path a l x := by
  induction h with
  | root hl hp => exact .root (sub _ hl) (par _ hl ▸ hp)
  | step _ hl hp ih => exact .step ih (sub _ hl) (par _ hl ▸ hp)

/-- its root paths are root paths of `a`, so `get_distance` answers alike in both -/
theorem distance_of_sub {a b : Arena} {r r' : Nat → Nat} (wa : W a r) (wb : W b r') (sub : ∀ i, live b i → live a i)
    (par : ∀ i, live b i → (nd b i).parent = (nd a i).parent) (pe : ∀ i, live b i → (nd b i).pedge = (nd a i).pedge)
    {x y : Nat} (hlx : live b x) (hly : live b y) : distance b x y = distance a x y := by
  by_cases hxy : x = y
  · subst hxy; simp [AR.distance]
  · obtain ⟨P, hP⟩ := Path.exists wb _ x hlx (Nat.le_refl _)
    obtain ⟨Q, hQ⟩ := Path.exists wb _ y hly (Nat.le_refl _)
    rw [distance_of_paths wb hP hQ hxy, distance_of_paths wa (hP.of_sub sub par) (hQ.of_sub sub par) hxy, distOf, distOf]
    congr 3
    apply List.map_congr_left
    intro z hz
    refine pe z ?_
    rcases List.mem_append.1 hz with hz | hz
    · exact ((hP.ranks wb).2 z (List.mem_of_mem_drop hz)).1
    · exact ((hQ.ranks wb).2 z (List.mem_of_mem_drop hz)).1

/-- both arenas answer `get_distance x y`, with the same length component (the sum of the branch lengths on
    the connecting path, or "a length is missing") and edge counts related by `R` (`≥` for `compress`, `≤` for
    `resolve`) -/
def SameLen (R : Nat → Nat → Prop) (a a' : Arena) (x y : Nat) : Prop :=
  ∃ d n n', distance a x y = .ok (d, n) ∧ distance a' x y = .ok (d, n') ∧ R n n'

/-- The argument shared by the operations that move nodes on root paths.  In `a` the root paths of `x` and `y`
    part after `C`, with tails `X`, `Y`; in `a'` they have a common prefix `C'` and tails `X'`, `Y'` (which may
    still share a prefix).  If `get_distance` computes from `X'`, `Y'` in `a'` the sum of the lengths along `X`, `Y`
    in `a`, it answers with the same length in both arenas. -/
theorem SameLen.of_paths {R : Nat → Nat → Prop} {a a' : Arena} {r r' : Nat → Nat} (w : W a r) (w' : W a' r')
    {x y : Nat} (hxy : x ≠ y) {C X Y C' X' Y' : List Nat} (hP : Path a (C ++ X) x) (hQ : Path a (C ++ Y) y)
    (hd : ∀ u v, X.head? = some u → Y.head? = some v → u ≠ v)
    (hP' : Path a' (C' ++ X') x) (hQ' : Path a' (C' ++ Y') y) {n' : Nat}
    (hs : distOf a' X' Y' = (optSum ((X ++ Y).map (fun i => (nd a i).pedge)), n')) (hR : R (X ++ Y).length n') :
    SameLen R a a' x y :=
  ⟨_, _, _, by rw [distance_of_paths w hP hQ hxy, distOf_split a C X Y hd],
    by rw [distance_of_paths w' hP' hQ' hxy, distOf_prefix, hs], hR⟩

theorem SameLen.refl {R : Nat → Nat → Prop} (hR : ∀ n, R n n) {a : Arena} (g : Good a) {x y : Nat}
    (hlx : live a x) (hly : live a y) (hxy : x ≠ y) : SameLen R a a x y := by
  obtain ⟨P, hP⟩ := path_total g x hlx
  obtain ⟨Q, hQ⟩ := path_total g y hly
  have d := distance_of_paths g.1.toW hP hQ hxy
  exact ⟨_, _, _, d, d, hR _⟩

/-- the second step is only asked about nodes that survived the first -/
theorem SameLen.trans {R : Nat → Nat → Prop} (hR : ∀ {l m n}, R l m → R m n → R l n) {a b c : Arena} {x y : Nat}
    (hxy : x ≠ y) (h1 : SameLen R a b x y) (h2 : live b x → live b y → SameLen R b c x y) : SameLen R a c x y := by
  obtain ⟨d, n, n1, e1, e2, le1⟩ := h1
  obtain ⟨hlx1, hly1⟩ := distance_ok_live hxy e2
  obtain ⟨d', n1', n2, e3, e4, le2⟩ := h2 hlx1 hly1
  rw [e2] at e3
  cases e3
  exact ⟨d, n, n2, e1, e4, hR le1 le2⟩

theorem SameLen.symm {R : Nat → Nat → Prop} {a b : Arena} {x y : Nat} (h : SameLen R a b x y) :
    SameLen (fun n n' => R n' n) b a x y :=
  let ⟨d, n, n', e1, e2, hR⟩ := h; ⟨d, n', n, e2, e1, hR⟩

/-! ### a decidable test, for the concrete examples -/

def distIs (r : QR (Option Int × Nat)) (d : Option Int) (n : Nat) : Bool :=
  match r with
  | .ok (d', n') => d' == d && n' == n
  | _ => false

theorem distIs_eq {r : QR (Option Int × Nat)} {d : Option Int} {n : Nat} (h : distIs r d n = true) :
    r = .ok (d, n) := by
  unfold distIs at h
  split at h
  · simp only [Bool.and_eq_true, beq_iff_eq] at h; rw [h.1, h.2]
  · cases h

end AR
