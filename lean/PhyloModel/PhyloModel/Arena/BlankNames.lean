import PhyloModel.Arena.QueryRefineNames
/-! # What an edit history does to the payload of the slots

`Kept Q a`: the removal flag, the name and the comment of every slot of `a` satisfy `Q`.  No operation of the
model writes a name other than the one it is given, and none writes a comment; so every operation keeps
`Kept Q`, provided the name it is given fits the slot it goes to (`GivenOK`).

The instance proved here is `BlankNames` (a tombstone carries no name), which `get_by_name` needs in order to
be a function of the abstract tree (`getByName_refines_partial`): that query does not filter removed slots, and
`Tomb` does not say it because names are payload.  Every operation preserves it, except `setName` applied to a
removed slot (which the crate's API cannot do: `get_mut` refuses removed nodes). -/
namespace AR

section
variable {Q : Bool → Option String → Option String → Prop}

def Kept (Q : Bool → Option String → Option String → Prop) (a : Arena) : Prop :=
  ∀ i, Q (nd a i).deleted (nd a i).name (nd a i).comment

theorem Kept.set {a : Arena} (h : Kept Q a) (i : Nat) (n : Node) (hn : Q n.deleted n.name n.comment) :
    Kept Q (a.setIfInBounds i n) := by
  intro j
  rw [nd_set]
  split
  · exact hn
  · exact h j

theorem Kept.push {a : Arena} (h : Kept Q a) (n : Node) (hn : Q n.deleted n.name n.comment) :
    Kept Q (a.push n) := by
  intro j
  rw [nd_push]
  split
  · exact hn
  · exact h j

/-- the usual update: the node written to a slot has the flag, the name and the comment of the node it replaces.
    (For a record update of `nd a k` prove the three equations by `dsimp only`, which projects the record; `rfl`
    makes the unifier evaluate `nd a k` first, at ten times the cost.) -/
theorem Kept.modify {a : Arena} (h : Kept Q a) (k : Nat) (n : Node) (hd : n.deleted = (nd a k).deleted)
    (hn : n.name = (nd a k).name) (hc : n.comment = (nd a k).comment) : Kept Q (a.setIfInBounds k n) :=
  h.set k n (by rw [hd, hn, hc]; exact h k)

/-- flag, name and comment slot by slot as in `a` -/
theorem Kept.same {a b : Arena} (h : Kept Q a)
    (s : ∀ i, (nd b i).deleted = (nd a i).deleted ∧ (nd b i).name = (nd a i).name ∧ (nd b i).comment = (nd a i).comment) :
    Kept Q b := fun i => by
  obtain ⟨e1, e2, e3⟩ := s i
  rw [e1, e2, e3]
  exact h i

theorem Kept.onlyDepth {a b : Arena} (h : Kept Q a) (s : OnlyDepth a b) : Kept Q b :=
  h.same fun i => have k := s.fields i; ⟨k.1, k.2.2.2.2.1, k.2.2.2.2.2⟩

@[simp] private theorem removeChild_name (n : Node) (c : Nat) : (removeChild n c).name = n.name := by simp [removeChild]
@[simp] theorem removeChild_deleted (n : Node) (c : Nat) : (removeChild n c).deleted = n.deleted := by
  simp [removeChild]
@[simp] private theorem removeChild_comment (n : Node) (c : Nat) : (removeChild n c).comment = n.comment := by
  simp [removeChild]

/-- an operation's early exit: both arms of the test keep `Q` (cheaper to check than `split`, which rewrites the
    whole remaining program) -/
theorem kept_ite {c : Prop} [Decidable c] {x y : Arena × Out} (hx : Kept Q x.1) (hy : Kept Q y.1) :
    Kept Q (if c then x else y).1 := by
  split <;> assumption

theorem kept_empty (hd : Q true none none) : Kept Q #[] := fun i => by rw [nd_empty]; exact hd

/-! ### the operations, one by one: `hd` is `Q` of a tombstone, `hf` of a fresh node -/

theorem add_kept {a : Arena} (n : Option String) (hn : Q false n none) (h : Kept Q a) : Kept Q (add a n).1 :=
  h.push _ hn

theorem setName_kept {a : Arena} (i : Nat) (n : Option String) (hn : Q (nd a i).deleted n (nd a i).comment)
    (h : Kept Q a) : Kept Q (setName a i n) :=
  h.set i _ hn

/-- the new slot is live and has no comment, so naming it afterwards asks for `Q false n none` only -/
theorem addChild_kept {a a' : Arena} {p id : Nat} {e : Option Int} (hf : Q false none none) (h : Kept Q a)
    (hc : addChild a p e = some (a', id)) :
    Kept Q a' ∧ (nd a' id).deleted = false ∧ (nd a' id).comment = none := by
  unfold addChild at hc
  split at hc
  next hp =>
    simp only [Option.some.injEq, Prod.mk.injEq] at hc
    obtain ⟨rfl, rfl⟩ := hc
    refine ⟨(h.modify p _ (by simp) (by simp) (by simp)).push _ hf, ?_⟩
    rw [nd_push]; simp
  · simp at hc

theorem addChildNamed_kept {a : Arena} (p : Nat) (e : Option Int) (n : Option String) (hf : Q false none none)
    (hn : Q false n none) (h : Kept Q a) : Kept Q (addChildNamed a p e n).1 := by
  unfold addChildNamed
  split
  next a' id hc =>
    obtain ⟨h1, h2, h3⟩ := addChild_kept hf h hc
    exact setName_kept id n (by rw [h2, h3]; exact hn) h1
  next => exact h

theorem finish_kept {a : Arena} (hd : Q true none none) (x : Nat) (h : Kept Q a) : Kept Q (finish a x) := by
  unfold finish
  refine Kept.set ?_ x dead hd
  split
  · exact h.modify _ _ (by simp) (by simp) (by simp)
  · exact h

theorem pruneF_kept (hd : Q true none none) {f : Nat} {a a' : Arena} {x : Nat} (h : Kept Q a)
    (hp : pruneF f a x = some a') : Kept Q a' :=
  pruneF_lift (R := fun a b => Kept Q a → Kept Q b) (fun _ h => h) (fun _ _ _ h1 h2 h => h2 (h1 h))
    (fun _ x => finish_kept hd x) f a x a' hp h

theorem prune_kept (hd : Q true none none) {a : Arena} (x : Nat) (h : Kept Q a) : Kept Q (prune a x).1 := by
  unfold prune
  refine kept_ite ?_ h
  split
  next a' hp => exact pruneF_kept hd h hp
  next => exact h

theorem resetF_kept {f : Nat} {a a' : Arena} {x d : Nat} (h : Kept Q a) (hr : resetF f a x d = some a') :
    Kept Q a' :=
  h.onlyDepth (resetF_onlyDepth hr)

theorem splice_kept (hd : Q true none none) {a : Arena} (v p c : Nat) (e : Option Int) (h : Kept Q a) :
    Kept Q (splice a v p c e) := by
  unfold splice
  refine Kept.set ?_ v dead hd
  refine Kept.modify ?_ p _ (by simp) (by simp) (by simp)
  exact h.modify c _ (by dsimp only) (by dsimp only) (by dsimp only)

/- Trap, here and in `mergeChildren_kept`: closing `Kept Q (b, out).1` by `exact hb` with `hb : Kept Q b` makes the
   unifier unfold `b` (`splice`, `group`, ...) before it reduces the projection, which is very slow to check;
   `dsimp only` first. -/
theorem compressNode_kept (hd : Q true none none) {a : Arena} (v : Nat) (h : Kept Q a) :
    Kept Q (compressNode a v).1 := by
  unfold compressNode
  refine kept_ite h ?_
  split
  next p c _ _ =>
    split
    · exact h
    next e _ =>
      refine kept_ite h ?_
      have hs := splice_kept hd v p c e h
      simp only
      split
      next a2 h2 => exact resetF_kept hs h2
      next => dsimp only; exact hs
  · exact h

theorem compress_kept (hd : Q true none none) {a : Arena} (h : Kept Q a) : Kept Q (compress a).1 :=
  (compressLoop_lift (R := fun _ _ => True) (fun _ => trivial) (fun _ _ _ _ _ => trivial)
    (fun _ v h => ⟨compressNode_kept hd v h, trivial⟩) (toCompress a) h).1

theorem rescale_kept {a : Arena} (k : Int) (h : Kept Q a) : Kept Q (rescale a k) := fun i => by
  rw [rescale_nd]
  exact h i

theorem group_kept (hf : Q false none none) {a : Arena} (q c1 c2 : Nat) (pe e1 e2 : Option Int) (h : Kept Q a) :
    Kept Q (group a q c1 c2 pe e1 e2) := by
  unfold group
  refine Kept.push ?_ _ (by simp only [wNode, setCedge_deleted, setCedge_name, setCedge_comment]; exact hf)
  refine Kept.modify ?_ c2 _ (by dsimp only) (by dsimp only) (by dsimp only)
  refine Kept.modify ?_ c1 _ (by dsimp only) (by dsimp only) (by dsimp only)
  exact h.modify q _ (by simp only [qNode, setCedge_deleted, removeChild_deleted])
    (by simp only [qNode, setCedge_name, removeChild_name])
    (by simp only [qNode, setCedge_comment, removeChild_comment])

theorem rootGroup_kept (hf : Q false none none) {a : Arena} (c1 c2 : Nat) (e1 e2 : Option Int) (h : Kept Q a) :
    Kept Q (rootGroup a c1 c2 e1 e2) := by
  unfold rootGroup
  refine Kept.push ?_ _ (by simp only [setCedge_deleted, setCedge_name, setCedge_comment]; exact hf)
  refine Kept.modify ?_ c2 _ (by dsimp only) (by dsimp only) (by dsimp only)
  exact h.modify c1 _ (by dsimp only) (by dsimp only) (by dsimp only)

theorem mergeChildren_kept (hf : Q false none none) {a : Arena} (c1 c2 : Nat) (e1 e2 pe : Option Int)
    (n : Option String) (hn : Q false n none) (h : Kept Q a) : Kept Q (mergeChildren a c1 c2 e1 e2 pe n).1 := by
  unfold mergeChildren
  refine kept_ite h (kept_ite h (kept_ite h ?_))
  simp only
  split
  · exact h
  next a1 ha1 =>
    -- `a1` is `a` regrouped; the fresh slot `a.size` is live in it and has no comment
    have hb1 : Kept Q a1 ∧ (nd a1 a.size).deleted = false ∧ (nd a1 a.size).comment = none := by
      split at ha1
      · split at ha1
        · simp only [Option.some.injEq] at ha1; subst ha1
          exact ⟨group_kept hf _ _ _ _ _ _ h, by simp [group, nd_push, wNode], by simp [group, nd_push, wNode]⟩
        · simp at ha1
      · simp only [Option.some.injEq] at ha1; subst ha1
        exact ⟨rootGroup_kept hf _ _ _ _ h, by simp [rootGroup, nd_push], by simp [rootGroup, nd_push]⟩
    -- the name goes to that slot, whose flag and comment the depth repairs leave alone
    have named : ∀ {b : Arena}, OnlyDepth a1 b → Kept Q (setName b a.size n) := fun {b} s =>
      setName_kept _ n (by rw [(s.fields _).1, (s.fields _).2.2.2.2.2, hb1.2.1, hb1.2.2]; exact hn) (hb1.1.onlyDepth s)
    split
    · dsimp only; exact named (OnlyDepth.refl a1)
    next a3 h3 =>
      split
      · dsimp only; exact named (resetF_onlyDepth h3)
      next a4 h4 => dsimp only; exact named ((resetF_onlyDepth h3).trans (resetF_onlyDepth h4))

theorem resolveRound_kept (hf : Q false none none) {a a' : Arena} (q x y : Nat) (h : Kept Q a)
    (hr : resolveRound a q x y = some a') : Kept Q a' := by
  unfold resolveRound at hr
  split at hr
  · simp only at hr
    split at hr
    · simp at hr
    next a2 h2 => exact resetF_kept (resetF_kept (group_kept hf _ _ _ _ _ _ h) h2) hr
  · simp at hr

theorem resolve_kept (hf : Q false none none) {a a' : Arena} (picks : List (Nat × Nat)) (h : Kept Q a)
    (hr : resolve a picks = some a') : Kept Q a' :=
  (resolve_lift (R := fun _ _ => True) (fun _ => trivial) (fun _ _ _ _ _ => trivial)
    (fun _ _ q x y h hr => ⟨resolveRound_kept hf q x y h hr, trivial⟩) picks h hr).1

theorem ladderize_kept {a : Arena} (h : Kept Q a) : Kept Q (ladderize a).1 :=
  h.same (fun i => have k := (ladderize_frame a).2 i; ⟨k.2.2.2.2.1, k.2.2.2.2.2.2.1, k.2.2.2.2.2.2.2⟩)

theorem resetDepths_kept {a : Arena} (h : Kept Q a) : Kept Q (resetDepths a).1 := by
  unfold resetDepths
  split
  · exact h
  · split
    next a' hr => exact resetF_kept h hr
    next => exact h

/-- the name an operation is given fits the slot it goes to: a fresh one, or for `setName` the slot named -/
def GivenOK (Q : Bool → Option String → Option String → Prop) (a : Arena) : Op → Prop
  | .add n => Q false n none
  | .addChild _ _ n => Q false n none
  | .setName i n => Q (nd a i).deleted n (nd a i).comment
  | .merge _ _ _ _ _ n => Q false n none
  | _ => True

theorem applyOp_kept (hd : Q true none none) (hf : Q false none none) {a : Arena} (op : Op) (h : Kept Q a)
    (hok : GivenOK Q a op) : Kept Q (applyOp a op).1 := by
  cases op with
  | add n => exact add_kept n hok h
  | addChild p e n => exact addChildNamed_kept p e n hf hok h
  | setName i n => exact setName_kept i n hok h
  | prune x => exact prune_kept hd x h
  | compressNode v => exact compressNode_kept hd v h
  | compress => exact compress_kept hd h
  | rescale k => exact rescale_kept k h
  | merge c1 c2 e1 e2 pe n => exact mergeChildren_kept hf c1 c2 e1 e2 pe n hok h
  | resolve picks =>
    simp only [applyOp]
    split
    next a' hr => exact resolve_kept hf picks h hr
    next => exact h
  | ladderize => exact ladderize_kept h
  | resetDepths => exact resetDepths_kept h

end

def blankQ (d : Bool) (n _c : Option String) : Prop := d = true → n = none

theorem blank_empty : BlankNames #[] := kept_empty (Q := blankQ) (fun _ => rfl)

theorem add_blank {a : Arena} (n : Option String) (h : BlankNames a) : BlankNames (add a n).1 :=
  add_kept (Q := blankQ) n (fun hd => nomatch hd) h

theorem addChildNamed_blank {a : Arena} (p : Nat) (e : Option Int) (n : Option String) (h : BlankNames a) :
    BlankNames (addChildNamed a p e n).1 :=
  addChildNamed_kept (Q := blankQ) p e n (fun hd => nomatch hd) (fun hd => nomatch hd) h

/-- operations that cannot put a name on a removed slot: all but `setName` on a removed slot -/
def NamesOK (a : Arena) : Op → Prop
  | .setName i n => live a i ∨ n = none
  | _ => True

theorem applyOp_blank {a : Arena} (op : Op) (h : BlankNames a) (hok : NamesOK a op) :
    BlankNames (applyOp a op).1 := by
  refine applyOp_kept (Q := blankQ) (fun _ => rfl) (fun hd => nomatch hd) op h ?_
  cases op with
  | setName i n =>
    intro hd
    rcases hok with hl | hn
    · rw [hl.2] at hd; cases hd
    · exact hn
  | add | addChild | merge => exact fun hd => nomatch hd
  | _ => trivial

def NamesOKRun : Arena → List Op → Prop
  | _, [] => True
  | a, op :: ops => NamesOK a op ∧ NamesOKRun (applyOp a op).1 ops

theorem runOps_blank : ∀ (ops : List Op) {a : Arena}, BlankNames a → NamesOKRun a ops → BlankNames (runOps a ops)
  | [], _, h, _ => h
  | op :: ops, a, h, hok => by
    simp only [runOps, List.foldl_cons]
    exact runOps_blank ops (applyOp_blank op h hok.1) hok.2

/-- non-vacuity: the history with a removal (`exB` of `Arena/AnswersDependOnTree.lean`) satisfies the hypotheses -/
example : AdmissibleRun #[] [.add none, .addChild 0 (some 9) (some "z"), .prune 1,
      .addChild 0 (some 3) (some "x"), .addChild 0 (some 4) (some "y")] ∧
    NamesOKRun #[] [.add none, .addChild 0 (some 9) (some "z"), .prune 1,
      .addChild 0 (some 3) (some "x"), .addChild 0 (some 4) (some "y")] := by
  refine ⟨?_, ?_⟩
  · simp only [AdmissibleRun, Admissible, and_true]
    exact no_root_empty
  · simp [NamesOKRun, NamesOK]

end AR
