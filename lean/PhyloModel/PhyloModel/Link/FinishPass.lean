import PhyloModel.Link.ParsedArena
/-! # The finishing pass of `Tree::from_newick`, step by step

`LK.toAR` DEFINES the edge map of a parsed node as "one entry per child that carries a branch length".  Here the
pass the Rust code runs just before returning is modelled literally — the arena as built by the parser's
`add_child(…, None)` calls has no child edge anywhere (`toAR0`); then, for every node id in increasing order, a
present `parent_edge` is copied into the parent's `child_edges` with the library's own `set_child_edge`
(`AR.setCedge`) — and proved to produce `toAR`: all other fields are equal and the edge maps agree at every
key.  All notions used by the linked C04 theorem (`Good`, `AtMostOneRoot`, `absRoot`) are insensitive to
the representation of the edge map, so the parsed-arena theorem holds for `finishPass` as well. -/
namespace LK
open NW (PNode RTree Label)

def toARNode0 (n : PNode Int) : AR.Node :=
  { parent := n.parent, children := n.children, pedge := n.len, cedges := [],
    depth := n.depth, deleted := false, name := n.name.map String.ofList, comment := n.comment.map String.ofList }

def toAR0 (p : PArena) : AR.Arena := (p.toList.map toARNode0).toArray

/-- one iteration of the pass: `if let Some(edge) = tree.get(id).parent_edge { if let Some(parent) =
    tree.get(id).parent { tree.get_mut(parent).set_child_edge(id, Some(edge)) } }` -/
def passStep (b : AR.Arena) (i : Nat) : AR.Arena :=
  match (AR.nd b i).pedge, (AR.nd b i).parent with
  | some v, some q => b.setIfInBounds q (AR.setCedge (AR.nd b q) i (some v))
  | _, _ => b

def finishPass (p : PArena) : AR.Arena := (List.range p.size).foldl passStep (toAR0 p)

def EqButCedges (x y : AR.Node) : Prop :=
  x.parent = y.parent ∧ x.children = y.children ∧ x.pedge = y.pedge ∧ x.depth = y.depth ∧
  x.deleted = y.deleted ∧ x.name = y.name ∧ x.comment = y.comment

theorem EqButCedges.rfl' (x : AR.Node) : EqButCedges x x := ⟨rfl, rfl, rfl, rfl, rfl, rfl, rfl⟩

/-- same arena up to the representation of the edge maps -/
def SameMaps (a b : AR.Arena) : Prop :=
  b.size = a.size ∧ ∀ i, EqButCedges (AR.nd b i) (AR.nd a i) ∧
    (∀ c, AR.alGet (AR.nd b i).cedges c = AR.alGet (AR.nd a i).cedges c) ∧
    ((AR.nd a i).deleted = true → (AR.nd b i).cedges = (AR.nd a i).cedges)

theorem nd_toAR0 (p : PArena) (i : Nat) :
    AR.nd (toAR0 p) i = if i < p.size then toARNode0 (NW.nd p i) else AR.dead := by
  simp only [AR.nd, NW.nd, toAR0, Array.getD_eq_getD_getElem?, List.getElem?_toArray, List.getElem?_map,
    Array.getElem?_toList]
  by_cases h : i < p.size
  · simp [h]
  · simp [h]

/-- state of the pass after the ids below `k` -/
structure PassInv (p : PArena) (k : Nat) (b : AR.Arena) : Prop where
  size : b.size = p.size
  oob : ∀ q, p.size ≤ q → AR.nd b q = AR.dead
  fields : ∀ q, q < p.size → EqButCedges (AR.nd b q) (toARNode0 (NW.nd p q))
  edges : ∀ q c, q < p.size → AR.alGet (AR.nd b q).cedges c =
    if c < k ∧ c ∈ (NW.nd p q).children then (NW.nd p c).len else none

theorem passInv_zero (p : PArena) : PassInv p 0 (toAR0 p) := by
  refine ⟨by simp [toAR0], ?_, ?_, ?_⟩
  · intro q hq; rw [nd_toAR0, if_neg (by omega)]
  · intro q hq; rw [nd_toAR0, if_pos hq]; exact EqButCedges.rfl' _
  · intro q c hq; rw [nd_toAR0, if_pos hq]; simp [toARNode0, AR.alGet]

/-- one iteration rewrites the parent's slot at most, and there the edge map at key `i` only (`setCedge` with no
    length is the identity) -/
theorem nd_passStep (b : AR.Arena) (i q : Nat) : AR.nd (passStep b i) q =
    if (AR.nd b i).parent = some q ∧ q < b.size then AR.setCedge (AR.nd b q) i (AR.nd b i).pedge
    else AR.nd b q := by
  unfold passStep
  cases (AR.nd b i).pedge with
  | none => simp [AR.setCedge]
  | some v =>
    cases (AR.nd b i).parent with
    | none => simp
    | some q0 =>
      rw [AR.nd_set]
      by_cases hq : q = q0
      · subst hq; simp only [true_and]
      · rw [if_neg (fun h => hq h.1), if_neg (fun h => hq (Option.some.inj h.1).symm)]

theorem EqButCedges.setCedge {x y : AR.Node} (h : EqButCedges x y) (c : Nat) (e : Option Int) :
    EqButCedges (AR.setCedge x c e) y := by
  cases e
  · exact h
  · exact h

theorem passInv_step {p : PArena} (hs : NW.Struct p) {k : Nat} {b : AR.Arena} (hk : k < p.size)
    (h : PassInv p k b) : PassInv p (k + 1) (passStep b k) := by
  have hfk := h.fields k hk
  have hnd : ∀ q, AR.nd (passStep b k) q = if (NW.nd p k).parent = some q ∧ q < p.size then
      AR.setCedge (AR.nd b q) k (NW.nd p k).len else AR.nd b q := fun q => by
    rw [nd_passStep, hfk.1, hfk.2.2.1, h.size]
    rfl
  -- the parent pointer of `k` is membership in a child list
  have hup : ∀ q, (NW.nd p k).parent = some q → k ∈ (NW.nd p q).children := fun q hp => by
    by_cases h0 : k = 0
    · subst h0; rw [(hs.root hk).1] at hp; cases hp
    · obtain ⟨q', hq', _, hm, _⟩ := hs.up k (Nat.pos_of_ne_zero h0) hk
      rw [hq'] at hp; cases hp; exact hm
  refine ⟨?_, ?_, ?_, ?_⟩
  · unfold passStep
    split
    · rw [Array.size_setIfInBounds]; exact h.size
    · exact h.size
  · intro q hq
    rw [hnd, if_neg (fun hc => Nat.not_lt.2 hq hc.2)]
    exact h.oob q hq
  · intro q hq
    rw [hnd]
    split
    · exact (h.fields q hq).setCedge k _
    · exact h.fields q hq
  · -- at key `k` the old map answers `none`, the new one the length of `k` if `q` is its parent; the other keys are untouched
    intro q c hq
    have hold := h.edges q
    rw [hnd]
    by_cases hck : c = k
    · subst hck
      split
      next hc =>
        rw [AR.setCedge_get, hold c hq, if_pos rfl, if_neg (fun h => Nat.lt_irrefl c h.1),
          if_pos ⟨Nat.lt_succ_self c, hup q hc.1⟩]
        cases (NW.nd p c).len <;> rfl
      next hc =>
        rw [hold c hq, if_neg (fun h => Nat.lt_irrefl c h.1),
          if_neg (fun h => hc ⟨(hs.down q c hq h.2).2, hq⟩)]
    · have hlt : c < k + 1 ↔ c < k :=
        ⟨fun hc => Nat.lt_of_le_of_ne (Nat.le_of_lt_succ hc) hck, Nat.lt_succ_of_lt⟩
      simp only [hlt, ← hold c hq]
      split
      · rw [AR.setCedge_get, if_neg hck]
      · rfl

theorem passInv_fold {p : PArena} (hs : NW.Struct p) : ∀ k, k ≤ p.size →
    PassInv p k ((List.range k).foldl passStep (toAR0 p))
  | 0, _ => by simpa using passInv_zero p
  | k + 1, hk => by
    rw [List.range_succ, List.foldl_append]
    exact passInv_step hs (by omega) (passInv_fold hs k (by omega))

/-- **the finishing pass produces `toAR`** (up to the representation of the edge maps: equal at every key) -/
theorem finishPass_sameMaps {p : PArena} (hs : NW.Struct p) : SameMaps (toAR p) (finishPass p) := by
  have h := passInv_fold hs p.size (Nat.le_refl _)
  refine ⟨by rw [size_toAR]; exact h.size, fun i => ?_⟩
  by_cases hi : i < p.size
  · rw [nd_toAR_lt p i hi]
    refine ⟨h.fields i hi, fun c => ?_, fun hd => by simp [toARNode] at hd⟩
    show AR.alGet (AR.nd (finishPass p) i).cedges c = _
    rw [finishPass, h.edges i c hi]
    simp only [toARNode, alGet_cedgesOf]
    by_cases hc : c ∈ (NW.nd p i).children
    · have := (hs.down i c hi hc).1
      simp [hc, this]
    · simp [hc]
  · rw [nd_toAR_ge p i (by omega)]
    have : AR.nd (finishPass p) i = AR.dead := h.oob i (by omega)
    rw [this]
    exact ⟨EqButCedges.rfl' _, fun _ => rfl, fun _ => rfl⟩

theorem SameMaps.live {a b : AR.Arena} (h : SameMaps a b) (i : Nat) : AR.live b i ↔ AR.live a i := by
  simp only [AR.live, h.1, (h.2 i).1.2.2.2.2.1]

theorem SameMaps.good {a b : AR.Arena} (h : SameMaps a b) (g : AR.Good a) : AR.Good b := by
  have hf := fun i => (h.2 i).1
  have hm := fun i => (h.2 i).2.1
  refine g.relink h.1
    (fun i => ⟨(hf i).1, (hf i).2.2.2.2.1, (hf i).2.2.2.1, (hf i).2.1 ▸ List.Perm.refl _⟩) ?_ ?_ ?_
  · intro i c hl hc
    rw [hm i c, (hf c).2.2.1]; exact (g.1.child_ok i c hl hc).2.2.2
  · intro i c hs
    exact g.1.cedge_dom i c (hm i c ▸ hs)
  · -- an edge map that answers `none` at every key is empty
    intro i _ hn
    cases hb : (AR.nd b i).cedges with
    | nil => rfl
    | cons kv l =>
      have := hm i kv.1
      rw [hb, hn] at this
      simp [AR.alGet] at this

theorem SameMaps.oneRoot {a b : AR.Arena} (h : SameMaps a b) (r : AR.AtMostOneRoot a) : AR.AtMostOneRoot b := by
  intro i j hi hj
  exact r i j ⟨(h.live i).1 hi.1, by rw [← (h.2 i).1.1]; exact hi.2⟩ ⟨(h.live j).1 hj.1, by rw [← (h.2 j).1.1]; exact hj.2⟩

theorem SameMaps.isLive {a b : AR.Arena} (h : SameMaps a b) (i : Nat) : AR.isLive b i = AR.isLive a i := by
  simp only [AR.isLive, h.1, (h.2 i).1.2.2.2.2.1]

theorem SameMaps.absF {a b : AR.Arena} (h : SameMaps a b) : ∀ (f x : Nat), AR.absF f b x = AR.absF f a x
  | 0, _ => rfl
  | f + 1, x => by
    have hf := (h.2 x).1
    simp only [AR.absF, h.isLive x, hf.2.1, hf.2.2.1, hf.2.2.2.1, hf.2.2.2.2.2.1]
    have : (fun c => AR.absF f b c) = (fun c => AR.absF f a c) := funext (fun c => SameMaps.absF h f c)
    rw [this]

theorem SameMaps.getRoot {a b : AR.Arena} (h : SameMaps a b) : AR.getRoot b = AR.getRoot a := by
  have : (fun i => AR.isLive b i && (AR.nd b i).parent.isNone) = (fun i => AR.isLive a i && (AR.nd a i).parent.isNone) := by
    funext i; rw [h.isLive i, (h.2 i).1.1]
  simp only [AR.getRoot, h.1, this]

theorem SameMaps.absRoot {a b : AR.Arena} (h : SameMaps a b) : AR.absRoot b = AR.absRoot a := by
  have hfu : AR.fuelOf b = AR.fuelOf a := by simp only [AR.fuelOf, h.1]
  have : (fun r => AR.QR.ofOpt (AR.absF (AR.fuelOf b) b r) "NodeNotFound")
      = (fun r => AR.QR.ofOpt (AR.absF (AR.fuelOf a) a r) "NodeNotFound") := by
    funext r; rw [hfu, h.absF]
  simp only [AR.absRoot, AR.root, h.getRoot]
  cases AR.getRoot a with
  | none => rfl
  | some r => simp only [AR.QR.ofOpt]; exact congrFun this r

/-- **a parsed arena, computed with the literal finishing pass, is a good arena and represents the parsed
    tree** -/
theorem finishPass_good_represents {a : PArena} (hs : NW.Struct a) {t : RTree Int} (hrep : NW.RepN a 0 t) :
    AR.Good (finishPass a) ∧ AR.AtMostOneRoot (finishPass a) ∧
    ∃ tb, AR.absRoot (finishPass a) = .ok tb ∧ AR.erase tb = eraseRT t := by
  have h := finishPass_sameMaps hs
  obtain ⟨g, r, tb, htb, he⟩ := parsed_good_represents hs hrep
  exact ⟨h.good g, h.oneRoot r, tb, by rw [h.absRoot]; exact htb, he⟩

/-- the two computations of the returned arena agree on a concrete text -/
example : (match NW.parse (fun l => some (l.length : Int)) "((A:x,B:xx)C:xxx,D)R:x;".toList with
    | .done p => (List.range p.size).all (fun i =>
        (AR.nd (finishPass p) i).cedges == (AR.nd (toAR p) i).cedges.reverse ||
        (AR.nd (finishPass p) i).cedges == (AR.nd (toAR p) i).cedges)
    | _ => false) = true := by
  conv in String.toList _ => rw [String.toList_ofList]
  decide +kernel

end LK
