import PhyloModel.Link.Convert
import PhyloModel.Link.IntCodec
import PhyloModel.Arena.AnswersDependOnTree
/-! The worked example of `Props/C04Link`: a text is parsed, the returned tree edited.  Its parse, its edits, its abstract
    tree and its written text are evaluated once, in `lk_eval` (root and text of `exB` in `exB_eval`); the property file
    takes the facts it needs from there. -/
namespace C04
open AR LK

/-- parse a text with a comment, a quoted name, a negative and a root length; prune the tip `B` (slot 3 becomes
    a removed slot) and rename `A`: the hypotheses of `parsed_edited_same_answers_as_freshly_parsed` hold -/
def lkText : List Char := "((A:1,B:-2)C[hi]:3,\"D e\")R:10;".toList
def lkP : PArena := match NW.parse parseD lkText with | .done p => p | _ => #[]
def lkOps : List Op := [.prune 3, .setName 2 (some "A2")]
def lkE : Arena := runOps (toAR lkP) lkOps
def lkT : Rose := .node 0 (some "R") (some 10) 0
  [.node 1 (some "C") (some 3) 1 [.node 2 (some "A2") (some 1) 2 []], .node 4 (some "\"D e\"") none 1 []]

/-- did the parser return a tree? -/
def isDone {L : Type} : NW.Res L → Bool | .done _ => true | _ => false

theorem isDone_elim {L : Type} {r : NW.Res L} (h : isDone r = true) : ∃ p, r = .done p := by
  cases r <;> first | exact ⟨_, rfl⟩ | cases h

theorem lk_eval : isDone (NW.parse parseD lkText) = true ∧ absIs lkE lkT = true ∧
    lkE.size = 5 ∧ isLive lkE 3 = false ∧
    NW.toNewickF showD lkE.size .allFields (toNW lkE) 0 = some "((A2:1)C:3[hi],\"D e\")R:10".toList := by
  -- the kernel decodes a string literal at about 20 k heartbeats a character: the two texts are first turned into lists
  -- of characters by `String.toList_ofList` (`rewrite [lkP]`, since `unfold lkP` makes the kernel run the parser once more)
  rewrite [lkE, lkP]
  unfold lkText
  conv in (occs := *) String.toList _ => all_goals rw [String.toList_ofList]
  decide +kernel

/-- the root and the written text of the arena `exB` (built with a detour, slot 1 removed) -/
theorem exB_eval : getRoot exB = some 0 ∧
    NW.toNewickF showD exB.size .allFields (toNW exB) 0 = some "(x:3,y:4)".toList := by
  decide +kernel

end C04
