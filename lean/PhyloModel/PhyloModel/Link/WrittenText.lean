import PhyloModel.Link.Convert
import PhyloModel.Props.C01
/-! # The written text of a library arena

For a well-formed one-rooted library arena `a` with abstract tree `ta`, the parser-side abstraction of the
converted arena `toNW a` at the root slot is the converted abstract tree `toRTc a ta` (names, lengths, shape
of `ta`, comments of the slots).  Hence, by the writer refinement `C01.writer_refines`, the modelled
`Tree::to_newick` prints exactly the rose-level text of that tree: "the current Newick text" of an arena —
whatever its slot layout and however many removed slots it holds — is `NW.write showLen (toRTc a ta)`. -/
namespace LK
open NW (PNode RTree Label)

mutual
theorem rep_repN (a : AR.Arena) : ∀ (t0 : AR.RTI) (i : Nat), AR.Rep a i t0 →
    NW.RepN (toNW a) i (toRTc a (AR.decorate a t0))
  | .node j ks, i, h => by
    rw [AR.Rep] at h
    obtain ⟨rfl, hl, hk⟩ := h
    have hi : i < a.size := hl.1
    rw [AR.decorate, toRTc, NW.RepN, nd_toNW_lt a i hi]
    exact ⟨by simpa using hi, rfl, rfl, rfl, repL_repNL a ks _ hk⟩
theorem repL_repNL (a : AR.Arena) : ∀ (ts : List AR.RTI) (cs : List Nat), AR.RepL a cs ts →
    NW.RepNL (toNW a) cs (toRTcL a (AR.decorateL a ts))
  | [], [], _ => by simp [AR.decorateL, toRTcL, NW.RepNL]
  | [], _ :: _, h => by rw [AR.RepL] at h; exact absurd h (by simp)
  | _ :: _, [], h => by rw [AR.RepL] at h; exact absurd h (by simp)
  | t :: ts, c :: cs, h => by
    rw [AR.RepL] at h
    rw [AR.decorateL, toRTcL, NW.RepNL]
    exact ⟨rep_repN a t c h.1, repL_repNL a ts cs h.2⟩
end

mutual
theorem ht_toRTc (a : AR.Arena) : ∀ t0 : AR.RTI, NW.ht (toRTc a (AR.decorate a t0)) = AR.height t0
  | .node j ks => by rw [AR.decorate, toRTc, NW.ht, AR.height, htL_toRTcL a ks]
theorem htL_toRTcL (a : AR.Arena) : ∀ ts : List AR.RTI, NW.htL (toRTcL a (AR.decorateL a ts)) = AR.heightL ts
  | [] => by rw [AR.decorateL, toRTcL, NW.htL, AR.heightL]
  | t :: ts => by rw [AR.decorateL, toRTcL, NW.htL, AR.heightL, ht_toRTc a t, htL_toRTcL a ts]
end

theorem written_rep {a : AR.Arena} (g : AR.Good a) (h1 : AR.AtMostOneRoot a) {ta : AR.Rose}
    (hta : AR.absRoot a = .ok ta) :
    ∃ r, AR.getRoot a = some r ∧ ta.id = r ∧ NW.RepN (toNW a) r (toRTc a ta) ∧ NW.ht (toRTc a ta) ≤ a.size := by
  obtain ⟨r, t0, c⟩ := AR.absRoot_ctx g.1 h1 hta
  refine ⟨r, c.root_eq, ?_, ?_, ?_⟩
  · rw [c.dec, AR.decorate_id]; exact c.rep.id_eq
  · rw [c.dec]; exact rep_repN a t0 r c.rep
  · rw [c.dec, ht_toRTc]
    have := AR.szR_le_size g.1.toW t0 r c.rep
    have := AR.height_le_szR t0
    omega

/-- **the current Newick text**: on a well-formed one-rooted arena — any slot layout, any number of removed
    slots — the modelled `Tree::to_newick` (root = the slot `get_root` returns, the fuel the driver supplies, or
    any larger one) prints the rose-level text of the abstract tree -/
theorem written_text {showLen : Int → Label} {a : AR.Arena} (g : AR.Good a) (h1 : AR.AtMostOneRoot a)
    {ta : AR.Rose} (hta : AR.absRoot a = .ok ta) :
    ∃ r, AR.getRoot a = some r ∧ ta.id = r ∧ ∀ fuel, a.size ≤ fuel →
      NW.toNewickF showLen fuel .allFields (toNW a) r = some (NW.write showLen (toRTc a ta)) := by
  obtain ⟨r, hr, hid, hrep, hht⟩ := written_rep g h1 hta
  exact ⟨r, hr, hid, fun fuel hf => C01.writer_refines (toNW a) r _ hrep fuel (by omega)⟩

/-- the label domain of C01, stated on the slots of a library arena -/
def SlotLabelsOK (a : AR.Arena) : Prop :=
  ∀ i, AR.live a i → NW.nameWF ((AR.nd a i).name.map String.toList) ∧
    NW.commentWF ((AR.nd a i).comment.map String.toList)

mutual
theorem wft_toRTc (a : AR.Arena) (hlab : SlotLabelsOK a) : ∀ (t0 : AR.RTI) (i : Nat), AR.Rep a i t0 →
    NW.WFT (toRTc a (AR.decorate a t0))
  | .node j ks, i, h => by
    rw [AR.Rep] at h
    obtain ⟨rfl, hl, hk⟩ := h
    rw [AR.decorate, toRTc, NW.WFT]
    exact ⟨(hlab i hl).1, (hlab i hl).2, wfl_toRTcL a hlab ks _ hk⟩
theorem wfl_toRTcL (a : AR.Arena) (hlab : SlotLabelsOK a) : ∀ (ts : List AR.RTI) (cs : List Nat), AR.RepL a cs ts →
    NW.WFL (toRTcL a (AR.decorateL a ts))
  | [], _, _ => by simp [AR.decorateL, toRTcL, NW.WFL]
  | _ :: _, [], h => by rw [AR.RepL] at h; exact absurd h (by simp)
  | t :: ts, c :: cs, h => by
    rw [AR.RepL] at h
    rw [AR.decorateL, toRTcL, NW.WFL]
    exact ⟨wft_toRTc a hlab t c h.1, wfl_toRTcL a hlab ts cs h.2⟩
end

theorem wft_of_slots {a : AR.Arena} (g : AR.Good a) (h1 : AR.AtMostOneRoot a) {ta : AR.Rose}
    (hta : AR.absRoot a = .ok ta) (hlab : SlotLabelsOK a) : NW.WFT (toRTc a ta) := by
  obtain ⟨r, t0, c⟩ := AR.absRoot_ctx g.1 h1 hta
  rw [c.dec]
  exact wft_toRTc a hlab t0 r c.rep

end LK
