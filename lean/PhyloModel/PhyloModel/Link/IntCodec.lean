import PhyloModel.Newick.RoundTrip
/-! # Branch-length codecs on `Int` satisfying the three laws of `NW.Codec`

Non-vacuity of the codec hypothesis of the linked C04 theorem (`L := Int`).
* `showD` / `parseD`: decimal digits with a leading `-` for negative values — `showD v` is the character list of
  `toString v` (`showD_eq_toString`); `parseD` accepts exactly an optional `-` followed by a non-empty run of
  decimal digits.
* `showU` / `parseU`: a sign letter followed by the magnitude in unary (the simplest injective rendering into
  plain characters). -/
namespace LK
open NW (Label)

def digitsVal (l : List Char) : Nat := l.foldl (fun acc (c : Char) => acc * 10 + (c.toNat - 48)) 0

def parseNatD (l : Label) : Option Nat :=
  if l ≠ [] ∧ l.all Char.isDigit = true then some (digitsVal l) else none

def showD (v : Int) : Label :=
  if v < 0 then '-' :: Nat.toDigits 10 v.natAbs else Nat.toDigits 10 v.natAbs

def parseD (l : Label) : Option Int :=
  if l.head? = some '-' then (parseNatD l.tail).map (fun (n : Nat) => -(n : Int))
  else (parseNatD l).map (fun (n : Nat) => (n : Int))

theorem digits_value (n : Nat) : digitsVal (Nat.toDigits 10 n) = n := by
  simpa [digitsVal, Nat.ofDigitChars, Nat.mul_comm] using Nat.ofDigitChars_ten_toDigits (n := n)

theorem digits_isDigit (n : Nat) : ∀ c ∈ Nat.toDigits 10 n, c.isDigit = true :=
  fun _ hc => Nat.isDigit_of_mem_toDigits (by decide) (by decide) hc

theorem parseNatD_digits (n : Nat) : parseNatD (Nat.toDigits 10 n) = some n := by
  unfold parseNatD
  have h1 : Nat.toDigits 10 n ≠ [] := Nat.toDigits_ne_nil
  have h2 : (Nat.toDigits 10 n).all Char.isDigit = true := by
    rw [List.all_eq_true]; exact digits_isDigit n
  rw [if_pos ⟨h1, h2⟩, digits_value]

theorem digits_head_ne_minus (n : Nat) : (Nat.toDigits 10 n).head? ≠ some '-' := by
  intro h
  have hm : '-' ∈ Nat.toDigits 10 n := List.mem_of_head? h
  have := digits_isDigit n '-' hm
  revert this; decide

theorem isDigit_plain (c : Char) (h : c.isDigit = true) : NW.plain c = true := by
  simp only [Char.isDigit, Bool.and_eq_true, decide_eq_true_eq] at h
  have h1 : 48 ≤ c.toNat := by
    have := h.1; exact UInt32.le_iff_toNat_le.mp this
  have h2 : c.toNat ≤ 57 := by
    have := h.2; exact UInt32.le_iff_toNat_le.mp this
  have hne : ∀ d : Char, (d.toNat < 48 ∨ 57 < d.toNat) → ¬ c = d := by
    intro d hd e; subst e; omega
  have hc : NW.classify c = .other := by
    unfold NW.classify
    rw [if_neg (hne _ (by decide)), if_neg (hne _ (by decide)), if_neg (hne _ (by decide)),
      if_neg (hne _ (by decide)), if_neg (hne _ (by decide)), if_neg (hne _ (by decide)),
      if_neg (hne _ (by decide)), if_neg (hne _ (by decide))]
  have hw : NW.isWs c = false := by
    simp only [NW.isWs, Bool.or_eq_false_iff, Bool.and_eq_false_iff, decide_eq_false_iff_not, beq_eq_false_iff_ne]
    omega
  simp [NW.plain, hc, hw]

theorem codecD : NW.Codec parseD showD := by
  constructor
  · intro v
    unfold showD parseD
    by_cases hv : v < 0
    · simp only [hv, ↓reduceIte, List.head?_cons, List.tail_cons, parseNatD_digits, Option.map_some]
      congr 1; omega
    · simp only [hv, ↓reduceIte, digits_head_ne_minus, parseNatD_digits, Option.map_some]
      congr 1; omega
  · intro v c hc
    unfold showD at hc
    split at hc
    · rcases List.mem_cons.mp hc with rfl | hc
      · decide
      · exact isDigit_plain c (digits_isDigit _ c hc)
    · exact isDigit_plain c (digits_isDigit _ c hc)
  · intro v
    unfold showD
    split
    · simp
    · exact Nat.toDigits_ne_nil

/-- `showD` is Lean's (and Rust's `i64`) decimal rendering -/
theorem showD_eq_toString (v : Int) : showD v = (toString v).toList := by
  unfold showD
  cases v with
  | ofNat n =>
    have : ¬ ((n : Int) < 0) := by omega
    simp [this, Int.repr, Nat.repr]
  | negSucc n =>
    have : Int.negSucc n < 0 := by omega
    simp [this, Int.natAbs, Int.repr, Nat.repr]

example : parseD "-120".toList = some (-120) ∧ parseD "7".toList = some 7 ∧ parseD "-".toList = none ∧
    parseD "1-2".toList = none ∧ parseD [] = none ∧ showD (-120) = "-120".toList := by decide +kernel

def showU (v : Int) : Label := (if v < 0 then 'n' else 'p') :: List.replicate v.natAbs 'x'
def parseU : Label → Option Int
  | 'p' :: r => some (r.length : Int)
  | 'n' :: r => some (-(r.length : Int))
  | _ => none

theorem codecU : NW.Codec parseU showU := by
  constructor
  · intro v
    unfold showU
    by_cases hv : v < 0
    · simp only [hv, ↓reduceIte, parseU, List.length_replicate]; congr 1; omega
    · simp only [hv, ↓reduceIte, parseU, List.length_replicate]; congr 1; omega
  · intro v c hc
    unfold showU at hc
    rcases List.mem_cons.mp hc with rfl | hc
    · split <;> decide
    · rw [List.eq_of_mem_replicate hc]; decide
  · intro v; simp [showU]

end LK
