import PhyloModel.Newick.StructRep
import PhyloModel.Arena.AbsRose
import PhyloModel.Arena.RoseStats
/-! # Link between the two component models: conversions

`NW` (character-level Newick parser / writer on arenas `Array (NW.PNode L)`, labels are `List Char`) and `AR`
(the arena of the tree library with all edits and queries, labels are `String`, lengths are `Int`) have different
carriers.  This file fixes `L := Int` and defines the conversions between

* parser arenas and library arenas: `toAR` (what `Tree::from_newick` returns, seen as an `AR.Arena`: the
  finishing pass of the parser mirrors every present `parent_edge` into the parent's `child_edges`) and
  `toNW` (the library arena as the writer sees it; removed slots become unreachable junk slots),
* the rose trees of the two sides: `eraseRT : NW.RTree Int → AR.RoseNL` (forget comments),
  `toRT : AR.RoseNL → NW.RTree Int` (no comments), `toRTc a : AR.Rose → NW.RTree Int` (comments read from
  the slots of `a`),

and proves the slot-access lemmas and the inverse laws. -/
namespace LK
open NW (PNode RTree Label)

abbrev PArena := Array (PNode Int)

/-- the `child_edges` map the finishing pass of `from_newick` leaves in a node with child list `cs`: one entry
    per child that carries a branch length -/
def cedgesOf (a : PArena) (cs : List Nat) : List (Nat × Int) :=
  cs.filterMap (fun c => (NW.nd a c).len.map (fun v => (c, v)))

def toARNode (a : PArena) (n : PNode Int) : AR.Node :=
  { parent := n.parent, children := n.children, pedge := n.len, cedges := cedgesOf a n.children,
    depth := n.depth, deleted := false, name := n.name.map String.ofList, comment := n.comment.map String.ofList }

def toAR (a : PArena) : AR.Arena := (a.toList.map (toARNode a)).toArray

@[simp] theorem size_toAR (a : PArena) : (toAR a).size = a.size := by simp [toAR]

theorem nd_toAR (a : PArena) (i : Nat) :
    AR.nd (toAR a) i = if i < a.size then toARNode a (NW.nd a i) else AR.dead := by
  simp only [AR.nd, NW.nd, toAR, Array.getD_eq_getD_getElem?, List.getElem?_toArray, List.getElem?_map,
    Array.getElem?_toList]
  by_cases h : i < a.size
  · simp [h]
  · simp [h]

theorem nd_toAR_lt (a : PArena) (i : Nat) (h : i < a.size) : AR.nd (toAR a) i = toARNode a (NW.nd a i) := by
  rw [nd_toAR, if_pos h]

theorem nd_toAR_ge (a : PArena) (i : Nat) (h : a.size ≤ i) : AR.nd (toAR a) i = AR.dead := by
  rw [nd_toAR, if_neg (by omega)]

theorem live_toAR (a : PArena) (i : Nat) : AR.live (toAR a) i ↔ i < a.size := by
  simp only [AR.live, size_toAR]
  constructor
  · exact fun h => h.1
  · intro h; exact ⟨h, by rw [nd_toAR_lt a i h]; rfl⟩

theorem alGet_cedgesOf (a : PArena) (cs : List Nat) (c : Nat) :
    AR.alGet (cedgesOf a cs) c = if c ∈ cs then (NW.nd a c).len else none := by
  induction cs with
  | nil => simp [cedgesOf, AR.alGet]
  | cons d ds ih =>
    unfold cedgesOf at ih ⊢
    rw [List.filterMap_cons]
    cases hl : (NW.nd a d).len with
    | none =>
      simp only [Option.map_none, ih, List.mem_cons]
      by_cases hcd : c = d
      · subst hcd; simp [hl]
      · simp [hcd]
    | some v =>
      simp only [Option.map_some, AR.alGet, ih, List.mem_cons]
      by_cases hcd : d = c
      · subst hcd; simp [hl]
      · have : ¬ c = d := fun e => hcd e.symm
        simp [hcd, this]

def toNWNode (n : AR.Node) : PNode Int :=
  { name := n.name.map String.toList, parent := n.parent, children := n.children, len := n.pedge,
    comment := n.comment.map String.toList, depth := n.depth }

def toNW (a : AR.Arena) : PArena := (a.toList.map toNWNode).toArray

@[simp] theorem size_toNW (a : AR.Arena) : (toNW a).size = a.size := by simp [toNW]

theorem nd_toNW_lt (a : AR.Arena) (i : Nat) (h : i < a.size) : NW.nd (toNW a) i = toNWNode (AR.nd a i) := by
  simp [AR.nd, NW.nd, toNW, Array.getD_eq_getD_getElem?, h]

theorem toNWNode_toARNode (p : PArena) (n : PNode Int) : toNWNode (toARNode p n) = n := by
  cases n
  simp [toNWNode, toARNode]

theorem toNW_toAR (p : PArena) : toNW (toAR p) = p := by
  simp only [toNW, toAR, List.map_map]
  have : (toNWNode ∘ toARNode p) = id := funext (fun n => toNWNode_toARNode p n)
  rw [this]
  simp

mutual
def eraseRT : RTree Int → AR.RoseNL
  | .node n l _ ks => .node (n.map String.ofList) l (eraseRTL ks)
def eraseRTL : List (RTree Int) → List AR.RoseNL
  | [] => []
  | k :: ks => eraseRT k :: eraseRTL ks
end

mutual
def toRT : AR.RoseNL → RTree Int
  | .node n l ks => .node (n.map String.toList) l none (toRTL ks)
def toRTL : List AR.RoseNL → List (RTree Int)
  | [] => []
  | k :: ks => toRT k :: toRTL ks
end

mutual
def toRTc (a : AR.Arena) : AR.Rose → RTree Int
  | .node i n l _ ks => .node (n.map String.toList) l ((AR.nd a i).comment.map String.toList) (toRTcL a ks)
def toRTcL (a : AR.Arena) : List AR.Rose → List (RTree Int)
  | [] => []
  | k :: ks => toRTc a k :: toRTcL a ks
end

theorem map_ofList_toList (n : Option String) : (n.map String.toList).map String.ofList = n := by
  cases n <;> simp
theorem map_toList_ofList (n : Option Label) : (n.map String.ofList).map String.toList = n := by
  cases n <;> simp

mutual
theorem eraseRT_toRT : ∀ T : AR.RoseNL, eraseRT (toRT T) = T
  | .node n l ks => by rw [toRT, eraseRT, map_ofList_toList, eraseRTL_toRTL ks]
theorem eraseRTL_toRTL : ∀ Ts : List AR.RoseNL, eraseRTL (toRTL Ts) = Ts
  | [] => by rw [toRTL, eraseRTL]
  | k :: ks => by rw [toRTL, eraseRTL, eraseRT_toRT k, eraseRTL_toRTL ks]
end

mutual
theorem eraseRT_toRTc (a : AR.Arena) : ∀ t : AR.Rose, eraseRT (toRTc a t) = AR.erase t
  | .node i n l d ks => by rw [toRTc, eraseRT, AR.erase, map_ofList_toList, eraseRTL_toRTcL a ks]
theorem eraseRTL_toRTcL (a : AR.Arena) : ∀ ts : List AR.Rose, eraseRTL (toRTcL a ts) = AR.eraseL ts
  | [] => by rw [toRTcL, eraseRTL, AR.eraseL]
  | k :: ks => by rw [toRTcL, eraseRTL, AR.eraseL, eraseRT_toRTc a k, eraseRTL_toRTcL a ks]
end

end LK
