import PhyloModel.Arena.BlankNames
/-! # The labels of an arena after an edit history

`Pay PN PC a`: every slot of `a` carries a name satisfying `PN` and a comment satisfying `PC` (where `PN none`
and `PC none` hold, so fresh and removed slots qualify).  It is the instance of `Kept` that ignores the removal
flag, and no operation of the model invents a label: every operation preserves `Pay PN PC`, provided the names
it is GIVEN (`add`, `add_child`, `set_name`, `merge_children`) satisfy `PN`.  Hence the labels found in the
arena after an edit history are labels of the start arena or names supplied by the history — a syntactic
condition on the history replaces the semantic label-domain hypothesis of the linked C04 theorem. -/
namespace AR

def Pay (PN PC : Option String → Prop) (a : Arena) : Prop := ∀ i, PN (nd a i).name ∧ PC (nd a i).comment

/-- the name an operation supplies, if any -/
def Op.givenName : Op → Option String
  | .add n => n
  | .addChild _ _ n => n
  | .setName _ n => n
  | .merge _ _ _ _ _ n => n
  | _ => none

variable {PN PC : Option String → Prop} (hN : PN none) (hC : PC none)
include hN hC

theorem pay_empty : Pay PN PC #[] := kept_empty (Q := fun _ n c => PN n ∧ PC c) ⟨hN, hC⟩

theorem applyOp_pay {a : Arena} (op : Op) (h : Pay PN PC a) (hn : PN op.givenName) :
    Pay PN PC (applyOp a op).1 := by
  refine applyOp_kept (Q := fun _ n c => PN n ∧ PC c) ⟨hN, hC⟩ ⟨hN, hC⟩ op h ?_
  cases op with
  | setName i n => exact ⟨hn, (h i).2⟩
  | add | addChild | merge => exact ⟨hn, hC⟩
  | _ => trivial

/-- **no operation invents a label**: after any history whose supplied names satisfy `PN`, every slot carries a
    name satisfying `PN` and a comment satisfying `PC`, if that was so at the start -/
theorem runOps_pay : ∀ (ops : List Op) {a : Arena}, Pay PN PC a → (∀ op ∈ ops, PN op.givenName) →
    Pay PN PC (runOps a ops)
  | [], _, h, _ => h
  | op :: ops, a, h, hok => by
    simp only [runOps, List.foldl_cons]
    exact runOps_pay ops (applyOp_pay hN hC op h (hok op (by simp))) (fun o ho => hok o (by simp [ho]))

end AR
