import PhyloModel.Link.Convert
import PhyloModel.Props.C02
import PhyloModel.Arena.QueryRefineNames
/-! # A parsed arena is a good arena

Every arena the Newick parser returns (`NW.Struct`, by `C02.parse_total_wf`) is, seen as a library arena
(`LK.toAR`: the finishing pass mirrors the branch lengths into the parents' edge maps), a well-formed arena
(`AR.Good`) without removed slots, with exactly one root (slot 0), and its abstract tree (`AR.absRoot`) is —
after forgetting ids, cached depths and comments — the rose tree the parser arena represents (`NW.RepN`,
in particular the tree `t` of `C01.roundtrip`'s `NW.Layout a 0 none t`). -/
namespace LK
open NW (PNode RTree Label)

/-- the structural invariant of the library arena holds for every parser arena: parents and child lists
    mirror each other, cached depths are levels (the parser's `add_child` sets parent depth plus one), child
    lists are duplicate-free, and the edge maps built by the finishing pass mirror the branch lengths -/
theorem toAR_inv {a : PArena} (h : NW.Struct a) : AR.Inv (toAR a) := by
  constructor
  · intro i c hl hc
    have hi : i < a.size := (live_toAR a i).1 hl
    rw [nd_toAR_lt a i hi] at hc ⊢
    simp only [toARNode] at hc ⊢
    obtain ⟨hci, hcs⟩ := NW.struct_child_gt h hi hc
    obtain ⟨p, hp, _, _, hd⟩ := h.up c (by omega) hcs
    have hpar := (h.down i c hi hc).2
    rw [hpar] at hp
    cases hp
    rw [nd_toAR_lt a c hcs]
    refine ⟨(live_toAR a c).2 hcs, hpar, hd, ?_⟩
    simp only [toARNode]
    rw [alGet_cedgesOf, if_pos hc]
  · intro i p hl hp
    have hi : i < a.size := (live_toAR a i).1 hl
    rw [nd_toAR_lt a i hi] at hp
    simp only [toARNode] at hp
    by_cases h0 : i = 0
    · subst h0
      rw [(h.root hi).1] at hp
      cases hp
    · obtain ⟨q, hq, hlt, hmem, _⟩ := h.up i (by omega) hi
      rw [hq] at hp
      cases hp
      have hps : p < a.size := by omega
      exact ⟨(live_toAR a p).2 hps, by rw [nd_toAR_lt a p hps]; exact hmem⟩
  · intro i
    rw [nd_toAR]
    split
    · exact h.nodup i
    · simp [AR.dead]
  · intro i hl hp
    have hi : i < a.size := (live_toAR a i).1 hl
    rw [nd_toAR_lt a i hi] at hp ⊢
    simp only [toARNode] at hp ⊢
    by_cases h0 : i = 0
    · subst h0; exact (h.root hi).2
    · obtain ⟨q, hq, _⟩ := h.up i (by omega) hi
      rw [hq] at hp
      cases hp
  · intro i c hs
    rw [nd_toAR] at hs ⊢
    split at hs
    next hi =>
      rw [if_pos hi]
      simp only [toARNode] at hs ⊢
      rw [alGet_cedgesOf] at hs
      split at hs
      next hm => exact hm
      next => simp at hs
    next => simp [AR.dead, AR.alGet] at hs

theorem toAR_deleted (a : PArena) (i : Nat) (hd : (AR.nd (toAR a) i).deleted = true) : AR.nd (toAR a) i = AR.dead := by
  rw [nd_toAR] at hd ⊢
  split
  · rw [if_pos (by assumption)] at hd; cases hd
  · rfl

theorem toAR_tomb (a : PArena) : AR.Tomb (toAR a) := fun i hd => by
  rw [toAR_deleted a i hd]; exact ⟨rfl, rfl, rfl⟩

theorem toAR_blank (a : PArena) : AR.BlankNames (toAR a) := fun i hd => by
  rw [toAR_deleted a i hd]; rfl

theorem toAR_good {a : PArena} (h : NW.Struct a) : AR.Good (toAR a) := ⟨toAR_inv h, toAR_tomb a⟩

theorem toAR_isRoot {a : PArena} (h : NW.Struct a) (i : Nat) (hr : AR.isRoot (toAR a) i) : i = 0 := by
  obtain ⟨hl, hp⟩ := hr
  have hi : i < a.size := (live_toAR a i).1 hl
  rw [nd_toAR_lt a i hi] at hp
  simp only [toARNode] at hp
  apply Classical.byContradiction
  intro h0
  obtain ⟨q, hq, _⟩ := h.up i (by omega) hi
  rw [hq] at hp
  cases hp

theorem toAR_oneRoot {a : PArena} (h : NW.Struct a) : AR.AtMostOneRoot (toAR a) := by
  intro i j hi hj
  rw [toAR_isRoot h i hi, toAR_isRoot h j hj]

theorem toAR_root_live {a : PArena} (h : NW.Struct a) (hpos : 0 < a.size) : AR.isRoot (toAR a) 0 := by
  refine ⟨(live_toAR a 0).2 hpos, ?_⟩
  rw [nd_toAR_lt a 0 hpos]
  exact (h.root hpos).1

mutual
/-- what a parser arena represents at slot `i` (through `NW.RepN`) is what the library arena represents there
    (through `AR.Rep`), up to ids, cached depths and comments -/
theorem repN_rep (a : PArena) : ∀ (t : RTree Int) (i : Nat), NW.RepN a i t →
    ∃ t0, AR.Rep (toAR a) i t0 ∧ AR.erase (AR.decorate (toAR a) t0) = eraseRT t
  | .node n l c kids, i, h => by
    rw [NW.RepN] at h
    obtain ⟨hi, hn, hl, _, hk⟩ := h
    obtain ⟨ts0, hr, he⟩ := repNL_repL a kids (NW.nd a i).children hk
    refine ⟨.node i ts0, ?_, ?_⟩
    · rw [AR.Rep]
      refine ⟨rfl, (live_toAR a i).2 hi, ?_⟩
      rw [nd_toAR_lt a i hi]
      exact hr
    · rw [AR.decorate, AR.erase, eraseRT, he, nd_toAR_lt a i hi]
      simp only [toARNode, hn, hl]
theorem repNL_repL (a : PArena) : ∀ (ks : List (RTree Int)) (cs : List Nat), NW.RepNL a cs ks →
    ∃ ts0, AR.RepL (toAR a) cs ts0 ∧ AR.eraseL (AR.decorateL (toAR a) ts0) = eraseRTL ks
  | [], [], _ => ⟨[], by simp [AR.RepL], by simp [AR.decorateL, AR.eraseL, eraseRTL]⟩
  | [], _ :: _, h => by rw [NW.RepNL] at h; exact absurd h (by simp)
  | _ :: _, [], h => by rw [NW.RepNL] at h; exact absurd h (by simp)
  | k :: ks, c :: cs, h => by
    rw [NW.RepNL] at h
    obtain ⟨t0, hr, he⟩ := repN_rep a k c h.1
    obtain ⟨ts0, hrs, hes⟩ := repNL_repL a ks cs h.2
    refine ⟨t0 :: ts0, ?_, ?_⟩
    · rw [AR.RepL]; exact ⟨hr, hrs⟩
    · rw [AR.decorateL, AR.eraseL, eraseRTL, he, hes]
end

/-- **a parsed arena is a good arena and represents the parsed tree**: for every `NW.Struct` arena (every
    arena the parser returns) that represents the rose tree `t` at slot 0, the library arena `toAR a` is well
    formed, has one root, and its abstract tree is `t` (names, branch lengths, ordered shape) -/
theorem parsed_good_represents {a : PArena} (hs : NW.Struct a) {t : RTree Int} (hrep : NW.RepN a 0 t) :
    AR.Good (toAR a) ∧ AR.AtMostOneRoot (toAR a) ∧
    ∃ tb, AR.absRoot (toAR a) = .ok tb ∧ AR.erase tb = eraseRT t := by
  have g := toAR_good hs
  have h1 := toAR_oneRoot hs
  refine ⟨g, h1, ?_⟩
  have hpos : 0 < a.size := by cases t; rw [NW.RepN] at hrep; exact hrep.1
  have hroot := toAR_root_live hs hpos
  obtain ⟨tb, htb⟩ := AR.absRoot_total g.1 h1 0 hroot.1
  refine ⟨tb, htb, ?_⟩
  obtain ⟨r, t0, c⟩ := AR.absRoot_ctx g.1 h1 htb
  have hr : 0 = r := c.only_root 0 hroot.1 hroot.2
  subst hr
  obtain ⟨t0', hr', he'⟩ := repN_rep a t 0 hrep
  have := AR.rep_unique _ t0 t0' 0 c.rep hr'
  subst this
  rw [c.dec, he']

theorem reparsed_rep {L : Type} {parseLen : Label → Option L} {showLen : L → Label} (hc : NW.Codec parseLen showLen)
    {t : RTree L} (hwf : NW.WFT t) :
    ∃ a', NW.parse parseLen (NW.write showLen t ++ [';']) = .done a' ∧ NW.Struct a' ∧ NW.RepN a' 0 t := by
  obtain ⟨a', hp, hl⟩ := C01.roundtrip hc t hwf
  exact ⟨a', hp, ((C02.parse_total_wf parseLen _).2 a' hp).1, NW.layout_rep a' _ 0 none hl⟩

/-- **every successful parse yields a good arena**: whatever the text, if the parser accepts it the returned
    arena is well formed as a library arena, has exactly one root, no removed slot, and an abstract tree -/
theorem parse_good (parseLen : Label → Option Int) (cs : List Char) (a : PArena)
    (h : NW.parse parseLen cs = .done a) :
    AR.Good (toAR a) ∧ AR.AtMostOneRoot (toAR a) ∧ AR.getRoot (toAR a) = some 0 ∧
    (∀ i, i < (toAR a).size → AR.live (toAR a) i) ∧ ∃ tb, AR.absRoot (toAR a) = .ok tb := by
  obtain ⟨hs, hpos⟩ := (C02.parse_total_wf parseLen cs).2 a h
  have g := toAR_good hs
  have h1 := toAR_oneRoot hs
  have hroot := toAR_root_live hs hpos
  obtain ⟨r, hr, hget, _, _⟩ := AR.one_tree g.1 h1 0 hroot.1
  have : r = 0 := toAR_isRoot hs r hr
  subst this
  exact ⟨g, h1, hget, fun i hi => (live_toAR a i).2 (by simpa using hi), AR.absRoot_total g.1 h1 0 hroot.1⟩

end LK
