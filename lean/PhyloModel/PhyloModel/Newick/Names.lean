import PhyloModel.Newick.Layout
import PhyloModel.Newick.Domain
/-! What the parser keeps true of the labels it stores: comments are non-empty and `]`-free (`commentWF`), and the
    name buffer is in step with the quote flag.

    `NameSync q buf` says that the quote automaton `nameOKFrom`, started outside quotes and run over `buf`, is alive
    and in state `q` (stated extensionally: for every continuation `rest`,
    `nameOKFrom false (buf ++ rest) = nameOKFrom q rest`). -/
namespace NW
variable {L : Type}

theorem commentWF_push (o : Option Label) (c : Char) (h : commentWF o) (hc : c ≠ ']') : commentWF (pushc o c) := by
  refine ⟨by simp, fun d hd => ?_⟩
  rcases List.mem_append.1 hd with hd | hd
  · cases o with
    | none => cases hd
    | some l => exact h.2 d hd
  · rw [List.mem_singleton.1 hd]; exact hc

def NameSync (q : Bool) (o : Option Label) : Prop :=
  (∀ nm, o = some nm → nm ≠ []) ∧ ∀ rest, nameOKFrom false (o.getD [] ++ rest) = nameOKFrom q rest

theorem nameSync_none : NameSync false none := ⟨(by intro nm h; cases h), (by intro rest; simp)⟩

theorem pushc_ne_nil (o : Option Label) (c : Char) : ∀ nm, pushc o c = some nm → nm ≠ [] := by
  intro nm h; simp only [pushc, Option.some.injEq] at h; subst h; simp

theorem pushc_getD (o : Option Label) (c : Char) (rest : List Char) :
    (pushc o c).getD [] ++ rest = o.getD [] ++ (c :: rest) := by
  simp [pushc]

theorem nameSync_push_in (o : Option Label) (c : Char) (h : NameSync true o) (hc : c ≠ '"') :
    NameSync true (pushc o c) := by
  refine ⟨pushc_ne_nil o c, ?_⟩
  intro rest
  rw [pushc_getD, h.2 (c :: rest)]
  simp [nameOKFrom, hc]

theorem nameSync_push_quote (q : Bool) (o : Option Label) (h : NameSync q o) :
    NameSync (!q) (pushc o '"') := by
  refine ⟨pushc_ne_nil o '"', ?_⟩
  intro rest
  rw [pushc_getD, h.2 ('"' :: rest)]
  cases q <;> simp [nameOKFrom]

theorem nameSync_push_plain (o : Option Label) (c : Char) (h : NameSync false o) (hc : plain c = true) :
    NameSync false (pushc o c) := by
  refine ⟨pushc_ne_nil o c, ?_⟩
  intro rest
  rw [pushc_getD, h.2 (c :: rest)]
  have hne : c ≠ '"' := by intro hq; subst hq; simp [plain, classify] at hc
  simp [nameOKFrom, hne, hc]

theorem nameSync_wf (o : Option Label) (h : NameSync false o) : nameWF o := by
  cases o with
  | none => simp [nameWF]
  | some nm =>
    refine ⟨h.1 nm rfl, ?_⟩
    have := h.2 []
    simpa [nameOKFrom] using this

/-- all stored labels are in the domain of the round trip -/
def LabelsOK (a : Array (PNode L)) : Prop := ∀ i, nameWF (nd a i).name ∧ commentWF (nd a i).comment

theorem labelsOK_empty : LabelsOK (#[] : Array (PNode L)) := by
  intro i; simp [nd, dflt, nameWF, commentWF]

theorem labelsOK_push_dflt (a : Array (PNode L)) (h : LabelsOK a) : LabelsOK (a.push {}) := by
  intro i; rw [nd_push]; split
  · simp [nameWF, commentWF]
  · exact h i

theorem labelsOK_addChild (a : Array (PNode L)) (p : Nat) (hp : p < a.size) (h : LabelsOK a) :
    LabelsOK (addChild a p) := by
  intro i
  rw [nd_addChild a p hp]
  split
  · simp [nameWF, commentWF]
  · split
    · exact h p
    · exact h i

theorem labelsOK_setFields (a : Array (PNode L)) (j : Nat) (n : Option Label) (l : Option L) (c : Option Label)
    (h : LabelsOK a) (hn : nameWF n) (hc : commentWF c) : LabelsOK (setFields a j n l c) := by
  intro i
  simp only [setFields, nd_modify]
  split
  · refine ⟨?_, hc⟩
    cases n with
    | none => simpa [orKeep] using (h i).1
    | some nm => simpa [orKeep] using hn
  · exact h i

end NW
