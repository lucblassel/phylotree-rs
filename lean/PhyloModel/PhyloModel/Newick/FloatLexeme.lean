import PhyloModel.Newick.BalancedTok
/-! The recogniser for the lexemes Rust's `f64::from_str` accepts (`isRustFloat`, `parseLex`) and the proof that it refuses
    every lexeme containing a double quote (`QuoteRefusing parseLex`).  The differential-testing driver (`Driver.lean`)
    imports this file and runs exactly these definitions, so the theorem is about what the driver runs. -/
namespace NW.FloatTwin

def lower (c : Char) : Char := if 'A' ≤ c ∧ c ≤ 'Z' then Char.ofNat (c.toNat + 32) else c
def isDig (c : Char) : Bool := '0' ≤ c && c ≤ '9'
def spanDigits : List Char → (Nat × List Char)
  | c :: cs => if isDig c then let (n, r) := spanDigits cs; (n + 1, r) else (0, c :: cs)
  | [] => (0, [])
def expOk : List Char → Bool
  | [] => true
  | c :: cs =>
    if c == 'e' || c == 'E' then
      let cs' := match cs with | '+' :: r => r | '-' :: r => r | r => r
      let (n, r) := spanDigits cs'
      n > 0 && r.isEmpty
    else false
def numberOk (s : List Char) : Bool :=
  let (n1, r1) := spanDigits s
  match r1 with
  | '.' :: r2 =>
    let (n2, r3) := spanDigits r2
    (n1 + n2 > 0) && expOk r3
  | _ => n1 > 0 && expOk r1
def isRustFloat (s : List Char) : Bool :=
  let body := match s with | '+' :: r => r | '-' :: r => r | r => r
  let lw := body.map lower
  lw == "inf".toList || lw == "infinity".toList || lw == "nan".toList || numberOk body
def parseLex (s : NW.Label) : Option NW.Label := if isRustFloat s then some s else none

theorem spanDigits_quote (s : List Char) : '"' ∈ s → '"' ∈ (spanDigits s).2 := by
  induction s with
  | nil => intro h; simp at h
  | cons c cs ih =>
    intro h
    rw [spanDigits]
    split
    next hd =>
      have hc : c ≠ '"' := by intro e; subst e; revert hd; decide
      exact ih (List.mem_of_ne_of_mem (Ne.symm hc) h)
    · exact h

theorem expOk_quote (s : List Char) (h : '"' ∈ s) : expOk s = false := by
  fun_cases expOk s
  · simp at h
  next c cs he cs' n r hsp =>
    have hc : c ≠ '"' := by intro e; subst e; revert he; decide
    have hcs := List.mem_of_ne_of_mem (Ne.symm hc) h
    have hq' : '"' ∈ cs' := by
      simp only [cs']
      split
      · exact List.mem_of_ne_of_mem (by decide) hcs
      · exact List.mem_of_ne_of_mem (by decide) hcs
      · exact hcs
    have := spanDigits_quote cs' hq'
    rw [hsp] at this
    cases r with
    | nil => simp at this
    | cons x xs => simp
  · rfl

theorem numberOk_quote (s : List Char) (h : '"' ∈ s) : numberOk s = false := by
  have h1 := spanDigits_quote s h
  fun_cases numberOk s
  next n1 r2 n2 r3 hsp2 hsp1 =>
    rw [hsp1] at h1
    have h2 : '"' ∈ r2 := List.mem_of_ne_of_mem (by decide) h1
    have h3 := spanDigits_quote r2 h2
    rw [hsp2] at h3
    simp [expOk_quote _ h3]
  next n1 r1 hsp1 _ =>
    rw [hsp1] at h1
    simp [expOk_quote _ h1]

theorem lower_quote : lower '"' = '"' := by decide

theorem core_quote (body : List Char) (hb : '"' ∈ body) :
    (body.map lower == "inf".toList || body.map lower == "infinity".toList || body.map lower == "nan".toList ||
      numberOk body) = false := by
  have hm : '"' ∈ body.map lower := by
    rw [← lower_quote]; exact List.mem_map_of_mem hb
  have k : ∀ w : List Char, '"' ∉ w → (body.map lower == w) = false := by
    intro w hw
    apply Classical.byContradiction
    intro hne
    simp only [Bool.not_eq_false, beq_iff_eq] at hne
    rw [hne] at hm
    exact hw hm
  rw [k _ (by decide), k _ (by decide), k _ (by decide), numberOk_quote _ hb]
  rfl

theorem isRustFloat_quote (s : List Char) (h : '"' ∈ s) : isRustFloat s = false := by
  unfold isRustFloat
  simp only []
  split
  · exact core_quote _ (List.mem_of_ne_of_mem (by decide) h)
  · exact core_quote _ (List.mem_of_ne_of_mem (by decide) h)
  · exact core_quote _ h

theorem parseLex_refusing : QuoteRefusing parseLex := by
  intro l h
  simp [parseLex, isRustFloat_quote l h]

end NW.FloatTwin
