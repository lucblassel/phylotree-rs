import PhyloModel.Newick.BalancedTok
/-! Sanity of the lexical specification: on text without `"` and `[` every parenthesis and every `;` is
    structural, so `toks3` is "the parentheses before the first `;`", and the general rejection theorem
    specialises to a statement about the text itself. -/
namespace NW
variable {L : Type} (parseLen : Label → Option L)

def isParen (c : Char) : Bool := c == '(' || c == ')'

theorem toks3_plain_text : ∀ (cs : List Char), '"' ∉ cs → '[' ∉ cs → ∀ ts, toks3 .plain cs = some ts →
    ∃ mid post, cs = mid ++ ';' :: post ∧ ';' ∉ mid ∧ ts = mid.filter isParen
  | [], _, _, ts, h => by simp [toks3] at h
  | c :: cs, hq, hb, ts, h => by
    simp only [List.mem_cons, not_or] at hq hb
    have hn : next3 .plain c = .plain := by
      simp [next3, Ne.symm hq.1, Ne.symm hb.1]
    rw [toks3, hn] at h
    by_cases h1 : c = ';'
    · subst h1
      simp only [true_and, ↓reduceIte, Option.some.injEq] at h
      exact ⟨[], cs, by simp, by simp, by simp [← h]⟩
    · simp only [h1, and_false, ↓reduceIte, true_and] at h
      by_cases h2 : c = '(' ∨ c = ')'
      · rw [if_pos h2] at h
        cases ht : toks3 .plain cs with
        | none => rw [ht] at h; cases h
        | some ts' =>
          rw [ht] at h
          simp only [Option.map_some, Option.some.injEq] at h
          obtain ⟨mid, post, e1, e2, e3⟩ := toks3_plain_text cs hq.2 hb.2 ts' ht
          refine ⟨c :: mid, post, by simp [e1], ?_, ?_⟩
          · simp only [List.mem_cons, not_or]; exact ⟨Ne.symm h1, e2⟩
          · have : isParen c = true := by rcases h2 with rfl | rfl <;> decide
            simp [this, ← h, e3]
      · rw [if_neg h2] at h
        obtain ⟨mid, post, e1, e2, e3⟩ := toks3_plain_text cs hq.2 hb.2 ts h
        refine ⟨c :: mid, post, by simp [e1], ?_, ?_⟩
        · simp only [List.mem_cons, not_or]; exact ⟨Ne.symm h1, e2⟩
        · have : isParen c = false := by
            simp only [not_or] at h2
            simp [isParen, h2.1, h2.2]
          simp [this, e3]

theorem lenQuoteFree_of_no_quote : ∀ (cs : List Char) (m : LMode), '"' ∉ cs → lenQuoteFree m cs = true
  | [], _, _ => by simp [lenQuoteFree]
  | c :: cs, m, hq => by
    simp only [List.mem_cons, not_or] at hq
    rw [lenQuoteFree]
    split
    · rfl
    · rw [if_neg (fun h => hq.1 h.2.symm)]
      exact lenQuoteFree_of_no_quote cs _ hq.2

/-- **unbalanced parentheses are rejected**: if text without `"` and `[` is accepted, it has the form
    `mid ++ ';' :: post` with no `;` in `mid`, as many `(` as `)` in `mid`, and no prefix of `mid` closing
    more parentheses than it opened -/
theorem accepted_is_balanced (cs : List Char) (hq : '"' ∉ cs) (hb : '[' ∉ cs) (a : Array (PNode L))
    (h : parse parseLen cs = .done a) :
    ∃ mid post, cs = mid ++ ';' :: post ∧ ';' ∉ mid ∧ mid.count '(' = mid.count ')' ∧
      ∀ p, p <+: mid → p.count ')' ≤ p.count '(' := by
  obtain ⟨ts, e1, e2, e3⟩ := accepted_is_balanced_exact parseLen cs a h
  rw [ltoks_eq_toks3 cs .name (lenQuoteFree_of_no_quote cs .name hq)] at e1
  obtain ⟨mid, post, g1, g2, g3⟩ := toks3_plain_text cs hq hb ts e1
  subst g3
  have cl : ∀ xs : List Char, (xs.filter isParen).count '(' = xs.count '(' := fun _ => List.count_filter (by decide)
  have cr : ∀ xs : List Char, (xs.filter isParen).count ')' = xs.count ')' := fun _ => List.count_filter (by decide)
  refine ⟨mid, post, g1, g2, by rw [← cl, ← cr]; exact e2, fun p hp => ?_⟩
  rw [← cl, ← cr]
  exact e3 (p.filter isParen) (List.IsPrefix.filter isParen hp)

end NW
