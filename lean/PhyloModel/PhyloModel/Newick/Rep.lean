import PhyloModel.Newick.Writer
import PhyloModel.Newick.Layout
/-! Layout-independent abstraction of an arena: `RepN a i t` says that slot `i` represents the rose tree
    `t` through the recorded child lists, whatever the ids are (pre-order, breadth-first, with unused
    slots in between).  The arena writer (`toNewickF`, what the driver runs and the harness compares with
    `Tree::to_newick`) refines the rose-level writer `writeF`: it returns `writeF f t` on every arena that
    represents `t`. -/
namespace NW
variable {L : Type} (showLen : L → Label)

mutual
def writeF (f : FM.Fmt) : RTree L → List Char
  | .node n l c [] => nodeText showLen f true n l c
  | .node n l c (k :: ks) => '(' :: (writeF f k ++ writeRestF f ks) ++ (')' :: nodeText showLen f false n l c)
def writeRestF (f : FM.Fmt) : List (RTree L) → List Char
  | [] => []
  | k :: ks => ',' :: (writeF f k ++ writeRestF f ks)
end

theorem joinComma_write (f : FM.Fmt) : ∀ (k : RTree L) (ks : List (RTree L)),
    joinComma (writeF showLen f k :: ks.map (writeF showLen f)) = writeF showLen f k ++ writeRestF showLen f ks
  | k, [] => by simp [joinComma, writeRestF]
  | k, k2 :: ks => by
    rw [List.map_cons, joinComma, joinComma_write f k2 ks, writeRestF]

mutual
def RepN (a : Array (PNode L)) : Nat → RTree L → Prop
  | i, .node n l c kids =>
    i < a.size ∧ (nd a i).name = n ∧ (nd a i).len = l ∧ (nd a i).comment = c ∧ RepNL a (nd a i).children kids
def RepNL (a : Array (PNode L)) : List Nat → List (RTree L) → Prop
  | [], [] => True
  | c :: cs, k :: ks => RepN a c k ∧ RepNL a cs ks
  | [], _ :: _ => False
  | _ :: _, [] => False
end

mutual
def ht : RTree L → Nat
  | .node _ _ _ kids => 1 + htL kids
def htL : List (RTree L) → Nat
  | [] => 0
  | k :: ks => max (ht k) (htL ks)
end

mutual
theorem layout_rep (a : Array (PNode L)) : ∀ (t : RTree L) (i : Nat) (par : Option Nat), Layout a i par t → RepN a i t
  | .node n l c kids, i, par, h => by
    rw [Layout] at h
    obtain ⟨hi, hn, hl, hc, _, hch, hL⟩ := h
    rw [RepN]
    refine ⟨hi, hn, hl, hc, ?_⟩
    rw [hch]
    exact layoutL_rep a kids (i + 1) i hL
theorem layoutL_rep (a : Array (PNode L)) : ∀ (ks : List (RTree L)) (j p : Nat), LayoutL a j p ks → RepNL a (kidIds j ks) ks
  | [], j, p, _ => by simp [kidIds, RepNL]
  | k :: ks, j, p, h => by
    rw [LayoutL] at h
    rw [kidIds, RepNL]
    exact ⟨layout_rep a k j (some p) h.1, layoutL_rep a ks (j + sz k) p h.2⟩
end

mutual
/-- write_abs: on every arena that represents `t` at slot `i`, the arena writer returns the rose-level text
    of `t`, provided the fuel covers the height of `t` -/
theorem toNewickF_rep (f : FM.Fmt) (a : Array (PNode L)) :
    ∀ (t : RTree L) (fuel i : Nat), RepN a i t → ht t ≤ fuel →
      toNewickF showLen fuel f a i = some (writeF showLen f t)
  | .node n l c kids, fuel, i, h, hf => by
    rw [RepN] at h
    obtain ⟨hi, hn, hl, hc, hch⟩ := h
    cases fuel with
    | zero => simp [ht] at hf
    | succ fuel =>
      have hkids := toNewickL_rep f a kids fuel _ hch (by rw [ht] at hf; omega)
      rw [toNewickF, if_pos hi]
      -- the child list of the slot and the list of subtrees are empty together
      cases hk : (nd a i).children with
      | nil =>
        rw [hk] at hch
        cases kids with
        | nil => simp only [hk, hn, hl, hc, writeF]
        | cons k ks => rw [RepNL] at hch; exact hch.elim
      | cons x xs =>
        rw [hk] at hch hkids
        cases kids with
        | nil => rw [RepNL] at hch; exact hch.elim
        | cons k ks =>
          simp only [hk, hkids, hn, hl, hc, writeF]
          rw [List.map_cons, joinComma_write]
          simp
theorem toNewickL_rep (f : FM.Fmt) (a : Array (PNode L)) :
    ∀ (ks : List (RTree L)) (fuel : Nat) (cs : List Nat), RepNL a cs ks → htL ks ≤ fuel →
      cs.mapM (fun c => toNewickF showLen fuel f a c) = some (ks.map (writeF showLen f))
  | [], fuel, cs, h, _ => by
    cases cs with
    | nil => simp
    | cons x xs => rw [RepNL] at h; exact absurd h (by simp)
  | k :: ks, fuel, cs, h, hf => by
    cases cs with
    | nil => rw [RepNL] at h; exact absurd h (by simp)
    | cons x xs =>
      rw [RepNL] at h
      rw [htL] at hf
      rw [List.mapM_cons, toNewickF_rep f a k fuel x h.1 (by omega), toNewickL_rep f a ks fuel xs h.2 (by omega)]
      simp
end

mutual
theorem ht_le_sz : ∀ t : RTree L, ht t ≤ sz t
  | .node n l c kids => by rw [ht, sz]; have := htL_le_szL kids; omega
theorem htL_le_szL : ∀ ks : List (RTree L), htL ks ≤ szL ks
  | [] => by simp [htL]
  | k :: ks => by rw [htL, szL]; have := ht_le_sz k; have := htL_le_szL ks; omega
end

end NW
