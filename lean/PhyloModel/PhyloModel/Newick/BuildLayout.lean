import PhyloModel.Newick.Top
/-! `buildT` lays the tree out in pre-order: the arena the parser returns for `write t ++ ";"` is a `Layout` of `t`. -/
namespace NW
variable {L : Type}

/-- what `buildKids`/`buildT` guarantee: everything below `a.size` except `p` is untouched, `p` only gains children -/
structure Frame (a r : Array (PNode L)) (p : Nat) (newKids : List Nat) (grow : Nat) : Prop where
  size : r.size = a.size + grow
  other : ∀ j, j < a.size → j ≠ p → nd r j = nd a j
  par : nd r p = { nd a p with children := (nd a p).children ++ newKids }

mutual
theorem buildT_layout : ∀ (t : RTree L) (a : Array (PNode L)) (p : Nat), p < a.size →
    Layout (buildT a p t) a.size (some p) t ∧ Frame a (buildT a p t) p [a.size] (sz t)
  | .node n l c kids, a, p, hp => by
    have hac := nd_addChild a p hp
    have ⟨hL, hF⟩ := buildKids_layout kids (addChild a p) a.size (by simp)
    simp only [size_addChild] at hL hF
    obtain ⟨hFs, hFo, hFp⟩ := hF
    simp only [size_addChild] at hFs hFo
    have hidlt : a.size < (buildKids (addChild a p) a.size kids).size := by omega
    have hsf := nd_setFields (buildKids (addChild a p) a.size kids) a.size hidlt n l c
    have hself : nd (addChild a p) a.size = { parent := some p, depth := (nd a p).depth + 1 } := by
      rw [hac]; simp
    constructor
    · simp only [buildT, Layout]
      rw [hsf a.size]
      simp only [↓reduceIte, size_setFields]
      rw [hFp, hself]
      refine ⟨hidlt, by simp [orKeep]; cases n <;> rfl, by simp, by simp, by simp, by simp, ?_⟩
      apply layoutL_stable _ _ kids (a.size + 1) a.size (by simp) _ hL
      intro x hx1 hx2
      rw [hsf x]
      have : x ≠ a.size := by omega
      simp [this]
    · simp only [buildT]
      constructor
      · simp [hFs]; omega
      · intro j hj hjp
        rw [hsf j]
        have : j ≠ a.size := by omega
        simp only [this, ↓reduceIte]
        rw [hFo j (by omega) this, hac j]
        simp [this, hjp]
      · rw [hsf p]
        have : p ≠ a.size := by omega
        simp only [this, ↓reduceIte]
        rw [hFo p (by omega) this, hac p]
        simp [this]
theorem buildKids_layout : ∀ (ks : List (RTree L)) (a : Array (PNode L)) (p : Nat), p < a.size →
    LayoutL (buildKids a p ks) a.size p ks ∧ Frame a (buildKids a p ks) p (kidIds a.size ks) (szL ks)
  | [], a, p, hp => by
    simp only [buildKids, LayoutL, kidIds, true_and]
    exact ⟨by simp, fun _ _ _ => rfl, by simp⟩
  | k :: ks, a, p, hp => by
    have ⟨hL1, hF1⟩ := buildT_layout k a p hp
    obtain ⟨hs1, ho1, hp1⟩ := hF1
    have ⟨hL2, hF2⟩ := buildKids_layout ks (buildT a p k) p (by omega)
    obtain ⟨hs2, ho2, hp2⟩ := hF2
    rw [hs1] at hL2 hs2 ho2 hp2
    constructor
    · simp only [buildKids, LayoutL]
      refine ⟨?_, hL2⟩
      apply layout_stable _ _ k a.size (some p) (by omega) _ hL1
      intro j hj1 hj2
      exact ho2 j (by omega) (by omega)
    · simp only [buildKids]
      constructor
      · simp [hs2]; omega
      · intro j hj hjp
        rw [ho2 j (by omega) hjp, ho1 j hj hjp]
      · rw [hp2, hp1]
        simp [kidIds]
end

theorem rootArena_layout : ∀ t : RTree L, Layout (rootArena t) 0 none t
  | .node n l c kids => by
    have ⟨hL, hF⟩ := buildKids_layout kids (#[({} : PNode L)]) 0 (by simp)
    obtain ⟨hs, ho, hp⟩ := hF
    simp only [List.size_toArray, List.length_cons, List.length_nil, Nat.zero_add] at hL hs ho hp
    have h0 : nd (#[({} : PNode L)]) 0 = {} := by simp [nd]
    have hpos : 0 < (buildKids (#[({} : PNode L)]) 0 kids).size := by omega
    simp only [rootArena, Layout]
    rw [nd_modify]
    simp only [hpos, and_self, ↓reduceIte, Array.size_modify]
    rw [hp, h0]
    refine ⟨trivial, by simp, by simp [orKeep]; cases l <;> rfl, by simp, by simp, by simp, ?_⟩
    apply layoutL_stable _ _ kids 1 0 (by simp) _ hL
    intro x hx1 hx2
    rw [nd_modify]
    have : x ≠ 0 := by omega
    simp [this]

end NW
