import PhyloModel.Newick.Basic
import PhyloModel.Misc.ListLemmas
/-! What the parser's arena updates (`push`, `modify`, `addChild`, `setFields`) do to the size and to each slot read
    through `nd`, and `Layout a i par t`: the arena holds `t` in pre-order from slot `i` on. -/
namespace NW
variable {L : Type}

@[simp] theorem size_addChild (a : Array (PNode L)) (p : Nat) : (addChild a p).size = a.size + 1 := by
  simp [addChild]
@[simp] theorem size_setFields (a : Array (PNode L)) (i : Nat) n l c : (setFields a i n l c).size = a.size := by
  simp [setFields]

theorem nd_oob (a : Array (PNode L)) (i : Nat) (h : a.size ≤ i) : nd a i = dflt := by
  simp [nd, Array.getD_eq_getD_getElem?, Array.getElem?_eq_none h]

theorem nd_push (a : Array (PNode L)) (x : PNode L) (i : Nat) :
    nd (a.push x) i = if i = a.size then x else nd a i :=
  Array.getD_push a x dflt i

theorem nd_modify (a : Array (PNode L)) (p : Nat) (f : PNode L → PNode L) (i : Nat) :
    nd (a.modify p f) i = if i = p ∧ p < a.size then f (nd a i) else nd a i := by
  simp only [nd, Array.getD_eq_getD_getElem?, Array.getElem?_modify]
  grind

theorem nd_addChild (a : Array (PNode L)) (p : Nat) (hp : p < a.size) (i : Nat) :
    nd (addChild a p) i =
      if i = a.size then { parent := some p, depth := (nd a p).depth + 1 }
      else if i = p then { nd a p with children := (nd a p).children ++ [a.size] }
      else nd a i := by
  simp only [addChild, nd_modify, nd_push, Array.size_push]
  grind

theorem nd_setFields (a : Array (PNode L)) (j : Nat) (hj : j < a.size) n l c (i : Nat) :
    nd (setFields a j n l c) i =
      if i = j then { nd a j with name := orKeep n (nd a j).name,
                                  len := (if (nd a j).parent.isSome then l else (nd a j).len), comment := c }
      else nd a i := by
  simp only [setFields, nd_modify]
  grind

mutual
def sz : RTree L → Nat
  | .node _ _ _ kids => 1 + szL kids
def szL : List (RTree L) → Nat
  | [] => 0
  | k :: ks => sz k + szL ks
end

@[simp] theorem sz_node (n l c) (kids : List (RTree L)) : sz (.node n l c kids) = 1 + szL kids := by simp [sz]
@[simp] theorem szL_nil : szL ([] : List (RTree L)) = 0 := by simp [szL]
@[simp] theorem szL_cons (k : RTree L) (ks) : szL (k :: ks) = sz k + szL ks := by simp [szL]

def kidIds : Nat → List (RTree L) → List Nat
  | _, [] => []
  | j, k :: ks => j :: kidIds (j + sz k) ks

mutual
/-- `t` is laid out in pre-order at `[i, i + sz t)`; `par` is the recorded parent -/
def Layout (a : Array (PNode L)) : Nat → Option Nat → RTree L → Prop
  | i, par, .node n l c kids =>
    i < a.size ∧ (nd a i).name = n ∧ (nd a i).len = l ∧ (nd a i).comment = c ∧ (nd a i).parent = par ∧
    (nd a i).children = kidIds (i + 1) kids ∧ LayoutL a (i + 1) i kids
def LayoutL (a : Array (PNode L)) : Nat → Nat → List (RTree L) → Prop
  | _, _, [] => True
  | j, p, k :: ks => Layout a j (some p) k ∧ LayoutL a (j + sz k) p ks
end

mutual
theorem layout_stable (a a' : Array (PNode L)) : ∀ (t : RTree L) (i : Nat) (par : Option Nat),
    a.size ≤ a'.size → (∀ j, i ≤ j → j < i + sz t → nd a' j = nd a j) → Layout a i par t → Layout a' i par t
  | .node n l c kids, i, par, hsz, hfr, h => by
    simp only [Layout] at h ⊢
    simp only [sz_node] at hfr
    obtain ⟨h1, h2, h3, h4, h5, h6, h7⟩ := h
    have hi := hfr i (Nat.le_refl _) (by omega)
    refine ⟨by omega, by rw [hi]; exact h2, by rw [hi]; exact h3, by rw [hi]; exact h4, by rw [hi]; exact h5,
      by rw [hi]; exact h6, ?_⟩
    exact layoutL_stable a a' kids (i + 1) i hsz (fun j hj1 hj2 => hfr j (by omega) (by omega)) h7
theorem layoutL_stable (a a' : Array (PNode L)) : ∀ (ks : List (RTree L)) (j p : Nat),
    a.size ≤ a'.size → (∀ x, j ≤ x → x < j + szL ks → nd a' x = nd a x) → LayoutL a j p ks → LayoutL a' j p ks
  | [], _, _, _, _, _ => by simp [LayoutL]
  | k :: ks, j, p, hsz, hfr, h => by
    simp only [LayoutL] at h ⊢
    simp only [szL_cons] at hfr
    exact ⟨layout_stable a a' k j (some p) hsz (fun x h1 h2 => hfr x h1 (by omega)) h.1,
           layoutL_stable a a' ks (j + sz k) p hsz (fun x h1 h2 => hfr x (by omega) (by omega)) h.2⟩
end

end NW
