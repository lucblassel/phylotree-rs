/-! Model of `Tree::from_newick` (`src/tree/tree_impl.rs`) as a fold of `step` over the characters, for an abstract
    branch-length type `L` (the finishing pass that fills `child_edges` is `LK.finishPass`), and the writer on rose trees. -/
namespace NW

inductive Tok where | quote | lbr | rbr | lpar | colon | comma | rpar | semi | other
deriving DecidableEq, Repr

def classify (c : Char) : Tok :=
  if c = '"' then .quote else if c = '[' then .lbr else if c = ']' then .rbr
  else if c = '(' then .lpar else if c = ':' then .colon else if c = ',' then .comma
  else if c = ')' then .rpar else if c = ';' then .semi else .other

/-- Rust `char::is_whitespace` (Unicode White_Space) -/
def isWs (c : Char) : Bool :=
  let n := c.toNat
  (9 ≤ n && n ≤ 13) || n == 32 || n == 0x85 || n == 0xA0 || n == 0x1680 ||
  (0x2000 ≤ n && n ≤ 0x200A) || n == 0x2028 || n == 0x2029 || n == 0x202F || n == 0x205F || n == 0x3000

def plain (c : Char) : Bool := classify c == .other && !isWs c

inductive Field where | name | length | comment deriving DecidableEq, Repr

abbrev Label := List Char

structure PNode (L : Type) where
  name : Option Label := none
  parent : Option Nat := none
  children : List Nat := []
  len : Option L := none
  comment : Option Label := none
  depth : Nat := 0
deriving Repr

@[ext] structure St (L : Type) where
  nodes : Array (PNode L) := #[]
  field : Field := .name
  curName : Option Label := none
  curLen : Option Label := none
  curComment : Option Label := none
  curIdx : Option Nat := none
  stack : List Nat := []       -- head = top of `parent_stack`
  opens : Nat := 0             -- `open_delimiters.len()`
  quotes : Bool := false

inductive Err where | noSubtreeParent | unclosedBracket | noSemicolon | floatError | nodeNotFound | wsInNumber
deriving DecidableEq, Repr

inductive Res (L : Type) where
  | cont (s : St L) | done (nodes : Array (PNode L)) | err (e : Err) | panic

def pushc (o : Option Label) (c : Char) : Option Label := some (o.getD [] ++ [c])

variable {L : Type}

def dflt : PNode L := {}
def nd (a : Array (PNode L)) (i : Nat) : PNode L := a.getD i dflt

/-- `Tree::add_child(Node::new(), p, None)`; caller guarantees `p < a.size` (else `NodeNotFound`) -/
def addChild (a : Array (PNode L)) (p : Nat) : Array (PNode L) :=
  let id := a.size
  let a1 := a.push { parent := some p, depth := (nd a p).depth + 1 }
  a1.modify p (fun n => { n with children := n.children ++ [id] })

def orKeep {α : Type} (new old : Option α) : Option α :=
  match new with | some x => some x | none => old

/-- field update of the `,`/`)` arms: `set_name` if a name was read, `set_parent(parent, edge)` if the
    node has a parent, `comment = current_comment` -/
def setFields (a : Array (PNode L)) (i : Nat) (n : Option Label) (l : Option L) (c : Option Label) :
    Array (PNode L) :=
  a.modify i (fun x =>
    { x with name := orKeep n x.name, len := (if x.parent.isSome then l else x.len), comment := c })

def parseEdge (parseLen : Label → Option L) : Option Label → Option (Option L)
  | some l => (parseLen l).map some
  | none => some none

variable (parseLen : Label → Option L)

/-- the part shared by the `,` and `)` arms: find/create the node, set its fields, clear the cursor.
    Returns the new arena and state pieces. -/
def commit (s : St L) : Res L :=
  -- node to operate on
  let tgt : Option (Array (PNode L) × Nat) :=
    match s.curIdx with
    | some i => if i < s.nodes.size then some (s.nodes, i) else none
    | none => match s.stack with
      | p :: _ => if p < s.nodes.size then some (addChild s.nodes p, s.nodes.size) else none
      | [] => none
  match tgt with
  | none => .err .noSubtreeParent   -- (get_mut failure / fixed `unreachable!`) both are errors in the fixed code
  | some (a, i) =>
    match parseEdge parseLen s.curLen with
    | none => .err .floatError
    | some edge =>
      .cont { s with nodes := setFields a i s.curName edge s.curComment, curName := none, curLen := none, curComment := none,
                     curIdx := some i, field := .name }

def stepField (s : St L) (c : Char) : Res L :=
  match s.field with
  | .name => .cont { s with curName := pushc s.curName c }
  | .length => if isWs c then .err .wsInNumber else .cont { s with curLen := pushc s.curLen c }
  | .comment => .panic

def step (s : St L) (c : Char) : Res L :=
  if s.quotes && s.field == .name && c != '"' then .cont { s with curName := pushc s.curName c }
  else if s.field == .comment && c != ']' then .cont { s with curComment := pushc s.curComment c }
  else if isWs c && !s.quotes then .cont s
  else match classify c with
    | .quote =>
      -- (repaired) a quote only delimits part of a NAME; in a branch length it is an ordinary character of the
      -- lexeme (which the float parser then refuses); in a comment it never gets here
      if s.field == .name then .cont { s with quotes := !s.quotes, curName := pushc s.curName c }
      else stepField s c
    | .lbr => .cont { s with field := .comment }
    | .rbr => .cont { s with field := .name }
    | .colon => .cont { s with field := .length }
    | .lpar =>
      match s.stack with
      | [] => if s.nodes.size = 0 then
                .cont { s with nodes := s.nodes.push {}, stack := [0], opens := s.opens + 1 }
              else .err .noSubtreeParent
      | p :: _ => if p < s.nodes.size then
                .cont { s with nodes := addChild s.nodes p, stack := s.nodes.size :: s.stack, opens := s.opens + 1 }
              else .err .nodeNotFound
    | .comma =>
      if s.stack = [] then .err .noSubtreeParent else
      match commit parseLen s with
      | .cont s' => .cont { s' with curIdx := none }
      | r => r
    | .rpar =>
      if s.stack = [] then .err .noSubtreeParent else
      match commit parseLen s with
      | .cont s' =>
        match s'.stack with
        | p :: ps => .cont { s' with curIdx := some p, stack := ps, opens := s'.opens - 1 }
        | [] => .err .noSubtreeParent
      | r => r
    | .semi =>
      if s.opens ≠ 0 then .err .unclosedBracket else
      let tgt : Option (Array (PNode L) × Nat) :=
        match s.curIdx with
        | some i => if i < s.nodes.size then some (s.nodes, i) else none
        | none => if s.nodes.size = 0 then some (s.nodes.push {}, 0) else none
      match tgt with
      | none => .err .noSubtreeParent
      | some (a, i) =>
        match parseEdge parseLen s.curLen with
        | none => .err .floatError
        | some edge =>
          .done (a.modify i (fun n => { n with name := s.curName, comment := s.curComment, len := orKeep edge n.len }))
    | .other => stepField s c

def run (s : St L) : List Char → Res L
  | [] => .cont s
  | c :: cs => match step parseLen s c with
    | .cont s' => run s' cs
    | r => r

def parse (cs : List Char) : Res L :=
  match run parseLen {} cs with
  | .cont _ => .err .noSemicolon
  | r => r

/-! ### rose tree and writer -/

inductive RTree (L : Type) where
  | node (name : Option Label) (len : Option L) (comment : Option Label) (kids : List (RTree L))

variable (showLen : L → Label)

def lenPart : Option L → List Char
  | some v => ':' :: showLen v
  | none => []
def commentPart : Option Label → List Char
  | some v => '[' :: (v ++ [']'])
  | none => []
def label (n : Option Label) (l : Option L) (c : Option Label) : List Char :=
  (n.getD []) ++ lenPart showLen l ++ commentPart c

mutual
def write : RTree L → List Char
  | .node n l c [] => label showLen n l c
  | .node n l c (k :: ks) => '(' :: (write k ++ writeRest ks) ++ (')' :: label showLen n l c)
def writeRest : List (RTree L) → List Char
  | [] => []
  | k :: ks => ',' :: (write k ++ writeRest ks)
end

end NW
