import PhyloModel.Newick.Build
/-! Reading `write t` from a clean state with stack top `p` reaches `pend s p t`; reading a child list and its `)`
    commits every child and pops the stack (mutual induction on the tree). -/
namespace NW
variable {L : Type} (parseLen : Label → Option L) (showLen : L → Label)

theorem clean_cleanWith (s : St L) (a) (idx) (hq : s.quotes = false) : Clean (cleanWith s a idx) :=
  ⟨rfl, rfl, rfl, rfl, hq⟩

theorem pend_frame (s : St L) (p : Nat) (t : RTree L) :
    (pend showLen s p t).quotes = s.quotes ∧ (pend showLen s p t).stack = s.stack ∧
      (pend showLen s p t).opens = s.opens := by
  match t with
  | .node n l c [] => exact ⟨rfl, rfl, rfl⟩
  | .node n l c (k :: ks) => exact ⟨rfl, rfl, rfl⟩

theorem pend_commit (hc : Codec parseLen showLen) (s : St L) (hs : Clean s) (p : Nat) (ps : List Nat)
    (hst : s.stack = p :: ps) (hp : p < s.nodes.size) (hidx : s.curIdx = none) (t : RTree L) :
    AtToken (pend showLen s p t) ∧
      CommitCont parseLen (pend showLen s p t) (cleanWith (pend showLen s p t) (buildT s.nodes p t) (some s.nodes.size)) :=
  ⟨match t with
    | .node n l c [] => afterLabel_atToken showLen s hs.q n l c
    | .node n l c (k :: ks) => afterLabel_atToken showLen
        { s with nodes := buildKids (addChild s.nodes p) s.nodes.size (k :: ks), curIdx := some s.nodes.size } hs.q n l c,
    commit_cont_inv parseLen (commit_pend parseLen showLen hc s p ps hst hp hidx t)⟩

theorem step_comma_pend (hc : Codec parseLen showLen) (s : St L) (hs : Clean s) (p : Nat) (ps : List Nat)
    (hst : s.stack = p :: ps) (hp : p < s.nodes.size) (hidx : s.curIdx = none) (t : RTree L) :
    step parseLen (pend showLen s p t) ',' =
      .cont (cleanWith s (buildT s.nodes p t) none) := by
  obtain ⟨ht, hcm⟩ := pend_commit parseLen showLen hc s hs p ps hst hp hidx t
  obtain ⟨hq, hstk, hop⟩ := pend_frame showLen s p t
  rw [(StepCont.comma ht (by rw [hstk, hst]; exact List.cons_ne_nil _ _) hcm).step_eq]
  congr 1
  apply St.ext <;> simp [cleanWith, hq, hstk, hop]

theorem step_rpar_pend (hc : Codec parseLen showLen) (s : St L) (hs : Clean s) (p : Nat) (ps : List Nat)
    (hst : s.stack = p :: ps) (hp : p < s.nodes.size) (hidx : s.curIdx = none) (t : RTree L) :
    step parseLen (pend showLen s p t) ')' =
      .cont { cleanWith s (buildT s.nodes p t) (some p) with stack := ps, opens := s.opens - 1 } := by
  obtain ⟨ht, hcm⟩ := pend_commit parseLen showLen hc s hs p ps hst hp hidx t
  obtain ⟨hq, hstk, hop⟩ := pend_frame showLen s p t
  rw [(StepCont.rpar ht hcm (p := p) (ps := ps) (by rw [← hst, ← hstk]; rfl)).step_eq]
  congr 1
  apply St.ext <;> simp [cleanWith, hq, hop]

def writeKids : List (RTree L) → List Char
  | [] => []
  | k :: ks => write showLen k ++ writeRest showLen ks

mutual
theorem run_tree (hc : Codec parseLen showLen) :
    ∀ (t : RTree L) (s : St L) (rest : List Char) (p : Nat) (ps : List Nat),
      Clean s → s.stack = p :: ps → p < s.nodes.size → s.curIdx = none → WFT t →
      run parseLen s (write showLen t ++ rest) = run parseLen (pend showLen s p t) rest
  | .node n l c [], s, rest, p, ps, hs, hst, hp, hidx, hwf => by
    simp only [write, pend]
    exact run_label parseLen showLen hc s hs n l c hwf.1 hwf.2.1 rest
  | .node n l c (k :: ks), s, rest, p, ps, hs, hst, hp, hidx, hwf => by
    simp only [write, pend, List.cons_append, List.append_assoc, run]
    rw [(StepCont.lparChild hs.atToken hst hp).step_eq]
    simp only []
    have hwfk : WFL (k :: ks) := hwf.2.2
    have hk := run_kids hc (k :: ks) { s with nodes := addChild s.nodes p, stack := s.nodes.size :: s.stack, opens := s.opens + 1 } (label showLen n l c ++ rest) s.nodes.size (p :: ps)
          ⟨hs.field, hs.nm, hs.ln, hs.cm, hs.q⟩ (congrArg _ hst) (by simp) hidx hwfk (List.cons_ne_nil _ _)
    simp only [writeKids, List.append_assoc] at hk
    rw [hk]
    rw [run_label parseLen showLen hc _ (by exact ⟨rfl, rfl, rfl, rfl, hs.q⟩) n l c hwf.1 hwf.2.1 rest]
    simp only [afterLabel, cleanWith, hst, Nat.add_sub_cancel]
theorem run_kids (hc : Codec parseLen showLen) :
    ∀ (kids : List (RTree L)) (s : St L) (rest : List Char) (p : Nat) (ps : List Nat),
      Clean s → s.stack = p :: ps → p < s.nodes.size → s.curIdx = none → WFL kids → kids ≠ [] →
      run parseLen s (writeKids showLen kids ++ (')' :: rest)) =
        run parseLen { cleanWith s (buildKids s.nodes p kids) (some p) with stack := ps, opens := s.opens - 1 } rest
  | [], _, _, _, _, _, _, _, _, _, hne => absurd rfl hne
  | [k], s, rest, p, ps, hs, hst, hp, hidx, hks, _ => by
    simp only [writeKids, writeRest, List.append_nil]
    rw [run_tree hc k s _ p ps hs hst hp hidx hks.1]
    simp only [run]
    rw [step_rpar_pend parseLen showLen hc s hs p ps hst hp hidx k]
    simp only [buildKids]
  | k :: k2 :: ks', s, rest, p, ps, hs, hst, hp, hidx, hks, _ => by
    simp only [writeKids, writeRest, List.append_assoc, List.cons_append]
    rw [run_tree hc k s _ p ps hs hst hp hidx hks.1]
    simp only [run]
    rw [step_comma_pend parseLen showLen hc s hs p ps hst hp hidx k]
    simp only []
    have hsz := size_buildT s.nodes p k
    have hrec := run_kids hc (k2 :: ks') (cleanWith s (buildT s.nodes p k) none) rest p ps
          (clean_cleanWith _ _ _ hs.q) hst (Nat.lt_trans hp hsz) rfl hks.2 (List.cons_ne_nil _ _)
    simp only [writeKids, List.append_assoc] at hrec
    rw [hrec]
    congr 1
end

end NW
