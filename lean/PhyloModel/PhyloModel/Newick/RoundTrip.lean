import PhyloModel.Newick.StepCases
import PhyloModel.Newick.Domain
/-! The codec laws (`Codec`) and what `run` does on a well-quoted name, on a branch-length lexeme and on comment text. -/
namespace NW
variable {L : Type} (parseLen : Label → Option L) (showLen : L → Label)

structure Codec : Prop where
  rt : ∀ l, parseLen (showLen l) = some l
  plainChars : ∀ l c, c ∈ showLen l → plain c = true
  nonempty : ∀ l, showLen l ≠ []

theorem parseEdge_show (hc : Codec parseLen showLen) (l : Option L) :
    parseEdge parseLen (l.map showLen) = some l := by
  cases l <;> simp [parseEdge, hc.rt]

theorem run_append_cont (s s' : St L) (xs ys : List Char) (h : run parseLen s xs = .cont s') :
    run parseLen s (xs ++ ys) = run parseLen s' ys := by
  induction xs generalizing s with
  | nil => simp [run] at h; subst h; rfl
  | cons c cs ih =>
    simp only [List.cons_append, run] at h ⊢
    split at h <;> simp_all

def appendTo (o : Option Label) (xs : List Char) : Option Label :=
  if xs = [] then o else some (o.getD [] ++ xs)

theorem appendTo_cons (o : Option Label) (c : Char) (cs : List Char) :
    appendTo (pushc o c) cs = appendTo o (c :: cs) := by
  cases cs <;> simp [appendTo, pushc]

theorem run_name (xs : List Char) (s : St L) (hf : s.field = .name)
    (hok : nameOKFrom s.quotes xs = true) :
    run parseLen s xs = .cont { s with curName := appendTo s.curName xs, quotes := false } := by
  induction xs generalizing s with
  | nil =>
    have hq : s.quotes = false := by cases q : s.quotes <;> simp [q, nameOKFrom] at hok ⊢
    cases s; cases hq; rfl
  | cons c cs ih =>
    -- one step pushes `c`; a `"` also flips the flag
    have push : ∀ q' : Bool, nameOKFrom q' cs = true →
        step parseLen s c = .cont { s with quotes := q', curName := pushc s.curName c } →
        run parseLen s (c :: cs) = .cont { s with curName := appendTo s.curName (c :: cs), quotes := false } := by
      intro q' hok' h1
      simp only [run, h1]
      rw [ih { s with quotes := q', curName := pushc s.curName c } hf hok', ← appendTo_cons]
    by_cases hc : c = '"'
    · subst hc
      refine push (!s.quotes) ?_ (StepCont.quoteName hf).step_eq
      cases q : s.quotes <;> simpa [q, nameOKFrom] using hok
    · cases q : s.quotes with
      | true =>
        refine push true ?_ (by rw [← q]; exact (StepCont.quoted q hf hc).step_eq)
        simpa [q, nameOKFrom, hc] using hok
      | false =>
        have hok' : plain c = true ∧ nameOKFrom false cs = true := by simpa [q, nameOKFrom, hc] using hok
        exact push false hok'.2 (by rw [← q]; exact (StepCont.nameChar hok'.1 hf q).step_eq)

theorem run_plain_len (xs : List Char) (s : St L) (hx : ∀ c ∈ xs, plain c = true)
    (hq : s.quotes = false) (hf : s.field = .length) :
    run parseLen s xs = .cont { s with curLen := appendTo s.curLen xs } := by
  induction xs generalizing s with
  | nil => cases s; rfl
  | cons c cs ih =>
    simp only [run, (StepCont.lenChar (hx c List.mem_cons_self) hf).step_eq]
    rw [ih { s with curLen := pushc s.curLen c } (fun d hd => hx d (List.mem_cons_of_mem _ hd)) hq hf, ← appendTo_cons]

theorem run_comment (xs : List Char) (s : St L) (hx : ∀ c ∈ xs, c ≠ ']')
    (hf : s.field = .comment) (hq : s.quotes = false) :
    run parseLen s xs = .cont { s with curComment := appendTo s.curComment xs } := by
  induction xs generalizing s with
  | nil => cases s; rfl
  | cons c cs ih =>
    simp only [run, (StepCont.inComment hf (hx c List.mem_cons_self)).step_eq]
    rw [ih { s with curComment := pushc s.curComment c } (fun d hd => hx d (List.mem_cons_of_mem _ hd)) hf hq,
      ← appendTo_cons]

end NW
