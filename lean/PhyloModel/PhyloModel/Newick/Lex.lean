import PhyloModel.Newick.Basic
/-! Lexical specifications of the Newick reader, independent of the parser state `St`.

* `Mode3`/`next3`/`toks3`: the reading every user has in mind — three modes (plain text, inside double quotes,
  inside a bracket comment); `(`, `)`, `;` are structural only in plain mode.
* `LMode`/`lnext`/`lenQuoteFree`: the same with plain mode split in "name part" and "length part" (after `:`),
  used to say *no double quote occurs inside a branch length*.
* `ltoks`: the exact token stream of the real reader on the four modes.  It differs from the three-mode
  reading only after a `"` inside a branch length (kept as a character of the length lexeme).

`toks… m cs = some ts`: a structural `;` exists and `ts` are the structural parentheses before the first one;
`none`: no structural `;`. -/
namespace NW

inductive Mode3 where | plain | quoted | comment
deriving DecidableEq, Repr

def next3 : Mode3 → Char → Mode3
  | .plain, c => if c = '"' then .quoted else if c = '[' then .comment else .plain
  | .quoted, c => if c = '"' then .plain else .quoted
  | .comment, c => if c = ']' then .plain else .comment

def toks3 : Mode3 → List Char → Option (List Char)
  | _, [] => none
  | m, c :: cs =>
    if m = .plain ∧ c = ';' then some []
    else if m = .plain ∧ (c = '(' ∨ c = ')') then (toks3 (next3 m c) cs).map (c :: ·)
    else toks3 (next3 m c) cs

inductive LMode where | name | quoted | comment | length
deriving DecidableEq, Repr

def lnext : LMode → Char → LMode
  | .name, c => if c = '"' then .quoted else if c = '[' then .comment else if c = ':' then .length else .name
  | .quoted, c => if c = '"' then .name else .quoted
  | .comment, c => if c = ']' then .name else .comment
  | .length, c => if c = '[' then .comment else if c = ']' ∨ c = ',' ∨ c = ')' then .name else .length

/-- are `(`, `)`, `,`, `;` read as tokens in this mode? -/
def LMode.tokenMode (m : LMode) : Prop := m = .name ∨ m = .length
instance (m : LMode) : Decidable m.tokenMode := by unfold LMode.tokenMode; infer_instance

/-- up to the first structural `;`, no `"` is read inside a branch length -/
def lenQuoteFree : LMode → List Char → Bool
  | _, [] => true
  | m, c :: cs =>
    if m.tokenMode ∧ c = ';' then true
    else if m = .length ∧ c = '"' then false
    else lenQuoteFree (lnext m c) cs

def LMode.proj : LMode → Mode3
  | .name => .plain | .length => .plain | .quoted => .quoted | .comment => .comment

/-- the exact token stream of the reader: like `toks3`, except that a `"` inside a branch length does not
    open a quoted section (it becomes part of the length lexeme, which the number parser then refuses) -/
def ltoks : LMode → List Char → Option (List Char)
  | _, [] => none
  | m, c :: cs =>
    if m.tokenMode ∧ c = ';' then some []
    else if m.tokenMode ∧ (c = '(' ∨ c = ')') then (ltoks (lnext m c) cs).map (c :: ·)
    else ltoks (lnext m c) cs

/-- the parser's `field` / quote flag in each mode -/
def LMode.fld : LMode → Field
  | .name => .name | .quoted => .name | .comment => .comment | .length => .length
def LMode.q : LMode → Bool
  | .quoted => true | _ => false

def Balanced (ts : List Char) : Prop :=
  ts.count '(' = ts.count ')' ∧ ∀ p, p <+: ts → p.count ')' ≤ p.count '('

theorem proj_plain (m : LMode) : (m.proj = .plain) ↔ m.tokenMode := by
  cases m <;> simp [LMode.proj, LMode.tokenMode]

theorem special_cases (c : Char) : c = '"' ∨ c = '[' ∨ c = ']' ∨ c = ',' ∨ c = ')' ∨ c = ':' ∨
    (c ≠ '"' ∧ c ≠ '[' ∧ c ≠ ']' ∧ c ≠ ',' ∧ c ≠ ')' ∧ c ≠ ':') := by
  by_cases h1 : c = '"'
  · exact .inl h1
  by_cases h2 : c = '['
  · exact .inr (.inl h2)
  by_cases h3 : c = ']'
  · exact .inr (.inr (.inl h3))
  by_cases h4 : c = ','
  · exact .inr (.inr (.inr (.inl h4)))
  by_cases h5 : c = ')'
  · exact .inr (.inr (.inr (.inr (.inl h5))))
  by_cases h6 : c = ':'
  · exact .inr (.inr (.inr (.inr (.inr (.inl h6)))))
  exact .inr (.inr (.inr (.inr (.inr (.inr ⟨h1, h2, h3, h4, h5, h6⟩)))))

theorem next3_proj (m : LMode) (c : Char) (h : ¬ (m = .length ∧ c = '"')) :
    next3 m.proj c = (lnext m c).proj := by
  rcases special_cases c with rfl | rfl | rfl | rfl | rfl | rfl | ⟨h1, h2, h3, h4, h5, h6⟩ <;>
    cases m <;> simp_all [next3, lnext, LMode.proj]

/-- on text with no `"` inside a branch length the exact token stream is the three-mode token stream -/
theorem ltoks_eq_toks3 : ∀ (cs : List Char) (m : LMode), lenQuoteFree m cs = true →
    ltoks m cs = toks3 m.proj cs
  | [], m, _ => by simp [ltoks, toks3]
  | c :: cs, m, h => by
    rw [lenQuoteFree] at h
    rw [ltoks, toks3]
    simp only [proj_plain]
    by_cases h1 : m.tokenMode ∧ c = ';'
    · simp [h1]
    · simp only [h1, ↓reduceIte] at h ⊢
      by_cases h2 : m = .length ∧ c = '"'
      · simp [h2] at h
      · simp only [h2, ↓reduceIte] at h
        rw [next3_proj m c h2, ltoks_eq_toks3 cs (lnext m c) h]

end NW
