import PhyloModel.Newick.QuoteInv
namespace NW
variable {L : Type} (parseLen : Label → Option L)

/-- C02, normal-form hypothesis: quote-free text only ever yields labels C01 can round-trip.
    The case `labels_ok_all` of text without `"`; the hypothesis is not needed. -/
theorem C02_labels_ok (cs : List Char) (hq : ∀ c ∈ cs, c ≠ '"') (a : Array (PNode L))
    (h : parse parseLen cs = .done a) :
    ∀ i, nameWF (nd a i).name ∧ commentWF (nd a i).comment :=
  labels_ok_all parseLen cs a h

end NW
