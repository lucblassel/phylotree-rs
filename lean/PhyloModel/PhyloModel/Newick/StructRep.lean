import PhyloModel.Newick.Rep
import PhyloModel.Newick.WF
import PhyloModel.Newick.Build
/-! Every slot of a `Struct` arena represents a rose tree (`RepN`; children have larger ids, so the recursion is on
    `a.size - i`), whose height is at most `a.size - i` and which is `WFT` when every stored label is well formed. -/
namespace NW
variable {L : Type}

theorem struct_child_gt {a : Array (PNode L)} (h : Struct a) {i c : Nat} (hi : i < a.size)
    (hc : c ∈ (nd a i).children) : i < c ∧ c < a.size := by
  obtain ⟨hcs, hpar⟩ := h.down i c hi hc
  refine ⟨?_, hcs⟩
  by_cases h0 : c = 0
  · subst h0
    have := (h.root (by omega)).1
    rw [this] at hpar; cases hpar
  · obtain ⟨p, hp, hlt, _, _⟩ := h.up c (by omega) hcs
    rw [hp] at hpar
    cases hpar
    exact hlt

theorem repL_build (a : Array (PNode L)) (b : Nat)
    (ih : ∀ c, c < a.size → a.size - c ≤ b → ∃ t, RepN a c t ∧ ht t ≤ a.size - c ∧ WFT t) :
    ∀ (cs : List Nat), (∀ c ∈ cs, c < a.size ∧ a.size - c ≤ b) →
      ∃ ts, RepNL a cs ts ∧ htL ts ≤ b ∧ WFL ts := by
  intro cs
  induction cs with
  | nil => intro _; exact ⟨[], by simp [RepNL], by simp [htL], by simp [WFL]⟩
  | cons c cs ihc =>
    intro hcs
    obtain ⟨hc1, hc2⟩ := hcs c (by simp)
    obtain ⟨t, ht1, ht2, ht3⟩ := ih c hc1 hc2
    obtain ⟨ts, hts1, hts2, hts3⟩ := ihc (fun d hd => hcs d (by simp [hd]))
    refine ⟨t :: ts, ?_, ?_, ?_⟩
    · rw [RepNL]; exact ⟨ht1, hts1⟩
    · rw [htL]; omega
    · rw [WFL]; exact ⟨ht3, hts3⟩

theorem struct_rep_wft (a : Array (PNode L)) (h : Struct a)
    (hlab : ∀ i, nameWF (nd a i).name ∧ commentWF (nd a i).comment) {i : Nat} (hi : i < a.size) :
    ∃ t, RepN a i t ∧ ht t ≤ a.size - i ∧ WFT t := by
  suffices H : ∀ k i, a.size - i ≤ k → i < a.size → ∃ t, RepN a i t ∧ ht t ≤ a.size - i ∧ WFT t from
    H a.size i (Nat.sub_le ..) hi
  intro k
  induction k with
  | zero => intro i h1 h2; omega
  | succ k ih =>
    intro i h1 h2
    obtain ⟨ts, hts1, hts2, hts3⟩ := repL_build a (a.size - i - 1)
      (fun c hc hcb => ih c (by omega) hc) (nd a i).children
      (fun c hc => by
        obtain ⟨g1, g2⟩ := struct_child_gt h h2 hc
        exact ⟨g2, by omega⟩)
    refine ⟨.node (nd a i).name (nd a i).len (nd a i).comment ts, ?_, ?_, ?_⟩
    · rw [RepN]; exact ⟨h2, rfl, rfl, rfl, hts1⟩
    · rw [ht]; omega
    · rw [WFT]; exact ⟨(hlab i).1, (hlab i).2, hts3⟩

end NW
