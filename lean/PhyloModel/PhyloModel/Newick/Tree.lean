import PhyloModel.Newick.RoundTrip
/-! Reading one node label `name:length[comment]` from a clean state. -/
namespace NW
variable {L : Type} (parseLen : Label → Option L) (showLen : L → Label)

structure Clean (s : St L) : Prop where
  field : s.field = .name
  nm : s.curName = none
  ln : s.curLen = none
  cm : s.curComment = none
  q : s.quotes = false

theorem Clean.atToken {s : St L} (hs : Clean s) : AtToken s :=
  ⟨fun q => (by rw [hs.q] at q; cases q), fun f => (by rw [hs.field] at f; cases f)⟩

def fieldAfter (l : Option L) (c : Option Label) : Field :=
  if c.isSome then .name else if l.isSome then .length else .name

def afterLabel (s : St L) (n : Option Label) (l : Option L) (c : Option Label) : St L :=
  { s with curName := n, curLen := l.map showLen, curComment := c, field := fieldAfter l c }

/-- after a label the parser is at a token: the comment, if any, has been closed -/
theorem afterLabel_atToken (s : St L) (hq : s.quotes = false) (n : Option Label) (l : Option L) (c : Option Label) :
    AtToken (afterLabel showLen s n l c) :=
  ⟨fun q => absurd (hq.symm.trans q) (by decide), by cases c <;> cases l <;> simp [afterLabel, fieldAfter]⟩

theorem run_label (hc : Codec parseLen showLen) (s : St L) (hs : Clean s)
    (n : Option Label) (l : Option L) (c : Option Label) (hn : nameWF n) (hcm : commentWF c)
    (rest : List Char) :
    run parseLen s (label showLen n l c ++ rest) = run parseLen (afterLabel showLen s n l c) rest := by
  -- with the state taken apart and the clean fields substituted, the states met on the way are literal records
  obtain ⟨nodes, fld, cn, cl, cc, ci, stk, op, q⟩ := s
  obtain ⟨hf, hnm, hln, hcmm, hq⟩ := hs
  dsimp only at hf hnm hln hcmm hq
  subst hf hnm hln hcmm hq
  unfold label
  have h1 : run parseLen ⟨nodes, .name, none, none, none, ci, stk, op, false⟩ (n.getD []) =
      .cont ⟨nodes, .name, n, none, none, ci, stk, op, false⟩ := by
    cases n with
    | none => rfl
    | some nm =>
      obtain ⟨hne, hok⟩ := hn
      rw [Option.getD_some, run_name parseLen nm _ rfl hok]
      simp [appendTo, hne]
  rw [List.append_assoc, List.append_assoc, run_append_cont parseLen _ _ _ _ h1]
  have h2 : run parseLen ⟨nodes, .name, n, none, none, ci, stk, op, false⟩ (lenPart showLen l) =
      .cont ⟨nodes, if l.isSome then .length else .name, n, l.map showLen, none, ci, stk, op, false⟩ := by
    cases l with
    | none => rfl
    | some v =>
      have hstep : step parseLen ⟨nodes, .name, n, none, none, ci, stk, op, false⟩ ':' =
          .cont ⟨nodes, .length, n, none, none, ci, stk, op, false⟩ :=
        (StepCont.colon ⟨fun q => Bool.noConfusion q, fun f => Field.noConfusion f⟩).step_eq
      simp only [lenPart, run, hstep]
      rw [run_plain_len parseLen (showLen v) _ (hc.plainChars v) rfl rfl]
      simp [appendTo, hc.nonempty v]
  rw [run_append_cont parseLen _ _ _ _ h2]
  cases c with
  | none => cases l <;> rfl
  | some cm =>
    obtain ⟨hne, hnb⟩ := hcm
    simp only [commentPart, List.cons_append, List.append_assoc]
    have hstep : ∀ (t : St L), t.quotes = false → t.field ≠ .comment →
        step parseLen t '[' = .cont { t with field := .comment } := fun t htq htf =>
      (StepCont.lbr ⟨fun q => (by rw [htq] at q; cases q), htf⟩).step_eq
    simp only [run]
    rw [hstep _ rfl (by cases l <;> simp)]
    simp only []
    rw [run_append_cont parseLen _ _ cm _ (run_comment parseLen cm _ hnb rfl rfl)]
    have hstep2 : ∀ (t : St L), t.quotes = false →
        step parseLen t ']' = .cont { t with field := .name } := fun t htq =>
      (StepCont.rbr fun q => by rw [htq] at q; cases q).step_eq
    simp only [run]
    rw [hstep2 _ rfl]
    -- the record reached is `afterLabel …`: its comment buffer `appendTo none cm` is `some cm` as `cm ≠ []`, its field `.name`
    simp [afterLabel, fieldAfter, appendTo, hne]

end NW
