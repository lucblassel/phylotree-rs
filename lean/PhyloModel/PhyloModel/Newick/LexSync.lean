import PhyloModel.Newick.Lex
import PhyloModel.Newick.StepCases
/-! The parser follows the four-mode lexical machine `lnext` on every text: after each continuing step
    `(field, quotes)` is given by `lnext` of the previous mode (in particular the quote flag is only ever on in
    the name field). -/
namespace NW
variable {L : Type} (parseLen : Label → Option L)

def Sync (s : St L) (m : LMode) : Prop := s.field = m.fld ∧ s.quotes = m.q

theorem sync_init : Sync ({} : St L) .name := ⟨rfl, rfl⟩

namespace LMode
variable {m : LMode}
theorem eq_quoted (h : m.q = true) : m = .quoted := by cases m <;> first | rfl | cases h
theorem eq_comment (h : m.fld = .comment) : m = .comment := by cases m <;> first | rfl | cases h
theorem eq_length (h : m.fld = .length) : m = .length := by cases m <;> first | rfl | cases h
theorem name_or_quoted (h : m.fld = .name) : m = .name ∨ m = .quoted := by
  cases m <;> first | exact .inl rfl | exact .inr rfl | cases h
end LMode

theorem Sync.tokenMode {s : St L} {m : LMode} (hs : Sync s m) (ht : AtToken s) : m.tokenMode := by
  cases m with
  | name => exact .inl rfl
  | length => exact .inr rfl
  | quoted => exact absurd hs.1 (ht.nq hs.2)
  | comment => exact absurd hs.1 ht.nc

theorem lnext_other {c : Char} (h : classify c = .other) (m : LMode) : lnext m c = m := by
  obtain ⟨k1, k2, k3, _, k5, k6, k7, _⟩ := classify_other h
  cases m <;> simp [lnext, k1, k2, k3, k5, k6, k7]

theorem step_cont_sync (s s' : St L) (c : Char) (m : LMode) (hs : Sync s m)
    (h : step parseLen s c = .cont s') : Sync s' (lnext m c) := by
  obtain ⟨hf, hq⟩ := hs
  cases step_cont_inv parseLen h with
  | quoted q f hc =>
    cases LMode.eq_quoted (hq ▸ q)
    rw [lnext, if_neg hc]; exact ⟨f, q⟩
  | inComment f hc =>
    cases LMode.eq_comment (hf ▸ f)
    rw [lnext, if_neg hc]; exact ⟨f, hq⟩
  | ws hw q => rw [lnext_other (isWs_other hw)]; exact ⟨hf, hq⟩
  | nameChar hp f q => rw [lnext_other (classify_plain hp)]; exact ⟨hf, hq⟩
  | lenChar hp f => rw [lnext_other (classify_plain hp)]; exact ⟨hf, hq⟩
  | quoteName f =>
    rcases LMode.name_or_quoted (hf ▸ f) with rfl | rfl
    · exact ⟨f, by rw [hq]; rfl⟩
    · exact ⟨f, by rw [hq]; rfl⟩
  | quoteLen f => cases LMode.eq_length (hf ▸ f); exact ⟨f, hq⟩
  | lbr ht => rcases Sync.tokenMode ⟨hf, hq⟩ ht with rfl | rfl <;> exact ⟨rfl, hq⟩
  | rbr nq =>
    cases m with
    | quoted => exact absurd hf (nq hq)
    | name => exact ⟨rfl, hq⟩
    | comment => exact ⟨rfl, hq⟩
    | length => exact ⟨rfl, hq⟩
  | colon ht => rcases Sync.tokenMode ⟨hf, hq⟩ ht with rfl | rfl <;> exact ⟨rfl, hq⟩
  | lparRoot ht _ _ => cases m <;> exact ⟨hf, hq⟩
  | lparChild ht _ _ => cases m <;> exact ⟨hf, hq⟩
  | comma ht _ hc =>
    have hq1 := hc.quotes
    rcases Sync.tokenMode ⟨hf, hq⟩ ht with rfl | rfl <;> exact ⟨hc.field, hq1.trans hq⟩
  | rpar ht hc _ =>
    have hq1 := hc.quotes
    rcases Sync.tokenMode ⟨hf, hq⟩ ht with rfl | rfl <;> exact ⟨hc.field, hq1.trans hq⟩

end NW
