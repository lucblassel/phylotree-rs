import PhyloModel.Newick.Tree
import PhyloModel.Newick.Layout
/-! The arena the parser builds while reading `write t`: `buildT a p t` is `a` with `t` committed as a new child of
    `p`; `pend s p t` is the state reached just before the `,` or `)` that commits it. -/
namespace NW
variable {L : Type} (parseLen : Label → Option L) (showLen : L → Label)

mutual
def buildT (a : Array (PNode L)) (p : Nat) : RTree L → Array (PNode L)
  | .node n l c kids => setFields (buildKids (addChild a p) a.size kids) a.size n l c
def buildKids (a : Array (PNode L)) (p : Nat) : List (RTree L) → Array (PNode L)
  | [] => a
  | k :: ks => buildKids (buildT a p k) p ks
end

mutual
def WFT : RTree L → Prop
  | .node n _ c kids => nameWF n ∧ commentWF c ∧ WFL kids
def WFL : List (RTree L) → Prop
  | [] => True
  | k :: ks => WFT k ∧ WFL ks
end

mutual
theorem size_buildT (a : Array (PNode L)) (p : Nat) : ∀ t : RTree L, a.size < (buildT a p t).size
  | .node n l c kids => by
    have := size_buildKids (addChild a p) a.size kids
    simp [buildT] at this ⊢; omega
theorem size_buildKids (a : Array (PNode L)) (p : Nat) : ∀ ks : List (RTree L), a.size ≤ (buildKids a p ks).size
  | [] => by simp [buildKids]
  | k :: ks => by
    have h1 := size_buildT a p k
    have h2 := size_buildKids (buildT a p k) p ks
    simp [buildKids]; omega
end

def pend (s : St L) (p : Nat) : RTree L → St L
  | .node n l c [] => afterLabel showLen s n l c
  | .node n l c (k :: ks) =>
    afterLabel showLen { s with nodes := buildKids (addChild s.nodes p) s.nodes.size (k :: ks),
                                curIdx := some s.nodes.size } n l c

def cleanWith (s : St L) (a : Array (PNode L)) (idx : Option Nat) : St L :=
  { s with nodes := a, curName := none, curLen := none, curComment := none, curIdx := idx, field := .name }

theorem commit_pend (hc : Codec parseLen showLen) (s : St L) (p : Nat) (ps : List Nat)
    (hst : s.stack = p :: ps) (hp : p < s.nodes.size) (hidx : s.curIdx = none) (t : RTree L) :
    commit parseLen (pend showLen s p t) =
      .cont (cleanWith (pend showLen s p t) (buildT s.nodes p t) (some s.nodes.size)) := by
  -- a leaf is committed as a new child of the stack top (no cursor), an inner node at the cursor its `(` left on `s.nodes.size`
  have hpe := parseEdge_show parseLen showLen hc
  match t with
  | .node n l c [] =>
    rw [buildT, buildKids]
    exact (CommitCont.child (s := afterLabel showLen s n l c) hidx hst hp (hpe l)).commit_eq
  | .node n l c (k :: ks) =>
    have hlt := Nat.lt_of_lt_of_le (Nat.lt_succ_self _) (size_addChild s.nodes p ▸
      size_buildKids (addChild s.nodes p) s.nodes.size (k :: ks))
    rw [buildT]
    exact (CommitCont.cursor (s := pend showLen s p (.node n l c (k :: ks))) rfl hlt (hpe l)).commit_eq

mutual
def decWFT : (t : RTree L) → Decidable (WFT t)
  | .node n _ c kids => @instDecidableAnd _ _ inferInstance (@instDecidableAnd _ _ inferInstance (decWFL kids))
def decWFL : (ks : List (RTree L)) → Decidable (WFL ks)
  | [] => isTrue trivial
  | k :: ks => @instDecidableAnd _ _ (decWFT k) (decWFL ks)
end
instance (t : RTree L) : Decidable (WFT t) := decWFT t

end NW
