import PhyloModel.Newick.WF
import PhyloModel.Newick.StepCases
/-! The parser never panics, and every arena it returns is one rooted tree: `J` (the arena is a `Struct`, stack and
    cursor point into it) is kept by every continuing step. -/
namespace NW
variable {L : Type} (parseLen : Label → Option L)

structure J (s : St L) : Prop where
  st : Struct s.nodes
  stack : ∀ p ∈ s.stack, p < s.nodes.size
  cur : ∀ i, s.curIdx = some i → i < s.nodes.size

theorem commit_J (s s' : St L) (hj : J s) (h : CommitCont parseLen s s') :
    Struct s'.nodes ∧ s.nodes.size ≤ s'.nodes.size := by
  cases h with
  | cursor hi hlt =>
    dsimp only
    exact ⟨struct_setFields _ _ _ _ _ hj.st, Nat.le_of_eq (size_setFields ..).symm⟩
  | child hi hst hp =>
    dsimp only
    exact ⟨struct_setFields _ _ _ _ _ (struct_addChild _ _ hp hj.st),
      by rw [size_setFields, size_addChild]; exact Nat.le_succ _⟩

theorem step_J (s s' : St L) (c : Char) (hj : J s) (h : step parseLen s c = .cont s') : J s' := by
  have same : ∀ {s1 : St L}, s1.nodes = s.nodes → s1.stack = s.stack → s1.curIdx = s.curIdx → J s1 := by
    intro s1 e1 e2 e3
    exact ⟨e1 ▸ hj.st, e1 ▸ e2 ▸ hj.stack, e1 ▸ e3 ▸ hj.cur⟩
  cases step_cont_inv parseLen h with
  | lparRoot _ hst hsz =>
    have hempty : s.nodes = #[] := Array.eq_empty_of_size_eq_zero hsz
    refine ⟨?_, ?_, ?_⟩
    · simp only [hempty]; exact struct_push_root
    · intro p hp; simp at hp; subst hp; simp
    · intro i hi; have := hj.cur i hi; omega
  | lparChild _ hst hp =>
    refine ⟨struct_addChild _ _ hp hj.st, ?_, ?_⟩
    · intro q hq
      simp only [List.mem_cons] at hq
      rcases hq with rfl | hq
      · simp
      · have := hj.stack q hq; simp; omega
    · intro i hi; have := hj.cur i hi; simp; omega
  | comma _ _ hc =>
    obtain ⟨h1, h2⟩ := commit_J parseLen s _ hj hc
    refine ⟨h1, ?_, ?_⟩
    · intro p hp; rw [hc.stack] at hp; exact Nat.lt_of_lt_of_le (hj.stack p hp) h2
    · intro i hi; cases hi
  | rpar _ hc hst =>
    obtain ⟨h1, h2⟩ := commit_J parseLen s _ hj hc
    have hmem : ∀ q, q ∈ _ :: _ → q < _ := fun q hq =>
      Nat.lt_of_lt_of_le (hj.stack q (by rw [← hc.stack, hst]; exact hq)) h2
    refine ⟨h1, ?_, ?_⟩
    · intro q hq; exact hmem q (List.mem_cons_of_mem _ hq)
    · intro i hi; cases hi; exact hmem _ List.mem_cons_self
  | _ => exact same rfl rfl rfl

theorem step_done_J (s : St L) (c : Char) (a : Array (PNode L)) (hj : J s)
    (h : step parseLen s c = .done a) : Struct a ∧ 0 < a.size := by
  cases step_done_inv parseLen h with
  | cursor _ _ hi hlt =>
    exact ⟨struct_modify_fields _ _ _ (fun x => ⟨rfl, rfl, rfl⟩) hj.st, by rw [Array.size_modify]; omega⟩
  | single _ _ _ hsz =>
    refine ⟨struct_modify_fields _ _ _ (fun x => ⟨rfl, rfl, rfl⟩) ?_, by simp⟩
    rw [Array.eq_empty_of_size_eq_zero hsz]; exact struct_push_root

theorem run_no_panic (cs : List Char) (s : St L) : run parseLen s cs ≠ .panic := by
  induction cs generalizing s with
  | nil => simp [run]
  | cons c cs ih =>
    simp only [run]
    cases hs : step parseLen s c with
    | cont s' => exact ih s'
    | done a' => simp
    | err e => simp
    | panic => exact absurd hs (step_no_panic parseLen s c)

/-- C02: the parser is total, never panics, and every returned arena is a single rooted tree
    that contains all of its nodes (every non-root slot hangs below a smaller slot) -/
theorem C02_parse_wf (cs : List Char) :
    parse parseLen cs ≠ .panic ∧ (∀ a, parse parseLen cs = .done a → Struct a ∧ 0 < a.size) := by
  constructor
  · unfold parse
    have := run_no_panic parseLen cs ({} : St L)
    cases h : run parseLen {} cs <;> simp_all
  · intro a h
    exact parse_done_inv parseLen (P := J) ⟨struct_empty, by simp, by simp⟩ (step_J parseLen)
      (step_done_J parseLen) h

end NW
