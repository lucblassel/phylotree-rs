import PhyloModel.Newick.Layout
/-! `Struct a`: the arena is one rooted tree containing all of its slots.  It holds of the arenas the parser builds
    (`#[{}]`, `addChild`) and survives every update of name, length or comment. -/
namespace NW
variable {L : Type}

/-- structural well-formedness of a parser arena (ids grow away from the root ⇒ acyclic, connected) -/
structure Struct (a : Array (PNode L)) : Prop where
  up : ∀ i, 0 < i → i < a.size → ∃ p, (nd a i).parent = some p ∧ p < i ∧ i ∈ (nd a p).children ∧
        (nd a i).depth = (nd a p).depth + 1
  root : 0 < a.size → (nd a 0).parent = none ∧ (nd a 0).depth = 0
  down : ∀ i c, i < a.size → c ∈ (nd a i).children → c < a.size ∧ (nd a c).parent = some i
  nodup : ∀ i, (nd a i).children.Nodup

theorem struct_empty : Struct (#[] : Array (PNode L)) := by
  constructor
  · intro i _ h; simp at h
  · intro h; simp at h
  · intro i c h; simp at h
  · intro i; simp [nd, dflt]

theorem struct_push_root : Struct (#[({} : PNode L)]) := by
  constructor
  · intro i h1 h2; simp at h2; omega
  · intro _; simp [nd]
  · intro i c h hc
    have : i = 0 := by simp at h; omega
    subst this; simp [nd] at hc
  · intro i
    by_cases h : i = 0
    · subst h; simp [nd]
    · rw [nd_oob _ i (by simp; omega)]; simp [dflt]

theorem struct_addChild (a : Array (PNode L)) (p : Nat) (hp : p < a.size) (h : Struct a) :
    Struct (addChild a p) := by
  have hac := nd_addChild a p hp
  -- an old slot keeps parent and depth; its child list changes only at `p`, which gains the new slot
  have old : ∀ i, i < a.size → (nd (addChild a p) i).parent = (nd a i).parent ∧
      (nd (addChild a p) i).depth = (nd a i).depth ∧
      (nd (addChild a p) i).children = if i = p then (nd a p).children ++ [a.size] else (nd a i).children := by
    intro i hi
    rw [hac, if_neg (Nat.ne_of_lt hi)]
    split
    · next e => subst e; exact ⟨rfl, rfl, rfl⟩
    · exact ⟨rfl, rfl, rfl⟩
  have new : nd (addChild a p) a.size = { parent := some p, depth := (nd a p).depth + 1 } := by rw [hac, if_pos rfl]
  constructor
  · intro i h1 h2
    rw [size_addChild] at h2
    by_cases hi : i = a.size
    · subst hi
      rw [new]
      exact ⟨p, rfl, hp, by rw [(old p hp).2.2, if_pos rfl]; simp, by rw [(old p hp).2.1]⟩
    · have hi : i < a.size := by omega
      obtain ⟨q, e1, e2, e3, e4⟩ := h.up i h1 hi
      have hq : q < a.size := by omega
      refine ⟨q, (old i hi).1.trans e1, e2, ?_, by rw [(old i hi).2.1, (old q hq).2.1]; exact e4⟩
      rw [(old q hq).2.2]
      split
      · next e => subst e; exact List.mem_append_left _ e3
      · exact e3
  · intro _
    have h0 : 0 < a.size := by omega
    rw [(old 0 h0).1, (old 0 h0).2.1]; exact h.root h0
  · intro i c hi hc
    rw [size_addChild] at hi ⊢
    by_cases hia : i = a.size
    · subst hia; rw [new] at hc; cases hc
    · have hi : i < a.size := by omega
      have keep : c ∈ (nd a i).children → c < a.size + 1 ∧ (nd (addChild a p) c).parent = some i := fun hc =>
        have ⟨g1, g2⟩ := h.down i c hi hc
        ⟨by omega, (old c g1).1.trans g2⟩
      rw [(old i hi).2.2] at hc
      split at hc
      · next e =>
        subst e
        rcases List.mem_append.1 hc with hc | hc
        · exact keep hc
        · cases List.mem_singleton.1 hc; exact ⟨by omega, by rw [new]⟩
      · exact keep hc
  · intro i
    rw [hac]
    split
    · exact List.nodup_nil
    · split
      · refine List.nodup_append.2 ⟨h.nodup p, List.nodup_cons.2 ⟨List.not_mem_nil, List.nodup_nil⟩, ?_⟩
        intro x hx y hy
        cases List.mem_singleton.1 hy
        exact Nat.ne_of_lt (h.down p x hp hx).1
      · exact h.nodup i

theorem Struct.congr {a a' : Array (PNode L)} (hs : a'.size = a.size)
    (hp : ∀ i, (nd a' i).parent = (nd a i).parent) (hc : ∀ i, (nd a' i).children = (nd a i).children)
    (hd : ∀ i, (nd a' i).depth = (nd a i).depth) (h : Struct a) : Struct a' := by
  constructor
  · simp only [hs, hp, hc, hd]; exact h.up
  · simp only [hs, hp, hd]; exact h.root
  · simp only [hs, hp, hc]; exact h.down
  · simp only [hc]; exact h.nodup

theorem struct_modify_fields (a : Array (PNode L)) (j : Nat) (f : PNode L → PNode L)
    (hf : ∀ x, (f x).parent = x.parent ∧ (f x).children = x.children ∧ (f x).depth = x.depth)
    (h : Struct a) : Struct (a.modify j f) := by
  have hm : ∀ i, (nd (a.modify j f) i).parent = (nd a i).parent ∧ (nd (a.modify j f) i).children = (nd a i).children ∧
      (nd (a.modify j f) i).depth = (nd a i).depth := by
    intro i; rw [nd_modify]; split
    · exact hf _
    · exact ⟨rfl, rfl, rfl⟩
  exact h.congr (Array.size_modify ..) (fun i => (hm i).1) (fun i => (hm i).2.1) (fun i => (hm i).2.2)

theorem struct_setFields (a : Array (PNode L)) (i : Nat) n l c (h : Struct a) : Struct (setFields a i n l c) := by
  unfold setFields
  exact struct_modify_fields a i _ (fun x => ⟨rfl, rfl, rfl⟩) h

end NW
