import PhyloModel.Newick.Basic
/-! `classify`, `commit` and `step` read backwards: which arm produced a given result.  `CommitCont`, `StepCont` and
    `StepDone` are exactly the graphs of the continuing / finishing results (`commit_spec`, `step_spec` one way,
    `commit_eq`, `step_eq` the other).  Every state invariant of the parser is proved by cases on them, and every
    run on given text by their constructors, never by unfolding `step` again. -/
namespace NW
variable {L : Type} (parseLen : Label → Option L)

theorem classify_inv (c : Char) :
    match classify c with
    | .quote => c = '"' | .lbr => c = '[' | .rbr => c = ']' | .lpar => c = '(' | .colon => c = ':'
    | .comma => c = ',' | .rpar => c = ')' | .semi => c = ';'
    | .other => c ≠ '"' ∧ c ≠ '[' ∧ c ≠ ']' ∧ c ≠ '(' ∧ c ≠ ':' ∧ c ≠ ',' ∧ c ≠ ')' ∧ c ≠ ';' := by
  -- one `if` at a time: `split` on the whole cascade is two orders of magnitude slower to check
  unfold classify
  by_cases h1 : c = '"'; · rw [if_pos h1]; exact h1
  rw [if_neg h1]
  by_cases h2 : c = '['; · rw [if_pos h2]; exact h2
  rw [if_neg h2]
  by_cases h3 : c = ']'; · rw [if_pos h3]; exact h3
  rw [if_neg h3]
  by_cases h4 : c = '('; · rw [if_pos h4]; exact h4
  rw [if_neg h4]
  by_cases h5 : c = ':'; · rw [if_pos h5]; exact h5
  rw [if_neg h5]
  by_cases h6 : c = ','; · rw [if_pos h6]; exact h6
  rw [if_neg h6]
  by_cases h7 : c = ')'; · rw [if_pos h7]; exact h7
  rw [if_neg h7]
  by_cases h8 : c = ';'; · rw [if_pos h8]; exact h8
  rw [if_neg h8]; exact ⟨h1, h2, h3, h4, h5, h6, h7, h8⟩

theorem classify_other {c : Char} (h : classify c = .other) :
    c ≠ '"' ∧ c ≠ '[' ∧ c ≠ ']' ∧ c ≠ '(' ∧ c ≠ ':' ∧ c ≠ ',' ∧ c ≠ ')' ∧ c ≠ ';' := by
  have := classify_inv c; rwa [h] at this

theorem isWs_other {c : Char} (h : isWs c = true) : classify c = .other := by
  have := classify_inv c
  split at this <;> first | assumption | (subst this; revert h; decide)

theorem classify_plain {c : Char} (h : plain c = true) : classify c = .other := by
  simp [plain] at h; exact h.1
theorem plain_not_ws {c : Char} (h : plain c = true) : isWs c = false := by
  simp [plain] at h; exact h.2

/-- structural characters are read as tokens in this state: it is neither inside a quoted name nor inside a comment -/
structure AtToken (s : St L) : Prop where
  nq : s.quotes = true → s.field ≠ .name
  nc : s.field ≠ .comment

inductive CommitCont (s : St L) : St L → Prop
  | cursor {i : Nat} {edge : Option L} : s.curIdx = some i → i < s.nodes.size →
      parseEdge parseLen s.curLen = some edge →
      CommitCont s { s with nodes := setFields s.nodes i s.curName edge s.curComment, curName := none, curLen := none,
                            curComment := none, curIdx := some i, field := .name }
  | child {p : Nat} {ps : List Nat} {edge : Option L} : s.curIdx = none → s.stack = p :: ps → p < s.nodes.size →
      parseEdge parseLen s.curLen = some edge →
      CommitCont s { s with nodes := setFields (addChild s.nodes p) s.nodes.size s.curName edge s.curComment,
                            curName := none, curLen := none, curComment := none, curIdx := some s.nodes.size,
                            field := .name }

theorem commit_spec (s : St L) :
    match commit parseLen s with
    | .cont s' => CommitCont parseLen s s' | .err _ => True | .done _ => False | .panic => False := by
  unfold commit
  cases hi : s.curIdx with
  | some i =>
    by_cases hlt : i < s.nodes.size
    · simp only [if_pos hlt]
      cases hpe : parseEdge parseLen s.curLen with
      | none => trivial
      | some edge => exact .cursor hi hlt hpe
    · simp only [if_neg hlt]
  | none =>
    cases hst : s.stack with
    | nil => trivial
    | cons p ps =>
      by_cases hlt : p < s.nodes.size
      · simp only [if_pos hlt]
        cases hpe : parseEdge parseLen s.curLen with
        | none => trivial
        | some edge => rw [← hst]; exact .child hi hst hlt hpe
      · simp only [if_neg hlt]

theorem commit_cont_inv {s s' : St L} (h : commit parseLen s = .cont s') : CommitCont parseLen s s' := by
  have := commit_spec parseLen s; rwa [h] at this

namespace CommitCont
variable {parseLen} {s s' : St L} (h : CommitCont parseLen s s')
include h
theorem quotes : s'.quotes = s.quotes := by cases h <;> rfl
theorem stack : s'.stack = s.stack := by cases h <;> rfl
theorem opens : s'.opens = s.opens := by cases h <;> rfl
theorem field : s'.field = .name := by cases h <;> rfl
end CommitCont

inductive StepCont (s : St L) : Char → St L → Prop
  | quoted {c : Char} : s.quotes = true → s.field = .name → c ≠ '"' → StepCont s c { s with curName := pushc s.curName c }
  | inComment {c : Char} : s.field = .comment → c ≠ ']' → StepCont s c { s with curComment := pushc s.curComment c }
  | ws {c : Char} : isWs c = true → s.quotes = false → s.field ≠ .comment → StepCont s c s
  | quoteName : s.field = .name → StepCont s '"' { s with quotes := !s.quotes, curName := pushc s.curName '"' }
  | quoteLen : s.field = .length → StepCont s '"' { s with curLen := pushc s.curLen '"' }
  | lbr : AtToken s → StepCont s '[' { s with field := .comment }
  | rbr : (s.quotes = true → s.field ≠ .name) → StepCont s ']' { s with field := .name }
  | colon : AtToken s → StepCont s ':' { s with field := .length }
  | lparRoot : AtToken s → s.stack = [] → s.nodes.size = 0 →
      StepCont s '(' { s with nodes := s.nodes.push {}, stack := [0], opens := s.opens + 1 }
  | lparChild {p : Nat} {ps : List Nat} : AtToken s → s.stack = p :: ps → p < s.nodes.size →
      StepCont s '(' { s with nodes := addChild s.nodes p, stack := s.nodes.size :: s.stack, opens := s.opens + 1 }
  | comma {s1 : St L} : AtToken s → s.stack ≠ [] → CommitCont parseLen s s1 → StepCont s ',' { s1 with curIdx := none }
  | rpar {s1 : St L} {p : Nat} {ps : List Nat} : AtToken s → CommitCont parseLen s s1 → s1.stack = p :: ps →
      StepCont s ')' { s1 with curIdx := some p, stack := ps, opens := s1.opens - 1 }
  | nameChar {c : Char} : plain c = true → s.field = .name → s.quotes = false →
      StepCont s c { s with curName := pushc s.curName c }
  | lenChar {c : Char} : plain c = true → s.field = .length → StepCont s c { s with curLen := pushc s.curLen c }

inductive StepDone (s : St L) : Char → Array (PNode L) → Prop
  | cursor {i : Nat} {edge : Option L} : AtToken s → s.opens = 0 → s.curIdx = some i → i < s.nodes.size →
      parseEdge parseLen s.curLen = some edge →
      StepDone s ';' (s.nodes.modify i
        (fun n => { n with name := s.curName, comment := s.curComment, len := orKeep edge n.len }))
  | single {edge : Option L} : AtToken s → s.opens = 0 → s.curIdx = none → s.nodes.size = 0 →
      parseEdge parseLen s.curLen = some edge →
      StepDone s ';' ((s.nodes.push {}).modify 0
        (fun n => { n with name := s.curName, comment := s.curComment, len := orKeep edge n.len }))

theorem step_spec (s : St L) (c : Char) :
    match step parseLen s c with
    | .cont s' => StepCont parseLen s c s' | .done a => StepDone parseLen s c a | .err _ => True | .panic => False := by
  unfold step
  by_cases h1 : (s.quotes && s.field == .name && c != '"') = true
  · rw [if_pos h1]
    simp only [Bool.and_eq_true, beq_iff_eq, bne_iff_ne] at h1
    exact .quoted h1.1.1 h1.1.2 h1.2
  rw [if_neg h1]
  by_cases h2 : (s.field == .comment && c != ']') = true
  · rw [if_pos h2]
    simp only [Bool.and_eq_true, beq_iff_eq, bne_iff_ne] at h2
    exact .inComment h2.1 h2.2
  rw [if_neg h2]
  by_cases h3 : (isWs c && !s.quotes) = true
  · rw [if_pos h3]
    simp only [Bool.and_eq_true, Bool.not_eq_true'] at h3
    refine .ws h3.1 h3.2 fun f => h2 ?_
    have : c ≠ ']' := by rintro rfl; exact absurd h3.1 (by decide)
    simp [f, this]
  rw [if_neg h3]
  -- what the three failed guards say about a character that reaches the `match`
  have g1 : s.quotes = true → s.field = .name → c = '"' := fun hq hf =>
    Decidable.byContradiction fun hc => h1 (by simp [hq, hf, hc])
  have g2 : s.field = .comment → c = ']' := fun hf => Decidable.byContradiction fun hc => h2 (by simp [hf, hc])
  have g3 : isWs c = true → s.quotes = true := fun hw => by
    cases hq : s.quotes with | true => rfl | false => exact absurd (by simp [hw, hq]) h3
  have tok : c ≠ '"' → c ≠ ']' → AtToken s := fun hq hr => ⟨fun q f => hq (g1 q f), fun f => hr (g2 f)⟩
  have hk := classify_inv c
  generalize hck : classify c = k at hk
  cases k <;> dsimp only at hk ⊢
  case quote =>
    subst hk
    by_cases hn : (s.field == .name) = true
    · rw [if_pos hn]; exact .quoteName (beq_iff_eq.1 hn)
    rw [if_neg hn]
    unfold stepField
    cases hf : s.field with
    | name => rw [hf] at hn; exact absurd (by decide) hn
    | length =>
      simp only [show isWs '"' = false by decide, Bool.false_eq_true, if_false]
      rw [← hf]  -- `cases` also rewrote the `field := s.field` inside the record
      exact .quoteLen hf
    | comment => exact absurd (g2 hf) (by decide)
  case lbr => subst hk; exact .lbr (tok (by decide) (by decide))
  case rbr => subst hk; exact .rbr fun q f => absurd (g1 q f) (by decide)
  case colon => subst hk; exact .colon (tok (by decide) (by decide))
  case lpar =>
    subst hk
    have ht := tok (by decide) (by decide)
    cases hst : s.stack with
    | nil =>
      by_cases hz : s.nodes.size = 0
      · simp only [if_pos hz]; exact .lparRoot ht hst hz
      · simp only [if_neg hz]
    | cons p ps =>
      by_cases hp : p < s.nodes.size
      · simp only [if_pos hp]; rw [← hst]; exact .lparChild ht hst hp
      · simp only [if_neg hp]
  case comma =>
    subst hk
    by_cases hst : s.stack = []
    · rw [if_pos hst]; trivial
    rw [if_neg hst]
    have hc := commit_spec parseLen s
    cases hcm : commit parseLen s with
    | cont s1 => rw [hcm] at hc; exact .comma (tok (by decide) (by decide)) hst hc
    | err e => trivial
    | done a => rw [hcm] at hc; exact hc.elim
    | panic => rw [hcm] at hc; exact hc.elim
  case rpar =>
    subst hk
    by_cases hst : s.stack = []
    · rw [if_pos hst]; trivial
    rw [if_neg hst]
    have hc := commit_spec parseLen s
    cases hcm : commit parseLen s with
    | cont s1 =>
      rw [hcm] at hc
      dsimp only
      cases hs1 : s1.stack with
      | nil => trivial
      | cons p ps => exact .rpar (tok (by decide) (by decide)) hc hs1
    | err e => trivial
    | done a => rw [hcm] at hc; exact hc.elim
    | panic => rw [hcm] at hc; exact hc.elim
  case semi =>
    subst hk
    have ht := tok (by decide) (by decide)
    by_cases hop : s.opens ≠ 0
    · rw [if_pos hop]; trivial
    rw [if_neg hop]
    have hop := Decidable.not_not.1 hop
    cases hi : s.curIdx with
    | some i =>
      by_cases hlt : i < s.nodes.size
      · simp only [if_pos hlt]
        cases hpe : parseEdge parseLen s.curLen with
        | none => trivial
        | some edge => exact .cursor ht hop hi hlt hpe
      · simp only [if_neg hlt]
    | none =>
      by_cases hz : s.nodes.size = 0
      · simp only [if_pos hz]
        cases hpe : parseEdge parseLen s.curLen with
        | none => trivial
        | some edge => exact .single ht hop hi hz hpe
      · simp only [if_neg hz]
  case other =>
    have hq : s.field = .name → s.quotes = false := fun f => by
      cases q : s.quotes with | false => rfl | true => exact absurd (g1 q f) hk.1
    unfold stepField
    cases hf : s.field with
    | name =>
      have hw : isWs c = false := by
        cases w : isWs c with | false => rfl | true => rw [g3 w] at hq; exact absurd (hq hf) (by decide)
      dsimp only; rw [← hf]
      exact .nameChar (show plain c = true by simp [plain, hck, hw]) hf (hq hf)
    | length =>
      cases hw : isWs c with
      | true => trivial
      | false =>
        simp only [Bool.false_eq_true, if_false]; rw [← hf]
        exact .lenChar (show plain c = true by simp [plain, hck, hw]) hf
    | comment => exact hk.2.2.1 (g2 hf)

theorem step_cont_inv {s s' : St L} {c : Char} (h : step parseLen s c = .cont s') : StepCont parseLen s c s' := by
  have := step_spec parseLen s c; rwa [h] at this

theorem step_done_inv {s : St L} {c : Char} {a : Array (PNode L)} (h : step parseLen s c = .done a) :
    StepDone parseLen s c a := by
  have := step_spec parseLen s c; rwa [h] at this

/-- the `Field::Comment => unimplemented!()` arm of `from_newick` is never reached -/
theorem step_no_panic (s : St L) (c : Char) : step parseLen s c ≠ .panic := by
  intro h; have := step_spec parseLen s c; rwa [h] at this

section
variable {parseLen}

theorem CommitCont.commit_eq {s s' : St L} (h : CommitCont parseLen s s') : commit parseLen s = .cont s' := by
  cases h with
  | cursor hi hlt hpe => unfold commit; simp only [hi, if_pos hlt, hpe]
  | child hi hst hlt hpe => unfold commit; simp only [hi, hst, if_pos hlt, hpe]

/-- when each of the three guards in front of the token `match` of `step` fails -/
theorem not_guard1 {s : St L} (h : s.quotes = true → s.field ≠ .name) (c : Char) :
    ¬ (s.quotes && s.field == .name && c != '"') = true := by
  intro g
  simp only [Bool.and_eq_true, beq_iff_eq] at g
  exact h g.1.1 g.1.2
theorem not_guard2 {s : St L} (h : s.field ≠ .comment) (c : Char) : ¬ (s.field == .comment && c != ']') = true := by
  intro g
  simp only [Bool.and_eq_true, beq_iff_eq] at g
  exact h g.1
theorem not_guard3 {c : Char} (hw : isWs c = false) (q : Bool) : ¬ (isWs c && !q) = true := by
  rw [hw]; exact Bool.false_ne_true

/-- at a token a character that is no whitespace gets past the three guards -/
theorem AtToken.skip {s : St L} (ht : AtToken s) {c : Char} (hw : isWs c = false) {α : Type} (x y z m : α) :
    (if (s.quotes && s.field == .name && c != '"') = true then x else if (s.field == .comment && c != ']') = true
      then y else if (isWs c && !s.quotes) = true then z else m) = m := by
  rw [if_neg (not_guard1 ht.nq _), if_neg (not_guard2 ht.nc _), if_neg (not_guard3 hw _)]

theorem StepCont.step_eq {s s' : St L} {c : Char} (h : StepCont parseLen s c s') : step parseLen s c = .cont s' := by
  cases h with
  | quoted q f hc => unfold step; rw [if_pos (by simp [q, f, hc])]
  | inComment f hc =>
    unfold step
    rw [if_neg (not_guard1 (fun _ e => by rw [f] at e; cases e) _), if_pos (by simp [f, hc])]
  | ws hw q hf => unfold step; rw [if_neg (by simp [q]), if_neg (not_guard2 hf _), if_pos (by simp [hw, q])]
  | quoteName f =>
    unfold step
    rw [if_neg (by simp), if_neg (not_guard2 (by rw [f]; decide) _), if_neg (not_guard3 rfl _)]
    show (if (s.field == .name) = true then _ else _) = _
    rw [if_pos (by rw [f]; rfl)]
  | quoteLen f =>
    unfold step
    rw [if_neg (not_guard1 (fun _ e => by rw [f] at e; cases e) _), if_neg (not_guard2 (by rw [f]; decide) _),
      if_neg (not_guard3 rfl _)]
    show (if (s.field == .name) = true then _ else _) = _
    rw [if_neg (by rw [f]; decide)]
    simp only [stepField, f]; rfl
  | lbr ht => unfold step; rw [ht.skip rfl]; rfl
  | rbr nq => unfold step; rw [if_neg (not_guard1 nq _), if_neg (by simp), if_neg (not_guard3 rfl _)]; rfl
  | colon ht => unfold step; rw [ht.skip rfl]; rfl
  | lparRoot ht hst hz =>
    unfold step; rw [ht.skip rfl]
    show (match s.stack with | [] => _ | p :: _ => _) = _
    rw [hst]; exact if_pos hz
  | lparChild ht hst hp =>
    unfold step; rw [ht.skip rfl]
    show (match s.stack with | [] => _ | p :: _ => _) = _
    rw [hst]; exact if_pos hp
  | comma ht hne hc =>
    unfold step; rw [ht.skip rfl]
    show (if s.stack = [] then _ else match commit parseLen s with | .cont s' => _ | r => r) = _
    rw [if_neg hne, hc.commit_eq]
  | rpar ht hc hst =>
    unfold step; rw [ht.skip rfl]
    show (if s.stack = [] then _ else match commit parseLen s with | .cont s' => _ | r => r) = _
    rw [if_neg (by rw [← hc.stack, hst]; exact List.cons_ne_nil _ _), hc.commit_eq]
    simp only [hst]
  | nameChar hp f q =>
    unfold step
    rw [if_neg (by simp [q]), if_neg (not_guard2 (by rw [f]; decide) _), if_neg (not_guard3 (plain_not_ws hp) _),
      classify_plain hp]
    simp only [stepField, f]
  | lenChar hp f =>
    unfold step
    rw [if_neg (not_guard1 (fun _ e => by rw [f] at e; cases e) _), if_neg (not_guard2 (by rw [f]; decide) _),
      if_neg (not_guard3 (plain_not_ws hp) _), classify_plain hp]
    simp only [stepField, f, plain_not_ws hp]; rfl

theorem StepDone.step_eq {s : St L} {c : Char} {a : Array (PNode L)} (h : StepDone parseLen s c a) :
    step parseLen s c = .done a := by
  cases h with
  | cursor ht ho hi hlt hpe =>
    unfold step; rw [ht.skip rfl]
    show (if s.opens ≠ 0 then _ else _) = _
    rw [if_neg (by rw [ho]; exact fun h => h rfl)]
    simp only [hi, if_pos hlt, hpe]
  | single ht ho hi hz hpe =>
    unfold step; rw [ht.skip rfl]
    show (if s.opens ≠ 0 then _ else _) = _
    rw [if_neg (by rw [ho]; exact fun h => h rfl)]
    simp only [hi, if_pos hz, hpe]

end

theorem run_done_induction {motive : St L → List Char → Array (PNode L) → Prop}
    (done : ∀ s c cs a, step parseLen s c = .done a → motive s (c :: cs) a)
    (cont : ∀ s s' c cs a, step parseLen s c = .cont s' → run parseLen s' cs = .done a → motive s' cs a →
      motive s (c :: cs) a) :
    ∀ (cs : List Char) (s : St L) (a : Array (PNode L)), run parseLen s cs = .done a → motive s cs a
  | [], _, _, h => by cases h
  | c :: cs, s, a, h => by
    rw [run] at h
    cases hst : step parseLen s c with
    | cont s' => rw [hst] at h; exact cont s s' c cs a hst h (run_done_induction done cont cs s' a h)
    | done a' => rw [hst] at h; cases h; exact done s c cs a hst
    | err e => rw [hst] at h; cases h
    | panic => rw [hst] at h; cases h

theorem parse_done_run {cs : List Char} {a : Array (PNode L)} (h : parse parseLen cs = .done a) :
    run parseLen {} cs = .done a := by
  unfold parse at h
  cases hr : run parseLen {} cs with
  | done a' => rw [hr] at h; exact h
  | cont s' => rw [hr] at h; cases h
  | err e => rw [hr] at h; cases h
  | panic => rw [hr] at h; cases h

theorem run_done_inv {P : St L → Prop} {Q : Array (PNode L) → Prop}
    (hc : ∀ s s' c, P s → step parseLen s c = .cont s' → P s')
    (hd : ∀ s c a, P s → step parseLen s c = .done a → Q a)
    {cs : List Char} {s : St L} {a : Array (PNode L)} (hs : P s) (h : run parseLen s cs = .done a) : Q a :=
  run_done_induction parseLen (motive := fun s _ a => P s → Q a) (fun s c _ a hst hs => hd s c a hs hst)
    (fun s s' c _ _ hst _ ih hs => ih (hc s s' c hs hst)) cs s a h hs

theorem parse_done_inv {P : St L → Prop} {Q : Array (PNode L) → Prop} (h0 : P {})
    (hc : ∀ s s' c, P s → step parseLen s c = .cont s' → P s')
    (hd : ∀ s c a, P s → step parseLen s c = .done a → Q a)
    {cs : List Char} {a : Array (PNode L)} (h : parse parseLen cs = .done a) : Q a :=
  run_done_inv parseLen hc hd h0 (parse_done_run parseLen h)

end NW
