import PhyloModel.Newick.Main
/-! Parsing `write t ++ ";"` (and whatever follows the `;`) returns `rootArena t`. -/
namespace NW
variable {L : Type} (parseLen : Label → Option L) (showLen : L → Label)

def rootArena : RTree L → Array (PNode L)
  | .node n l c kids =>
    (buildKids (#[({} : PNode L)]) 0 kids).modify 0
      (fun x => { x with name := n, comment := c, len := orKeep l x.len })

theorem roundtrip_run (hc : Codec parseLen showLen) (t : RTree L) (hwf : WFT t) (junk : List Char) :
    parse parseLen (write showLen t ++ ';' :: junk) = .done (rootArena t) := by
  have hinit : Clean ({} : St L) := ⟨rfl, rfl, rfl, rfl, rfl⟩
  match t, hwf with
  | .node n l c [], hwf =>
    -- the label, then `;` on the empty arena
    rw [parse, write, run_label parseLen showLen hc {} hinit n l c hwf.1 hwf.2.1, run,
      (StepDone.single (afterLabel_atToken showLen {} rfl n l c) rfl rfl rfl (parseEdge_show parseLen showLen hc l)).step_eq]
    rfl
  | .node n l c (k :: ks), hwf =>
    -- `(` makes the root, the children are read up to their `)`, then the label, then `;` with the cursor on the root
    have h0 : step parseLen ({} : St L) '(' = .cont { ({} : St L) with nodes := #[{}], stack := [0], opens := 1 } :=
      (StepCont.lparRoot hinit.atToken rfl rfl).step_eq
    have hk := run_kids parseLen showLen hc (k :: ks) { ({} : St L) with nodes := #[{}], stack := [0], opens := 1 }
      (label showLen n l c ++ ';' :: junk) 0 []
      ⟨rfl, rfl, rfl, rfl, rfl⟩ rfl (Nat.zero_lt_one) rfl hwf.2.2 (List.cons_ne_nil _ _)
    have hpos : 0 < (buildKids (#[({} : PNode L)]) 0 (k :: ks)).size :=
      Nat.lt_of_lt_of_le Nat.zero_lt_one (size_buildKids (#[({} : PNode L)]) 0 (k :: ks))
    simp only [writeKids, List.append_assoc] at hk
    simp only [parse, write, List.cons_append, List.append_assoc, run, h0]
    rw [hk, run_label parseLen showLen hc _ ⟨rfl, rfl, rfl, rfl, rfl⟩ n l c hwf.1 hwf.2.1, run,
      (StepDone.cursor (afterLabel_atToken showLen _ rfl n l c) rfl rfl hpos (parseEdge_show parseLen showLen hc l)).step_eq]
    rfl

end NW
