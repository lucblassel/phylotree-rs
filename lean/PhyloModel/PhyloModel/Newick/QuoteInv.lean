import PhyloModel.Newick.Names
import PhyloModel.Newick.StepCases
/-! Labels stored by the parser are in the domain of the C01 round trip — for EVERY text, quotes anywhere.

    The quote flag is flipped only together with pushing the `"` onto the name buffer, characters are pushed
    unprotected only when plain, and a name is committed only by a structural character, which is only
    recognised when the flag is off — so committed names end outside quotes. -/
namespace NW
variable {L : Type} (parseLen : Label → Option L)

structure QI (s : St L) : Prop where
  qf : s.quotes = true → s.field = .name
  nm : NameSync s.quotes s.curName
  cm : commentWF s.curComment
  ar : LabelsOK s.nodes

theorem qi_init : QI ({} : St L) := ⟨by simp, nameSync_none, trivial, labelsOK_empty⟩

theorem QI.unquoted {s : St L} (hn : QI s) (ht : AtToken s) : s.quotes = false := by
  cases h : s.quotes with
  | false => rfl
  | true => exact absurd (hn.qf h) (ht.nq h)

theorem QI.pending {s : St L} (hn : QI s) (ht : AtToken s) : nameWF s.curName ∧ commentWF s.curComment :=
  ⟨nameSync_wf _ (hn.unquoted ht ▸ hn.nm), hn.cm⟩

theorem commit_QI (s s' : St L) (ht : AtToken s) (hn : QI s) (h : CommitCont parseLen s s') : QI s' := by
  obtain ⟨hnm, hcm⟩ := hn.pending ht
  have hns : NameSync s.quotes none := by rw [hn.unquoted ht]; exact nameSync_none
  -- the arena of the new state is projected out first: left to the unifier that costs ten times as much
  cases h with
  | cursor =>
    refine ⟨fun _ => rfl, hns, trivial, ?_⟩
    dsimp only
    exact labelsOK_setFields _ _ _ _ _ hn.ar hnm hcm
  | child _ _ hp =>
    refine ⟨fun _ => rfl, hns, trivial, ?_⟩
    dsimp only
    exact labelsOK_setFields _ _ _ _ _ (labelsOK_addChild _ _ hp hn.ar) hnm hcm

theorem step_QI (s s' : St L) (c : Char) (hn : QI s) (h : step parseLen s c = .cont s') : QI s' := by
  cases step_cont_inv parseLen h with
  | quoted q f hc => exact ⟨hn.qf, q ▸ nameSync_push_in _ _ (q ▸ hn.nm) hc, hn.cm, hn.ar⟩
  | inComment f hc => exact ⟨hn.qf, hn.nm, commentWF_push _ _ hn.cm hc, hn.ar⟩
  | ws => exact hn
  | quoteName f => exact ⟨fun _ => f, nameSync_push_quote _ _ hn.nm, hn.cm, hn.ar⟩
  | quoteLen => exact ⟨hn.qf, hn.nm, hn.cm, hn.ar⟩
  | lenChar => exact ⟨hn.qf, hn.nm, hn.cm, hn.ar⟩
  | lbr ht => exact ⟨fun q => absurd (hn.unquoted ht ▸ q) (by decide), hn.nm, hn.cm, hn.ar⟩
  | rbr => exact ⟨fun _ => rfl, hn.nm, hn.cm, hn.ar⟩
  | colon ht => exact ⟨fun q => absurd (hn.unquoted ht ▸ q) (by decide), hn.nm, hn.cm, hn.ar⟩
  | lparRoot => exact ⟨hn.qf, hn.nm, hn.cm, labelsOK_push_dflt _ hn.ar⟩
  | lparChild _ _ hp => exact ⟨hn.qf, hn.nm, hn.cm, labelsOK_addChild _ _ hp hn.ar⟩
  | comma ht _ hc => have := commit_QI parseLen s _ ht hn hc; exact ⟨this.qf, this.nm, this.cm, this.ar⟩
  | rpar ht hc => have := commit_QI parseLen s _ ht hn hc; exact ⟨this.qf, this.nm, this.cm, this.ar⟩
  | nameChar hp f q => exact ⟨hn.qf, q ▸ nameSync_push_plain _ _ (q ▸ hn.nm) hp, hn.cm, hn.ar⟩

theorem step_done_QI (s : St L) (c : Char) (a : Array (PNode L)) (hn : QI s)
    (h : step parseLen s c = .done a) : LabelsOK a := by
  have key : AtToken s → ∀ (b : Array (PNode L)) (i : Nat) (edge : Option L), LabelsOK b →
      LabelsOK (b.modify i (fun n => { n with name := s.curName, comment := s.curComment, len := orKeep edge n.len })) := by
    intro ht b i edge hb k
    rw [nd_modify]; split
    · exact hn.pending ht
    · exact hb k
  cases step_done_inv parseLen h with
  | cursor ht => exact key ht _ _ _ hn.ar
  | single ht => exact key ht _ _ _ (labelsOK_push_dflt _ hn.ar)

/-- every label stored by the parser — on any text — lies in the domain of the round-trip theorem -/
theorem labels_ok_all (cs : List Char) (a : Array (PNode L)) (h : parse parseLen cs = .done a) :
    ∀ i, nameWF (nd a i).name ∧ commentWF (nd a i).comment :=
  parse_done_inv parseLen qi_init (step_QI parseLen) (step_done_QI parseLen) h

end NW
