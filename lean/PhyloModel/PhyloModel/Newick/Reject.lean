import PhyloModel.Newick.StepCases
/-! The parser only ever finishes at a `;` that is read as a token: text without `;` is rejected. -/
namespace NW
variable {L : Type} (parseLen : Label → Option L)

theorem run_done_semi : ∀ (cs : List Char) (s : St L) (a : Array (PNode L)), run parseLen s cs = .done a → ';' ∈ cs :=
  run_done_induction parseLen (motive := fun _ cs _ => ';' ∈ cs)
    (fun _ _ _ _ hst => by cases step_done_inv parseLen hst <;> exact List.mem_cons_self)
    (fun _ _ _ _ _ _ _ ih => List.mem_cons_of_mem _ ih)

theorem reject_unterminated (cs : List Char) (h : ';' ∉ cs) (a : Array (PNode L)) : parse parseLen cs ≠ .done a :=
  fun hp => h (run_done_semi parseLen cs {} a (parse_done_run parseLen hp))

end NW
