import PhyloModel.Newick.LexSync
/-! Accepted text has balanced STRUCTURAL parentheses — for every text (quotes and comments anywhere).
    `accepted_is_balanced_exact`: unconditional, for the exact token stream `ltoks`.
    `accepted_is_balanced_toks3`: for the plain three-mode lexical reading `toks3` (plain / quoted / comment),
    given that the number parser refuses lexemes containing a double quote (as Rust's `f64::from_str` does):
    a `"` inside a branch length ends up in the length lexeme, so such text is never accepted. -/
namespace NW
variable {L : Type} (parseLen : Label → Option L)

/-- what a continuing step on `c` in mode `m` does to the open-counter and the stack: a structural `(` pushes, a
    structural `)` pops, and everything else — never a structural `;` — leaves them alone -/
inductive DepthStep (m : LMode) (c : Char) (s s' : St L) : Prop
  | push : m.tokenMode → c = '(' → s'.opens = s.opens + 1 → s'.stack.length = s.stack.length + 1 → DepthStep m c s s'
  | pop : m.tokenMode → c = ')' → s'.opens = s.opens - 1 → s'.stack.length + 1 = s.stack.length → DepthStep m c s s'
  | stay : (m.tokenMode → c ≠ '(' ∧ c ≠ ')' ∧ c ≠ ';') → s'.opens = s.opens → s'.stack = s.stack → DepthStep m c s s'

theorem DepthStep.not_semi {m : LMode} {c : Char} {s s' : St L} (h : DepthStep m c s s') : ¬ (m.tokenMode ∧ c = ';') := by
  rintro ⟨hx, rfl⟩
  cases h with
  | push _ hc => exact absurd hc (by decide)
  | pop _ hc => exact absurd hc (by decide)
  | stay hc => exact (hc hx).2.2 rfl

theorem step_cont_count (s s' : St L) (c : Char) (m : LMode) (hs : Sync s m)
    (h : step parseLen s c = .cont s') : DepthStep m c s s' := by
  have other : ∀ {c : Char}, classify c = .other → c ≠ '(' ∧ c ≠ ')' ∧ c ≠ ';' := fun hk =>
    have ⟨_, _, _, k4, _, _, k7, k8⟩ := classify_other hk; ⟨k4, k7, k8⟩
  cases step_cont_inv parseLen h with
  | quoted q f hc => cases LMode.eq_quoted (hs.2 ▸ q); exact .stay (fun hx => by cases hx <;> contradiction) rfl rfl
  | inComment f hc => cases LMode.eq_comment (hs.1 ▸ f); exact .stay (fun hx => by cases hx <;> contradiction) rfl rfl
  | ws hw q => exact .stay (fun _ => other (isWs_other hw)) rfl rfl
  | nameChar hp f q => exact .stay (fun _ => other (classify_plain hp)) rfl rfl
  | lenChar hp f => exact .stay (fun _ => other (classify_plain hp)) rfl rfl
  | quoteName f => exact .stay (fun _ => by decide) rfl rfl
  | quoteLen f => exact .stay (fun _ => by decide) rfl rfl
  | lbr ht => exact .stay (fun _ => by decide) rfl rfl
  | rbr nq => exact .stay (fun _ => by decide) rfl rfl
  | colon ht => exact .stay (fun _ => by decide) rfl rfl
  | lparRoot ht hst _ => exact .push (hs.tokenMode ht) rfl rfl (by rw [hst]; rfl)
  | lparChild ht _ _ => exact .push (hs.tokenMode ht) rfl rfl rfl
  | comma ht _ hc => exact .stay (fun _ => by decide) hc.opens hc.stack
  | rpar ht hc hst =>
    refine .pop (hs.tokenMode ht) rfl (congrArg (· - 1) hc.opens) ?_
    rw [← hc.stack, hst]; rfl

theorem step_done_lex (s : St L) (c : Char) (a : Array (PNode L)) (m : LMode) (hs : Sync s m)
    (h : step parseLen s c = .done a) : m.tokenMode ∧ c = ';' ∧ s.opens = 0 := by
  cases step_done_inv parseLen h with
  | cursor ht ho => exact ⟨hs.tokenMode ht, rfl, ho⟩
  | single ht ho => exact ⟨hs.tokenMode ht, rfl, ho⟩

/-- counting invariant: `pre` is the structural parenthesis stream read so far -/
structure BalX (s : St L) (pre : List Char) : Prop where
  opens : s.opens + pre.count ')' = pre.count '('
  stack : s.stack.length = s.opens
  pref : ∀ p, p <+: pre → p.count ')' ≤ p.count '('

theorem step_balX (s s' : St L) (c : Char) (m : LMode) (pre : List Char) (hs : Sync s m)
    (h : step parseLen s c = .cont s') (b : BalX s pre) :
    BalX s' (if m.tokenMode ∧ (c = '(' ∨ c = ')') then pre ++ [c] else pre) := by
  have hbo := b.opens
  have hbs := b.stack
  have cnt : ∀ x d : Char, (pre ++ [d]).count x = pre.count x + if d == x then 1 else 0 := fun x d => by
    rw [List.count_append, List.count_singleton]
  -- after one more parenthesis the prefix condition is new only for the whole stream, where the count gives it
  have snoc : ∀ d, s'.opens + (pre ++ [d]).count ')' = (pre ++ [d]).count '(' → s'.stack.length = s'.opens →
      BalX s' (pre ++ [d]) := fun d e1 e2 =>
    ⟨e1, e2, fun p hp => (List.prefix_concat_iff.1 hp).elim (fun e => by rw [e, ← e1]; exact Nat.le_add_left _ _) (b.pref p)⟩
  cases step_cont_count parseLen s s' c m hs h with
  | push hx hc e1 e2 =>
    subst hc; rw [if_pos ⟨hx, .inl rfl⟩]
    refine snoc _ ?_ (by rw [e2, e1, hbs])
    rw [cnt, cnt]
    show s'.opens + (pre.count ')' + 0) = pre.count '(' + 1
    omega
  | pop hx hc e1 e2 =>
    subst hc; rw [if_pos ⟨hx, .inr rfl⟩]
    refine snoc _ ?_ (by omega)
    rw [cnt, cnt]
    show s'.opens + (pre.count ')' + 1) = pre.count '(' + 0
    omega
  | stay hc e1 e2 =>
    rw [if_neg fun hx => hx.2.elim (hc hx.1).1 (hc hx.1).2.1]
    exact ⟨by rw [e1]; exact hbo, by rw [e2, e1]; exact hbs, b.pref⟩

theorem run_done_balX : ∀ (cs : List Char) (s : St L) (a : Array (PNode L)), run parseLen s cs = .done a →
    ∀ (m : LMode) (pre : List Char), Sync s m → BalX s pre → ∃ ts, ltoks m cs = some ts ∧ Balanced (pre ++ ts) := by
  refine run_done_induction parseLen ?_ ?_
  · intro s c cs a hst m pre hs b
    obtain ⟨hx, rfl, hz⟩ := step_done_lex parseLen s c a m hs hst
    refine ⟨[], by rw [ltoks, if_pos ⟨hx, rfl⟩], ?_⟩
    have := b.opens
    rw [List.append_nil]
    exact ⟨by omega, b.pref⟩
  · intro s s' c cs a hst _ ih m pre hs b
    obtain ⟨ts, e1, e2⟩ := ih _ _ (step_cont_sync parseLen s s' c m hs hst) (step_balX parseLen s s' c m pre hs hst b)
    rw [ltoks, if_neg (step_cont_count parseLen s s' c m hs hst).not_semi, e1]
    by_cases hx : m.tokenMode ∧ (c = '(' ∨ c = ')')
    · rw [if_pos hx] at e2 ⊢
      exact ⟨c :: ts, rfl, by simpa using e2⟩
    · rw [if_neg hx] at e2 ⊢
      exact ⟨ts, rfl, e2⟩

/-- **unbalanced structural parentheses are rejected, for every text** (exact token stream): an accepted text
    has a structural `;`, and the structural parentheses before the first one are balanced -/
theorem accepted_is_balanced_exact (cs : List Char) (a : Array (PNode L)) (h : parse parseLen cs = .done a) :
    ∃ ts, ltoks .name cs = some ts ∧ Balanced ts :=
  run_done_balX parseLen cs {} a (parse_done_run parseLen h) .name [] sync_init
    ⟨rfl, rfl, fun p hp => by rw [List.prefix_nil.1 hp]; exact Nat.le_refl _⟩

/-- the number parser refuses every lexeme containing a double quote (true of Rust's `f64::from_str`) -/
def QuoteRefusing (parseLen : Label → Option L) : Prop := ∀ l, '"' ∈ l → parseLen l = none

def Doomed (s : St L) : Prop := ∃ l, s.curLen = some l ∧ '"' ∈ l

theorem doomed_parseEdge (hpl : QuoteRefusing parseLen) (s : St L) (hd : Doomed s) :
    parseEdge parseLen s.curLen = none := by
  obtain ⟨l, h1, h2⟩ := hd
  simp [h1, parseEdge, hpl l h2]

theorem doomed_commit (hpl : QuoteRefusing parseLen) (s s' : St L) (hd : Doomed s) : ¬ CommitCont parseLen s s' := by
  have hpe := doomed_parseEdge parseLen hpl s hd
  intro h; cases h <;> simp_all

theorem doomed_step_cont (hpl : QuoteRefusing parseLen) (s s' : St L) (c : Char) (hd : Doomed s)
    (h : step parseLen s c = .cont s') : Doomed s' := by
  obtain ⟨l, h1, h2⟩ := hd
  have push : ∀ d, Doomed { s with curLen := pushc s.curLen d } := fun d =>
    ⟨l ++ [d], by simp [pushc, h1], by simp [h2]⟩
  cases step_cont_inv parseLen h with
  | quoteLen => exact push _
  | lenChar => exact push _
  | comma _ _ hc => exact absurd hc (doomed_commit parseLen hpl s _ ⟨l, h1, h2⟩)
  | rpar _ hc => exact absurd hc (doomed_commit parseLen hpl s _ ⟨l, h1, h2⟩)
  | _ => exact ⟨l, h1, h2⟩

theorem doomed_step_done (hpl : QuoteRefusing parseLen) (s : St L) (c : Char) (a : Array (PNode L))
    (hd : Doomed s) : step parseLen s c ≠ .done a := by
  intro h
  have hpe := doomed_parseEdge parseLen hpl s hd
  cases step_done_inv parseLen h <;> simp_all

theorem doomed_run (hpl : QuoteRefusing parseLen) (cs : List Char) (s : St L) (a : Array (PNode L))
    (hd : Doomed s) : run parseLen s cs ≠ .done a :=
  run_done_inv parseLen (Q := fun _ => False) (doomed_step_cont parseLen hpl)
    (fun s c a hd h => doomed_step_done parseLen hpl s c a hd h) hd

theorem step_len_quote (s s' : St L) (hs : Sync s .length) (h : step parseLen s '"' = .cont s') : Doomed s' := by
  rw [(StepCont.quoteLen hs.1).step_eq] at h
  cases h
  exact ⟨s.curLen.getD [] ++ ['"'], rfl, List.mem_append_right _ List.mem_cons_self⟩

theorem run_done_lenQuoteFree (hpl : QuoteRefusing parseLen) : ∀ (cs : List Char) (s : St L) (a : Array (PNode L)),
    run parseLen s cs = .done a → ∀ m : LMode, Sync s m → lenQuoteFree m cs = true := by
  refine run_done_induction parseLen ?_ ?_
  · intro s c cs a hst m hs
    obtain ⟨hx, rfl, _⟩ := step_done_lex parseLen s c a m hs hst
    rw [lenQuoteFree, if_pos ⟨hx, rfl⟩]
  · intro s s' c cs a hst hrun ih m hs
    rw [lenQuoteFree, if_neg (step_cont_count parseLen s s' c m hs hst).not_semi]
    by_cases h2 : m = .length ∧ c = '"'
    · obtain ⟨rfl, rfl⟩ := h2
      exact absurd hrun (doomed_run parseLen hpl cs s' a (step_len_quote parseLen s s' hs hst))
    · rw [if_neg h2]
      exact ih _ (step_cont_sync parseLen s s' c m hs hst)

theorem accepted_lenQuoteFree (hpl : QuoteRefusing parseLen) (cs : List Char) (a : Array (PNode L))
    (h : parse parseLen cs = .done a) : lenQuoteFree .name cs = true :=
  run_done_lenQuoteFree parseLen hpl cs {} a (parse_done_run parseLen h) .name sync_init

/-- **unbalanced parentheses are rejected, for every text, in the plain three-mode lexical reading**
    (plain / inside double quotes / inside a bracket comment) -/
theorem accepted_is_balanced_toks3 (hpl : QuoteRefusing parseLen) (cs : List Char) (a : Array (PNode L))
    (h : parse parseLen cs = .done a) :
    ∃ ts, toks3 .plain cs = some ts ∧ Balanced ts := by
  obtain ⟨ts, e1, e2⟩ := accepted_is_balanced_exact parseLen cs a h
  have := ltoks_eq_toks3 cs .name (accepted_lenQuoteFree parseLen hpl cs a h)
  simp only [LMode.proj] at this
  exact ⟨ts, by rw [← this]; exact e1, e2⟩

end NW
