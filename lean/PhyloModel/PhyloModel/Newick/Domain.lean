import PhyloModel.Newick.Basic
/-! The labels the round trip is stated for: `nameWF` (non-empty, every character outside double quotes plain, quotes
    closed) and `commentWF` (non-empty, no `]`).  Both are decidable. -/
namespace NW

/-- quote automaton: read from quote state `q`, the text ends outside quotes and every character outside quotes is `plain` -/
def nameOKFrom : Bool → List Char → Bool
  | q, [] => !q
  | true, c :: cs => if c = '"' then nameOKFrom false cs else nameOKFrom true cs
  | false, c :: cs => if c = '"' then nameOKFrom true cs else plain c && nameOKFrom false cs

def nameWF : Option Label → Prop
  | none => True
  | some nm => nm ≠ [] ∧ nameOKFrom false nm = true
def commentWF : Option Label → Prop
  | none => True
  | some c => c ≠ [] ∧ ∀ ch ∈ c, ch ≠ ']'

/-- the domain of the round trip can be decided, so membership of a concrete label is settled by evaluation -/
instance (o : Option Label) : Decidable (nameWF o) :=
  match o with
  | none => isTrue trivial
  | some nm => inferInstanceAs (Decidable (nm ≠ [] ∧ nameOKFrom false nm = true))
instance (o : Option Label) : Decidable (commentWF o) :=
  match o with
  | none => isTrue trivial
  | some c => inferInstanceAs (Decidable (c ≠ [] ∧ ∀ ch ∈ c, ch ≠ ']'))

end NW
