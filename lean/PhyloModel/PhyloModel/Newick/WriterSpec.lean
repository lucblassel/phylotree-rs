import PhyloModel.Newick.Rep
/-! The rose-level writer `writeF f` of a format: the full format is `write`, and every format is the full format
    of the stripped tree (`strip f` erases exactly the fields `f` omits).  On an arena that lays out `t`, the arena
    writer returns `writeF f t`. -/
namespace NW
variable {L : Type} (showLen : L → Label)

theorem nodeText_all (tip : Bool) (n : Option Label) (l : Option L) (c : Option Label) :
    nodeText showLen .allFields tip n l c = label showLen n l c := by
  simp [nodeText, label, FM.keepName, FM.keepLen, FM.keepComment]

mutual
theorem writeF_all : ∀ t : RTree L, writeF showLen .allFields t = write showLen t
  | .node n l c [] => by rw [writeF, write, nodeText_all]
  | .node n l c (k :: ks) => by rw [writeF, write, nodeText_all, writeF_all k, writeRestF_all ks]
theorem writeRestF_all : ∀ ts : List (RTree L), writeRestF showLen .allFields ts = writeRest showLen ts
  | [] => by rw [writeRestF, writeRest]
  | k :: ks => by rw [writeRestF, writeRest, writeF_all k, writeRestF_all ks]
end

def keepIf {α : Type} (b : Bool) (o : Option α) : Option α := if b then o else none

theorem keepIf_keeps {α : Type} {P : Option α → Prop} (h0 : P none) {o : Option α} (h : P o) (b : Bool) :
    P (keepIf b o) := by
  cases b
  · exact h0
  · exact h

mutual
def strip (f : FM.Fmt) : RTree L → RTree L
  | .node n l c [] => .node (keepIf (FM.keepName f true) n) (keepIf (FM.keepLen f true) l) (keepIf (FM.keepComment f) c) []
  | .node n l c (k :: ks) =>
    .node (keepIf (FM.keepName f false) n) (keepIf (FM.keepLen f false) l) (keepIf (FM.keepComment f) c) (strip f k :: stripL f ks)
def stripL (f : FM.Fmt) : List (RTree L) → List (RTree L)
  | [] => []
  | k :: ks => strip f k :: stripL f ks
end

theorem nodeText_strip (f : FM.Fmt) (tip : Bool) (n : Option Label) (l : Option L) (c : Option Label) :
    nodeText showLen f tip n l c =
      nodeText showLen .allFields tip (keepIf (FM.keepName f tip) n) (keepIf (FM.keepLen f tip) l) (keepIf (FM.keepComment f) c) := by
  have hk : FM.keepName .allFields tip = true := by simp [FM.keepName]
  have hl : FM.keepLen .allFields tip = true := by simp [FM.keepLen]
  have hc : FM.keepComment .allFields = true := by simp [FM.keepComment]
  simp only [nodeText, keepIf, hk, hl, hc]
  cases FM.keepName f tip <;> cases FM.keepLen f tip <;> cases FM.keepComment f <;>
    simp [lenPart, commentPart]

mutual
theorem format_is_strip (f : FM.Fmt) : ∀ t : RTree L, writeF showLen f t = writeF showLen .allFields (strip f t)
  | .node n l c [] => by rw [strip, writeF, writeF]; exact nodeText_strip showLen f true n l c
  | .node n l c (k :: ks) => by
    rw [strip, writeF, writeF, format_is_strip f k, format_rest f ks, nodeText_strip showLen f false n l c]
theorem format_rest (f : FM.Fmt) : ∀ ts : List (RTree L), writeRestF showLen f ts = writeRestF showLen .allFields (stripL f ts)
  | [] => by rw [stripL, writeRestF, writeRestF]
  | k :: ks => by rw [stripL, writeRestF, writeRestF, format_is_strip f k, format_rest f ks]
end

theorem joinComma_cons (x : List Char) (xs : List (List Char)) (hne : xs ≠ []) :
    joinComma (x :: xs) = x ++ ',' :: joinComma xs := by
  cases xs with
  | nil => exact absurd rfl hne
  | cons y r => rw [joinComma]

theorem kids_ne (j : Nat) : ∀ (k : RTree L) (ks : List (RTree L)), kidIds j (k :: ks) ≠ [] := by
  intro k ks; simp [kidIds]

theorem toNewickF_layout (f : FM.Fmt) (a : Array (PNode L)) :
    ∀ (t : RTree L) (fuel i : Nat) (par : Option Nat), Layout a i par t → sz t ≤ fuel →
      toNewickF showLen fuel f a i = some (writeF showLen f t) :=
  fun t fuel i par h hf => toNewickF_rep showLen f a t fuel i (layout_rep a t i par h) (Nat.le_trans (ht_le_sz t) hf)

theorem toNewickL_layout (f : FM.Fmt) (a : Array (PNode L)) :
    ∀ (ks : List (RTree L)) (fuel j p : Nat), LayoutL a j p ks → szL ks ≤ fuel →
      (kidIds j ks).mapM (fun c => toNewickF showLen fuel f a c) = some (ks.map (writeF showLen f)) :=
  fun ks fuel j p h hf =>
    toNewickL_rep showLen f a ks fuel _ (layoutL_rep a ks j p h) (Nat.le_trans (htL_le_szL ks) hf)

end NW
